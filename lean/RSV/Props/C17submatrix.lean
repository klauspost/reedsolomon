import RSV.Proofs.GenSubMatrix
/-!
# C17 (matrix code) — `matrix.SubMatrix`, regenerated from the Go source, copies exactly the requested window

`RSV.Gen.matrix_SubMatrix` is the statement-by-statement translation of `matrix.go: (matrix) SubMatrix`, regenerated
from the current Go source on every run.  `C17m_Invert` / `C17m_buildMatrix` use it on the two windows those
functions take (`0,n,n,2n` and `0,0,d,d`, its only in-package call sites); this theorem pins the method's whole
contract.  For EVERY window `[r0,r1) × [c0,c1)` with `r0 < r1 ≤ n`, `c0 < c1 ≤ w` of an `n × w` matrix
(`n, w < 2^62`, below Go's `int` wrap-around) the Go code returns the `(r1-r0) × (c1-c0)` matrix whose `(i,j)` entry
is the input's `(r0+i, c0+j)` entry, with a `nil` error; it never panics there.

Below it, the contracts of `SwapRows`, `identityMatrix`, `Augment`, `IsSquare` and the error cases of `newMatrix`.
-/
namespace RSV.Props.C17submatrix
open RSV.GenGauss

/-- `SubMatrix(r0, c0, r1, c1)` = the window of the input, all sizes, all windows -/
theorem C17m_SubMatrix (n w : Nat) (E : Nat → Nat → Nat) (r0 c0 r1 c1 : Nat)
    (hr : r0 < r1) (hc : c0 < c1) (hrn : r1 ≤ n) (hcw : c1 ≤ w) (hbn : n < 2 ^ 62) (hbw : w < 2 ^ 62) :
    Gen.matrix_SubMatrix (arr n w E) (r0 : Int) (c0 : Int) (r1 : Int) (c1 : Int) =
      some (arr (r1 - r0) (c1 - c0) (fun i j => E (r0 + i) (c0 + j)), none) :=
  GenSubMatrix.submatrix_arr n w E r0 c0 r1 c1 hr hc hrn hcw (by omega) (by omega)

/-! non-vacuity: a 2×2 window out of a 3×4 matrix, by the theorem and by evaluation -/
example : Gen.matrix_SubMatrix (arr 3 4 (fun i j => 10 * i + j)) 1 2 3 4 =
    some (arr 2 2 (fun i j => 10 * (1 + i) + (2 + j)), none) :=
  C17m_SubMatrix 3 4 _ 1 2 3 4 (by decide) (by decide) (by decide) (by decide) (by decide) (by decide)
example : Gen.matrix_SubMatrix #[#[0, 1, 2, 3], #[10, 11, 12, 13], #[20, 21, 22, 23]] 1 2 3 4 =
    some (#[#[12, 13], #[22, 23]], none) := by decide +kernel

/-- `SwapRows(a, b)` with both rows in range exchanges exactly rows `a` and `b` (every other row, and every entry
within a row, stays), with a `nil` error -/
theorem C17m_SwapRows (n w : Nat) (E : Nat → Nat → Nat) (a b : Nat) (ha : a < n) (hb : b < n) :
    Gen.matrix_SwapRows (arr n w E) (a : Int) (b : Int) = some (arr n w (fun i j => E (swp a b i) j), none) :=
  GenMatrix.swapRows_arr n w E a b ha hb

/-- `SwapRows` with a row index out of range (negative or `≥ len(m)`) returns `errInvalidRowSize`, leaves the matrix
as it is and does not panic — for every matrix value and every pair of `int`s -/
theorem C17m_SwapRows_invalid (m : Array (Array Nat)) (r1 r2 : Int)
    (h : r1 < 0 ∨ (m.size : Int) ≤ r1 ∨ r2 < 0 ∨ (m.size : Int) ≤ r2) :
    Gen.matrix_SwapRows m r1 r2 = some (m, some "errInvalidRowSize") := by
  unfold Gen.matrix_SwapRows
  have hc : (((r1 < 0) ∨ ((Int.ofNat m.size) ≤ r1)) ∨ (r2 < 0)) ∨ ((Int.ofNat m.size) ≤ r2) := by
    simp only [Int.ofNat_eq_natCast]; omega
  simp only [hc, if_true]
  rfl

example : Gen.matrix_SwapRows #[#[1, 2], #[3, 4], #[5, 6]] 0 2 = some (#[#[5, 6], #[3, 4], #[1, 2]], none) := by
  decide +kernel
example : Gen.matrix_SwapRows #[#[1, 2], #[3, 4]] 0 2 = some (#[#[1, 2], #[3, 4]], some "errInvalidRowSize") :=
  C17m_SwapRows_invalid _ 0 2 (by decide)

/-- `identityMatrix(n)` is the `n × n` identity, every `n > 0` -/
theorem C17m_identityMatrix (n : Nat) (hn : 0 < n) :
    Gen.identityMatrix (n : Int) = some (arr n n (fun i j => if i = j then 1 else 0), none) :=
  GenMatrix.identity_arr n hn

/-- `Augment` of an `n × w1` and an `n × w2` matrix is `[A | B]`: columns `< w1` from the receiver, the rest from
`right`, every shape below the `int` wrap-around -/
theorem C17m_Augment (n w1 w2 : Nat) (A B : Nat → Nat → Nat) (hn : 0 < n) (h1 : 0 < w1) (h2 : 0 < w2)
    (hb : w1 + w2 < 2 ^ 63) :
    Gen.matrix_Augment (arr n w1 A) (arr n w2 B) =
      some (arr n (w1 + w2) (fun i j => if j < w1 then A i j else B i (j - w1)), none) :=
  GenMatrix.augment_arr n w1 w2 A B hn h1 h2 (by omega)

/-- `Augment` of matrices with different row counts reports `errMatrixSize` and does not panic -/
theorem C17m_Augment_size (m right : Array (Array Nat)) (h : m.size ≠ right.size) :
    Gen.matrix_Augment m right = some (#[], some "errMatrixSize") := by
  unfold Gen.matrix_Augment
  have hc : (Int.ofNat m.size) ≠ (Int.ofNat right.size) := by
    simp only [Int.ofNat_eq_natCast]; omega
  rw [if_pos hc]
  rfl

example : Gen.matrix_Augment #[#[1, 2], #[3, 4]] #[#[5], #[6]] = some (#[#[1, 2, 5], #[3, 4, 6]], none) := by
  decide +kernel
example : Gen.identityMatrix 2 = some (#[#[1, 0], #[0, 1]], none) := by decide +kernel

/-- `newMatrix` with a non-positive row count reports `errInvalidRowSize`, for every pair of `int`s -/
theorem C17m_newMatrix_rows (rows cols : Int) (h : rows ≤ 0) :
    Gen.newMatrix rows cols = some (#[], some "errInvalidRowSize") := by
  unfold Gen.newMatrix
  rw [if_pos h]
  rfl

/-- `newMatrix` with a positive row count and a non-positive column count reports `errInvalidColSize` -/
theorem C17m_newMatrix_cols (rows cols : Int) (hr : 0 < rows) (h : cols ≤ 0) :
    Gen.newMatrix rows cols = some (#[], some "errInvalidColSize") := by
  unfold Gen.newMatrix
  rw [if_neg (by omega), if_pos h]
  rfl

/-- `IsSquare` of an `n × w` matrix (`n > 0`) answers `n = w` -/
theorem C17m_IsSquare (n w : Nat) (E : Nat → Nat → Nat) (hn : 0 < n) :
    Gen.matrix_IsSquare (arr n w E) = some (decide (n = w)) := by
  unfold Gen.matrix_IsSquare
  rw [show (0 : Int) = ((0 : Nat) : Int) from rfl, GenMatrix.gidx_arr hn]
  simp only [Option.bind_eq_bind, Option.bind_some, Option.pure_def, GenMatrix.size_arr, GenMatrix.size_mkRow,
    Int.ofNat_eq_natCast, Int.natCast_inj]

example : Gen.newMatrix 0 3 = some (#[], some "errInvalidRowSize") := C17m_newMatrix_rows 0 3 (by decide)
example : Gen.newMatrix 2 (-1) = some (#[], some "errInvalidColSize") := C17m_newMatrix_cols 2 (-1) (by decide) (by decide)

end RSV.Props.C17submatrix

#print axioms RSV.Props.C17submatrix.C17m_SubMatrix
#print axioms RSV.Props.C17submatrix.C17m_SwapRows
#print axioms RSV.Props.C17submatrix.C17m_SwapRows_invalid
#print axioms RSV.Props.C17submatrix.C17m_identityMatrix
#print axioms RSV.Props.C17submatrix.C17m_Augment
#print axioms RSV.Props.C17submatrix.C17m_Augment_size
#print axioms RSV.Props.C17submatrix.C17m_newMatrix_rows
#print axioms RSV.Props.C17submatrix.C17m_newMatrix_cols
#print axioms RSV.Props.C17submatrix.C17m_IsSquare
