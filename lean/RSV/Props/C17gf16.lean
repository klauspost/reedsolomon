import RSV.Proofs.Leo16.Iso
import RSV.Proofs.LeoPres.Linear
import RSV.Gen.Facts
/-!
# C17 (Leopard GF(2^16) part) — Leopard's 16-bit run-time tables equal the field they tabulate

`T = Leo.initLUTs Leo.P16` are the model's 65,536-entry `log` / `exp` tables of `leopard.go`,
`C = Leo.mkCtx Leo.P16` the context of the driver.  Nothing here evaluates a table: the theorems are
proved from loop invariants of `initLUTs` (`RSV/Proofs/LeoPres/Loops.lean`, `RSV/Proofs/LeoPres.lean`), the fact that
`x` has multiplicative order 65535 modulo 0x1002D (`RSV/Proofs/Leo16/Arith.lean` through `BF.Primitive.of_factors`
of `RSV/Proofs/BinFieldOrder.lean`: five square-and-multiply evaluations and `65535 = 3·5·17·257`), and the invertibility of the Cantor basis (`RSV/Proofs/Leo16/Cantor.lean`: 2 × 16 kernel
evaluations).

First-principles vocabulary (`RSV/Spec/BinField.lean`): `pmul 16 0x1002D` is the carry-less product
modulo `x^16 + x^5 + x^3 + x^2 + 1`, `ppow 16 0x1002D 2 k` is `x^k`; `Leo.cantorMap Leo.P16 a` is the xor
of the Cantor basis constants `P16.cantor[b]` over the set bits `b` of `a`.

`exp[log[a]] = a` holds for `a ≠ 0` only: `log[0] = 65535` and `exp[65535] = exp[0] = 1`.
-/
namespace RSV.Props.C17gf16
open RSV.BF RSV.Model RSV.Proofs.Leo16 RSV.Proofs.LeoSched

abbrev cm (a : Nat) : Nat := Leo.cantorMap Leo.P16 a
/-- `x^k` in GF(2)[x]/(0x1002D) -/
abbrev xp (k : Nat) : Nat := ppow 16 0x1002D 2 k
abbrev T : Leo.LUTs := Leo.initLUTs Leo.P16
abbrev C : Leo.Ctx := Leo.mkCtx Leo.P16

/-- the model's parameters are the Go constants (regenerated literals of `RSV/Gen`) -/
theorem C17gf16_params :
    Leo.P16.bits = 16 ∧ Leo.P16.order = 65536 ∧ Leo.P16.modulus = 65535 ∧ Leo.P16.poly = 0x1002D ∧
    Gen.cantorBasis16 = Leo.P16.cantor.toList ∧ Gen.polynomial16 = Leo.P16.poly ∧
    Leo.P16.bits = Gen.bitwidth16 ∧ Leo.P16.order = Gen.order16 ∧ Leo.P16.modulus = Gen.modulus16 := by
  decide

/-- the tables have `order` entries -/
theorem C17gf16_sizes : T.log.size = 65536 ∧ T.exp.size = 65536 := ⟨pres16.log_size, pres16.exp_size⟩

/-- the 16 Cantor literals are a basis: the Cantor map is an xor-linear bijection of `[0,65536)` -/
theorem C17gf16_cantor_basis :
    (∀ i j, i < 65536 → j < 65536 → cm i = cm j → i = j) ∧
    (∀ i, cm i < 65536) ∧
    (∀ i j, cm (i ^^^ j) = cm i ^^^ cm j) ∧
    cm 0 = 0 ∧ cm 1 = 1 ∧
    (∀ i, i < 16 → cm (2 ^ i) = Leo.P16.cantor[i]!) ∧
    (∀ y, y < 65536 → ∃ i, i < 65536 ∧ cm i = y) :=
  ⟨fun _ _ hi hj h => cantor16.cm_inj hi hj h, cantor16.cm_lt, Proofs.LeoField.cantorMap_xor Leo.P16,
   Proofs.LeoField.cantorMap_zero Leo.P16, cantor16.one, cantor16.two_pow,
   fun y hy => ⟨cmi16 y, cantor16.cmi_lt y, cantor16.cm_cmi hy⟩⟩

/-- `x` is a primitive element modulo 0x1002D: `x^65535 = 1`, the powers `x^0 … x^65534` are
pairwise distinct and exhaust the non-zero 16-bit values -/
theorem C17gf16_x_primitive :
    xp 65535 = 1 ∧
    (∀ i j, i < 65535 → j < 65535 → xp i = xp j → i = j) ∧
    (∀ k, xp k < 65536 ∧ xp k ≠ 0) ∧
    (∀ v, v ≠ 0 → v < 65536 → ∃ k, k < 65535 ∧ xp k = v) ∧
    (∀ i j, xp (i + j) = pmul 16 0x1002D (xp i) (xp j)) := by
  simp only [xp, ← basis16.xpow_eq_ppow]
  exact ⟨prim16.per, prim16.inj, fun k => ⟨basis16.xpow_lt k, prim16.xpow_ne_zero k⟩,
    fun v h0 hv => prim16.xpow_surj h0 hv, basis16.xpow_add⟩

/-- `log` is the discrete logarithm to base `x` (= 2) of the Cantor image -/
theorem C17gf16_log :
    (∀ a, 0 < a → a < 65536 → xp (T.log[a]!) = cm a) ∧
    (∀ a, a ≠ 0 → a < 65536 → T.log[a]! < 65535) ∧
    T.log[0]! = 65535 :=
  ⟨fun a h0 ha => by rw [xp, ← basis16.xpow_eq_ppow]; exact log16_spec (Nat.ne_of_gt h0) ha,
   fun _ h0 ha => log16_lt h0 ha, log16_zero⟩

/-- `exp` is the inverse table (`exp[log[a]] = a` for `a ≠ 0`; false at `a = 0`: `C17gf16_exp_log_zero`) -/
theorem C17gf16_exp :
    (∀ a, a ≠ 0 → a < 65536 → T.exp[T.log[a]!]! = a) ∧
    T.exp[65535]! = T.exp[0]! ∧
    (∀ k, k < 65535 → T.log[T.exp[k]!]! = k) ∧
    (∀ k, k ≤ 65535 → cm (T.exp[k]!) = xp k) ∧
    (∀ k, k ≤ 65535 → T.exp[k]! < 65536 ∧ T.exp[k]! ≠ 0) :=
  ⟨fun _ h0 ha => pres16.exp_log h0 ha, pres16.exp_modulus, fun _ hk => pres16.log_exp hk,
   fun k hk => by rw [xp, ← basis16.xpow_eq_ppow]; exact pres16.cm_exp hk,
   fun _ hk => ⟨pres16.exp_lt hk, pres16.exp_ne_zero hk⟩⟩

/-- the one exception: `exp[log[0]] = exp[65535] = exp[0] = 1 ≠ 0` -/
theorem C17gf16_exp_log_zero : T.exp[T.log[0]!]! = 1 := pres16.exp_log_zero

/-- `addMod` adds exponents: `x^(addMod a b) = x^a · x^b` for `a, b ≤ 65535` (`x^65535 = 1`) -/
theorem C17gf16_addMod (a b : Nat) (ha : a ≤ 65535) (hb : b ≤ 65535) :
    Leo.addMod Leo.P16 a b = (if a + b < 65536 then a + b else a + b - 65535) ∧
    Leo.addMod Leo.P16 a b ≤ 65535 ∧
    xp (Leo.addMod Leo.P16 a b) = pmul 16 0x1002D (xp a) (xp b) := by
  refine ⟨pres16.addMod_eq ha hb, pres16.addMod_le a b, ?_⟩
  simp only [xp, ← basis16.xpow_eq_ppow]
  exact (pres16.xpow_addMod ha hb).trans (basis16.xpow_add a b)

/-- Leopard's product is GF(2^16)/0x1002D multiplication under the Cantor map -/
theorem C17gf16_mul (a b : Nat) (ha : a < 65536) (hb : b < 65536) :
    cm (Leo.leoMul C a b) = pmul 16 0x1002D (cm a) (cm b) := pres16.cm_leoMul ha hb

/-- `mulLog a log_m` (the kernels' `· exp(log_m)`) is multiplication by `x^log_m`; this includes
`a = 0` and `log_m = 65535`, where `x^65535 = 1` -/
theorem C17gf16_mulLog (a m : Nat) (ha : a < 65536) (hm : m < 65536) :
    cm (Leo.mulLog Leo.P16 T a m) = pmul 16 0x1002D (cm a) (xp m) ∧
    cm (Leo.mulSym C a m) = pmul 16 0x1002D (cm a) (xp m) := by
  rw [xp, ← basis16.xpow_eq_ppow]; exact ⟨pres16.cm_mulLog ha hm, pres16.cm_mulLog ha hm⟩

theorem C17gf16_mulLog_65535 (a : Nat) (ha : a < 65536) : Leo.mulSym C a 65535 = a :=
  pres16.mulLog_modulus ha

/-- `mulSym · m` is xor-linear and stays below 65536 -/
theorem C17gf16_mulLog_linear (a b m : Nat) (ha : a < 65536) (hb : b < 65536) (hm : m < 65536) :
    Leo.mulSym C (a ^^^ b) m = Leo.mulSym C a m ^^^ Leo.mulSym C b m ∧ Leo.mulSym C a m < 65536 :=
  ⟨mulLog16_xor ha hb hm, mulLog16_lt _ _⟩

/-- the bounded algebraic hypothesis of the schedule theorems (`RSV/Proofs/LeoSchedBounded.lean`)
holds for the model's real GF(2^16) tables -/
theorem C04_mulLinearOn_gf16 : MulLinearOn (Leo.mkCtx Leo.P16) 65536 := pres16.mulLinearOn

/-- field identities of Leopard's product for all 16-bit operands -/
theorem C17gf16_field (a b c : Nat) (ha : a < 65536) (hb : b < 65536) (hc : c < 65536) :
    Leo.leoMul C a b < 65536 ∧
    Leo.leoMul C a b = Leo.leoMul C b a ∧
    Leo.leoMul C (Leo.leoMul C a b) c = Leo.leoMul C a (Leo.leoMul C b c) ∧
    Leo.leoMul C a (b ^^^ c) = Leo.leoMul C a b ^^^ Leo.leoMul C a c ∧
    Leo.leoMul C (a ^^^ b) c = Leo.leoMul C a c ^^^ Leo.leoMul C b c ∧
    Leo.leoMul C a 1 = a ∧ Leo.leoMul C 1 a = a ∧
    (Leo.leoMul C a b = 0 ↔ a = 0 ∨ b = 0) ∧
    (a ≠ 0 → Leo.leoMul C a (T.exp[65535 - T.log[a]!]!) = 1) :=
  ⟨pres16.leoMul_lt a b, pres16.leoMul_comm ha hb, pres16.leoMul_assoc ha hb hc,
   pres16.leoMul_xor_right ha hb hc, pres16.leoMul_xor_left ha hb hc, pres16.leoMul_one ha,
   pres16.one_leoMul ha, pres16.leoMul_eq_zero, fun h0 => pres16.leoMul_inv ha h0⟩

/-- `GF65536` (naturals below 65536, `+ = xor`, `* = pmul 16 0x1002D`) is a field: the operations of
the Mathlib `Field` instance are the first-principles ones -/
theorem C17gf16_GF65536_ops (a b : GF65536) :
    (a + b).val = a.val ^^^ b.val ∧ (a - b).val = a.val ^^^ b.val ∧ -a = a ∧
    (a * b).val = pmul 16 0x1002D a.val b.val ∧ (0 : GF65536).val = 0 ∧ (1 : GF65536).val = 1 ∧
    a⁻¹ = a ^ 65534 ∧ (a ≠ 0 → a * a⁻¹ = 1) ∧ a + a = 0 :=
  ⟨rfl, rfl, rfl, rfl, rfl, rfl, GF65536.inv_eq_pow a, fun h => mul_inv_cancel₀ h,
   GF65536.add_self a⟩

/-- the Cantor map into `GF65536` is a ring isomorphism from Leopard's symbols (with xor and the
log/exp product) onto the field -/
theorem C17gf16_toGF (a b : Nat) (ha : a < 65536) (hb : b < 65536) :
    toGF16 (a ^^^ b) = toGF16 a + toGF16 b ∧ toGF16 (Leo.leoMul C a b) = toGF16 a * toGF16 b ∧
    toGF16 0 = 0 ∧ toGF16 1 = 1 ∧ (toGF16 a = toGF16 b → a = b) ∧ (toGF16 a).val = cm a ∧
    (∀ y : GF65536, ∃ i, i < 65536 ∧ toGF16 i = y) :=
  ⟨toGF16_xor a b, toGF16_leoMul ha hb, toGF16_zero, toGF16_one, fun h => toGF16_inj ha hb h, rfl,
   toGF16_surj⟩

/-- the kernels' multiplication by `exp(log_m)` is multiplication by `x^log_m` in `GF65536` -/
theorem C17gf16_toGF_mulSym (a m : Nat) (ha : a < 65536) (hm : m < 65536) :
    toGF16 (Leo.mulSym C a m) = toGF16 a * GF65536.X ^ m ∧ GF65536.X.val = 2 :=
  ⟨toGF16_mulSym ha hm, rfl⟩

end RSV.Props.C17gf16

#print axioms RSV.Props.C17gf16.C17gf16_params
#print axioms RSV.Props.C17gf16.C17gf16_sizes
#print axioms RSV.Props.C17gf16.C17gf16_cantor_basis
#print axioms RSV.Props.C17gf16.C17gf16_x_primitive
#print axioms RSV.Props.C17gf16.C17gf16_log
#print axioms RSV.Props.C17gf16.C17gf16_exp
#print axioms RSV.Props.C17gf16.C17gf16_exp_log_zero
#print axioms RSV.Props.C17gf16.C17gf16_addMod
#print axioms RSV.Props.C17gf16.C17gf16_mul
#print axioms RSV.Props.C17gf16.C17gf16_mulLog
#print axioms RSV.Props.C17gf16.C17gf16_mulLog_65535
#print axioms RSV.Props.C17gf16.C17gf16_mulLog_linear
#print axioms RSV.Props.C17gf16.C04_mulLinearOn_gf16
#print axioms RSV.Props.C17gf16.C17gf16_field
#print axioms RSV.Props.C17gf16.C17gf16_GF65536_ops
#print axioms RSV.Props.C17gf16.C17gf16_toGF
#print axioms RSV.Props.C17gf16.C17gf16_toGF_mulSym
