import RSV.Proofs.Generators
import RSV.Proofs.GF256Field
/-!
# Property C01 — every generator matrix the library builds is MDS

All statements are about the concrete carrier `GF256` of the executable model; the point
`GF256.ofNat r` is the field element `byte(r)` of the Go code.
-/

-- some hypotheses (`0 < d`, `0 < p`) are part of the published statements but not needed
set_option linter.unusedVariables false

namespace RSV.Props.C01
open RSV.Model RSV.CodeTheory RSV.Generators

/-- `byte(0) … byte(n-1)` are pairwise distinct for `n ≤ 256` -/
theorem ofNat_injOn_le {n : ℕ} (h : n ≤ 256) :
    ∀ a b, a < n → b < n → GF256.ofNat a = GF256.ofNat b → a = b :=
  fun a b ha hb => GF256.ofNat_injOn a b (by omega) (by omega)

def parityFn {d p : ℕ} (G : Mat GF256 (d + p) d) : Fin p → Fin d → GF256 :=
  fun r c => (parityPart p rfl G).get r c

/-- the Cauchy generator (`WithCauchyMatrix`) is MDS -/
theorem C01_cauchy (d p : ℕ) (hd : 0 < d) (hp : 0 < p) (h : d + p ≤ 256) :
    MDS (parityFn (buildMatrixCauchy GF256.ofNat d (d + p))) :=
  buildMatrixCauchy_parity_mds GF256.ofNat d p (ofNat_injOn_le h)

/-- the single XOR parity row (`WithFastOneParityMatrix`) is MDS -/
theorem C01_xor (d : ℕ) (hd : 0 < d) (h : d + 1 ≤ 256) :
    MDS (parityFn (buildXorMatrix (F := GF256) d (d + 1))) :=
  buildXorMatrix_parity_mds GF256.ofNat d (ofNat_injOn_le (by omega))

/-- the default (Backblaze-compatible) generator: Vandermonde · (top square)⁻¹ never fails, its
parity rows are the Lagrange basis over nodes `0..d-1` evaluated at `d..d+p-1`, and it is MDS -/
theorem C01_default (d p : ℕ) (hd : 0 < d) (hp : 0 < p) (h : d + p ≤ 256) :
    ∃ G, buildMatrix GF256.ofNat d (d + p) (Nat.le_add_right d p) = some G ∧
      (∀ r c, parityFn G r c
        = lagrAt (fun c : Fin d => GF256.ofNat c.val) (GF256.ofNat (d + r.val)) c) ∧
      MDS (parityFn G) := by
  obtain ⟨G, hG, hE⟩ := buildMatrix_spec GF256.ofNat d (d + p) (Nat.le_add_right d p)
    (ofNat_injOn_le (by omega))
  refine ⟨G, hG, ?_, buildMatrix_parity_mds GF256.ofNat d p (ofNat_injOn_le h) G hG⟩
  intro r c
  unfold parityFn
  rw [parityPart_get, hE]

/-- proof-carrying check used by the driver on the matrix extracted from the running Go code -/
theorem C01_cert {d p : ℕ} (hd : 0 < d) (hp : 0 < p) (h : d + p ≤ 256) (inf : Option (Fin p))
    (A : Mat GF256 p d) (hc : certNat hd hp GF256.ofNat inf A = true) :
    MDS (fun r c => A.get r c) :=
  certNat_sound hd hp GF256.ofNat inf A (ofNat_injOn_le h) hc

/-- same, for arbitrary scalars `u v` (the driver memoises them) -/
theorem C01_certGC {d p : ℕ} (h : d + p ≤ 256) (inf : Option (Fin p)) (A : Mat GF256 p d)
    (u : Fin p → GF256) (v : Fin d → GF256)
    (hc : certGC A (fun r => if inf = some r then none else some (GF256.ofNat (d + r.val)))
      (fun c => GF256.ofNat c.val) u v = true) :
    MDS (fun r c => A.get r c) := by
  obtain ⟨hy, hx, hxy⟩ := natPoints_distinct (d := d) (p := p) GF256.ofNat inf (ofNat_injOn_le h)
  exact certGC_sound' A _ _ u v hc hy hx hxy

/-- with no parity the only size-`d` subset is all the data -/
theorem C01_p0 (d : ℕ) (A : Fin 0 → Fin d → GF256) : MDS A := mds_p0 A

/-- MDS means: the loss of any `≤ p` shards leaves the data determined -/
theorem C01_any_p_losses {d p : ℕ} {A : Fin p → Fin d → GF256} (hA : MDS A)
    (lost : Finset (Fin d ⊕ Fin p)) (hl : lost.card ≤ p) (t t' : Fin d → GF256)
    (heq : ∀ i, i ∉ lost → cw A t i = cw A t' i) : t = t' :=
  mds_any_p_losses hA lost hl t t' heq

/-- the default builder succeeds (10 data + 4 parity, the README example) -/
example : ∃ G, buildMatrix GF256.ofNat 10 14 (by decide) = some G :=
  let ⟨G, hG, _⟩ := C01_default 10 4 (by decide) (by decide) (by decide)
  ⟨G, hG⟩

/-- the hypotheses of the builders' theorems are satisfiable up to the full 256 shards -/
example : MDS (parityFn (buildMatrixCauchy GF256.ofNat 200 (200 + 56))) :=
  C01_cauchy 200 56 (by decide) (by decide) (by decide)

/-- the certificate accepts the 2 × 2 Cauchy parity matrix (evaluated in the kernel) -/
example : certNat (d := 2) (p := 2) (by decide) (by decide) GF256.ofNat none
    (parityPart 2 rfl (buildMatrixCauchy GF256.ofNat 2 (2 + 2))) = true := by decide +kernel

/-- … and the all-ones row with that row at infinity -/
example : certNat (d := 3) (p := 1) (by decide) (by decide) GF256.ofNat (some 0)
    (parityPart 1 rfl (buildXorMatrix (F := GF256) 3 (3 + 1))) = true := by decide +kernel

/-- … and rejects a matrix with a singular 2 × 2 minor -/
example : certNat (d := 2) (p := 2) (by decide) (by decide) GF256.ofNat none
    (Mat.ofFn fun _ _ => (1 : GF256)) = false := by decide +kernel

end RSV.Props.C01

#print axioms RSV.Props.C01.ofNat_injOn_le
#print axioms RSV.Props.C01.C01_cauchy
#print axioms RSV.Props.C01.C01_xor
#print axioms RSV.Props.C01.C01_default
#print axioms RSV.Props.C01.C01_cert
#print axioms RSV.Props.C01.C01_certGC
#print axioms RSV.Props.C01.C01_p0
#print axioms RSV.Props.C01.C01_any_p_losses
