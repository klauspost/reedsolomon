import RSV.Proofs.GenSplit
/-!
# C13 (code of the size computation) — `perShard` / `needTotal` of the three `Split` methods, regenerated from the Go source, are the model's

`RSV.Gen.ApiGo` is regenerated on every run from the Go sources.  `reedSolomon_Split_sizes`,
`leopardFF8_Split_sizes`, `leopardFF16_Split_sizes` are the PREFIX of `(*reedSolomon).Split` (reedsolomon.go),
`(*leopardFF8).Split` (leopard8.go), `(*leopardFF16).Split` (leopard.go) up to the definition of `perShard` and
`needTotal`, translated statement by statement over the length of `data` and the two receiver fields the code reads
(`dataShards`, `totalShards`; the translator rejects every other use of `data` or of the receiver, and a later
assignment to `perShard` / `needTotal`): outer `none` = panic, `some none` = the method returned before (empty input:
`ErrShortData`; the single-shard case), `some (some (perShard, needTotal))` otherwise, with Go's 64-bit wrap-around
(`shI64`) on every operation.

For EVERY `dataShards > 0`, `totalShards`, input length with `len + dataShards < 2^63` and `needTotal < 2^63` (no
wrap-around; `New` guarantees `dataShards > 0`) the values are `RSV.Model.SJ.perShard q d len` — the function the
`C13_*` theorems are about (`q = 1`, resp. `64`) — and `totalShards * perShard`, and the early returns are taken
exactly under the conditions of the model `RSV.Model.SJ.split`.
-/
namespace RSV.Props.C13funcs
open RSV RSV.Model.SJ

/-- `(*reedSolomon).Split`: `perShard = ⌈len/d⌉`, `needTotal = totalShards * perShard` -/
theorem C13f_reedSolomon_sizes (d total len : Nat) (hd : 0 < d) (h63 : len + d < 2 ^ 63)
    (hn : total * perShard 1 d len < 2 ^ 63) :
    Gen.reedSolomon_Split_sizes (d : Int) (total : Int) len =
      some (if len = 0 ∨ total = 1 then none
            else some (((perShard 1 d len : Nat) : Int), ((total * perShard 1 d len : Nat) : Int))) :=
  GenSplit.reedSolomon_Split_sizes_eq d total len hd h63 hn

/-- `(*leopardFF8).Split`: `perShard = ⌈len/d⌉` rounded up to a multiple of 64 -/
theorem C13f_leopardFF8_sizes (d total len : Nat) (hd : 0 < d) (h63 : len + d < 2 ^ 63) (ht : 0 < total)
    (hn : total * perShard 64 d len < 2 ^ 63) :
    Gen.leopardFF8_Split_sizes (d : Int) (total : Int) len =
      some (if len = 0 ∨ (total = 1 ∧ len % 64 = 0) then none
            else some (((perShard 64 d len : Nat) : Int), ((total * perShard 64 d len : Nat) : Int))) :=
  GenSplit.leopardFF8_Split_sizes_eq d total len hd h63 ht hn

/-- `(*leopardFF16).Split` -/
theorem C13f_leopardFF16_sizes (d total len : Nat) (hd : 0 < d) (h63 : len + d < 2 ^ 63) (ht : 0 < total)
    (hn : total * perShard 64 d len < 2 ^ 63) :
    Gen.leopardFF16_Split_sizes (d : Int) (total : Int) len =
      some (if len = 0 ∨ (total = 1 ∧ len % 64 = 0) then none
            else some (((perShard 64 d len : Nat) : Int), ((total * perShard 64 d len : Nat) : Int))) :=
  GenSplit.leopardFF16_Split_sizes_eq d total len hd h63 ht hn

/-! non-vacuity: the regenerated code runs -/
example : Gen.reedSolomon_Split_sizes 10 13 1001 = some (some (101, 1313)) := by decide +kernel
example : Gen.reedSolomon_Split_sizes 10 13 0 = some none := by decide +kernel
example : Gen.reedSolomon_Split_sizes 1 1 77 = some none := by decide +kernel
example : Gen.reedSolomon_Split_sizes 0 3 77 = none := by decide +kernel   -- division by zero panics
example : Gen.leopardFF8_Split_sizes 10 13 1001 = some (some (128, 1664)) := by decide +kernel
example : Gen.leopardFF8_Split_sizes 1 1 128 = some none := by decide +kernel
example : Gen.leopardFF8_Split_sizes 1 1 100 = some (some (128, 128)) := by decide +kernel
example : Gen.leopardFF16_Split_sizes 300 400 100000 = some (some (384, 153600)) := by decide +kernel
example : Gen.reedSolomon_Split_sizes 10 13 1001 = some (some (101, 1313)) :=
  C13f_reedSolomon_sizes 10 13 1001 (by decide) (by decide) (by decide)

end RSV.Props.C13funcs

#print axioms RSV.Props.C13funcs.C13f_reedSolomon_sizes
#print axioms RSV.Props.C13funcs.C13f_leopardFF8_sizes
#print axioms RSV.Props.C13funcs.C13f_leopardFF16_sizes
