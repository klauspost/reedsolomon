import RSV.Props.C10

/-!
# C11 — concurrent callers sharing the inversion cache (lock-atomic interleavings)

Model: `RSV.Model.Memo.conStep` / `runSchedule`.  Every caller does a lookup under the read lock,
on a miss computes the pure function `f` of its key outside any lock, then inserts under the
write lock; a schedule is an arbitrary list of thread ids, every step of a thread being atomic.
(Data races inside a critical section are outside this model — they are the business of
`go test -race` in the harness.)

The inversion tree restricted to the keys the package uses (strictly increasing, non-empty) is a
lawful cache; with the cache possibly disabled and the empty key allowed it satisfies only the
weaker law `Conservative`, which is all `C11_linearizable'` needs.  `C11_matrix` is the instance
`f key = invert (sub-matrix selected by key)`.
-/

namespace RSV.Props.C11
open RSV.Model RSV.Model.Memo

section Abstract
variable {C K V : Type}

structure Iface.Lawful (I : Iface C K V) : Prop where
  get_insert_same : ∀ c k v, I.get (I.insert c k v) k = some v
  get_insert_other : ∀ c k k' v, k' ≠ k → I.get (I.insert c k v) k' = I.get c k'

/-- the weaker law that suffices: whatever a lookup finds after an insertion is the inserted
value under the inserted key, or was there before.  (A disabled cache satisfies it; so does a
cache that refuses some insertions.) -/
def Iface.Conservative (I : Iface C K V) : Prop :=
  ∀ c k v k' v', I.get (I.insert c k v) k' = some v' → (k' = k ∧ v' = v) ∨ I.get c k' = some v'

theorem Iface.Lawful.conservative {I : Iface C K V} (h : Iface.Lawful I) : Iface.Conservative I := by
  intro c k v k' v' hget
  by_cases hk : k' = k
  · subst hk
    rw [h.get_insert_same] at hget
    exact Or.inl ⟨rfl, (Option.some_injective _ hget).symm⟩
  · rw [h.get_insert_other c k k' v hk] at hget
    exact Or.inr hget

def SoundC (I : Iface C K V) (f : K → Option V) (c : C) : Prop :=
  ∀ k v, I.get c k = some v → f k = some v

def PhaseOK (f : K → Option V) (keys : ℕ → K) (ph : ℕ → Phase V) : Prop :=
  ∀ tid, match ph tid with
    | .start => True
    | .computed v => v = f (keys tid)
    | .done r => r = f (keys tid)

theorem phaseOK_setPhase {f : K → Option V} {keys : ℕ → K} {ph : ℕ → Phase V}
    (h : PhaseOK f keys ph) (tid : ℕ) (x : Phase V)
    (hx : match x with
      | .start => True
      | .computed v => v = f (keys tid)
      | .done r => r = f (keys tid)) :
    PhaseOK f keys (setPhase ph tid x) := by
  intro t
  unfold setPhase
  by_cases ht : t = tid
  · subst ht; rw [if_pos rfl]; exact hx
  · rw [if_neg ht]; exact h t

theorem conStep_inv (I : Iface C K V) (hI : Iface.Conservative I) (f : K → Option V) (keys : ℕ → K)
    (s : C × (ℕ → Phase V)) (hc : SoundC I f s.1) (hp : PhaseOK f keys s.2) (tid : ℕ) :
    SoundC I f (conStep I f keys s tid).1 ∧ PhaseOK f keys (conStep I f keys s tid).2 := by
  have hpt := hp tid
  unfold conStep
  cases hph : s.2 tid with
  | start =>
    simp only []
    cases hget : I.get s.1 (keys tid) with
    | some v =>
      exact ⟨hc, phaseOK_setPhase hp tid _ (hc _ _ hget).symm⟩
    | none =>
      exact ⟨hc, phaseOK_setPhase hp tid _ rfl⟩
  | computed ov =>
    rw [hph] at hpt
    cases ov with
    | none => exact ⟨hc, phaseOK_setPhase hp tid _ hpt⟩
    | some v =>
      refine ⟨?_, phaseOK_setPhase hp tid _ hpt⟩
      intro k' v' hget
      rcases hI _ _ _ _ _ hget with ⟨rfl, rfl⟩ | hold
      · exact hpt.symm
      · exact hc _ _ hold
  | done r => exact ⟨hc, hp⟩

theorem runSchedule_inv (I : Iface C K V) (hI : Iface.Conservative I) (f : K → Option V)
    (keys : ℕ → K) (sched : List ℕ) : ∀ (s : C × (ℕ → Phase V)),
    SoundC I f s.1 → PhaseOK f keys s.2 →
    SoundC I f (runSchedule I f keys s sched).1 ∧ PhaseOK f keys (runSchedule I f keys s sched).2 := by
  induction sched with
  | nil => intro s hc hp; exact ⟨hc, hp⟩
  | cons tid rest ih =>
    intro s hc hp
    obtain ⟨hc', hp'⟩ := conStep_inv I hI f keys s hc hp tid
    exact ih _ hc' hp'

/-- C11 (linearizability), from the weak law. -/
theorem C11_linearizable' (I : Iface C K V) (hI : Iface.Conservative I) (f : K → Option V)
    (keys : ℕ → K) (c0 : C) (hc : SoundC I f c0) (sched : List ℕ) :
    let s := runSchedule I f keys (c0, fun _ => .start) sched
    SoundC I f s.1 ∧ ∀ tid r, s.2 tid = .done r → r = f (keys tid) := by
  intro s
  obtain ⟨h1, h2⟩ := runSchedule_inv I hI f keys sched (c0, fun _ => .start) hc (fun _ => trivial)
  refine ⟨h1, fun tid r hr => ?_⟩
  have := h2 tid
  rw [show (runSchedule I f keys (c0, fun _ => .start) sched).2 tid = .done r from hr] at this
  exact this

/-- C11 (linearizability). For every schedule — any interleaving of any number of callers —
the cache stays sound and every finished caller holds exactly `f (its key)`: what it would
return run alone. -/
theorem C11_linearizable (I : Iface C K V) (hI : Iface.Lawful I) (f : K → Option V)
    (keys : ℕ → K) (c0 : C) (hc : SoundC I f c0) (sched : List ℕ) :
    let s := runSchedule I f keys (c0, fun _ => .start) sched
    SoundC I f s.1 ∧ ∀ tid r, s.2 tid = .done r → r = f (keys tid) :=
  C11_linearizable' I hI.conservative f keys c0 hc sched

def rank : Phase V → ℕ
  | .start => 0
  | .computed _ => 1
  | .done _ => 2

theorem rank_le_two (x : Phase V) : rank x ≤ 2 := by cases x <;> simp [rank]

theorem conStep_other (I : Iface C K V) (f : K → Option V) (keys : ℕ → K)
    (s : C × (ℕ → Phase V)) (tid t : ℕ) (h : t ≠ tid) : (conStep I f keys s tid).2 t = s.2 t := by
  unfold conStep
  cases s.2 tid with
  | start =>
    simp only []
    cases I.get s.1 (keys tid) <;> simp [setPhase, h]
  | computed ov => cases ov <;> simp [setPhase, h]
  | done r => rfl

theorem conStep_self (I : Iface C K V) (f : K → Option V) (keys : ℕ → K)
    (s : C × (ℕ → Phase V)) (tid : ℕ) :
    min 2 (rank (s.2 tid) + 1) ≤ rank ((conStep I f keys s tid).2 tid) := by
  unfold conStep
  cases hph : s.2 tid with
  | start =>
    simp only []
    cases I.get s.1 (keys tid) <;> simp [setPhase, rank]
  | computed ov => cases ov <;> simp [setPhase, rank]
  | done r => simp [rank, hph]

theorem runSchedule_rank (I : Iface C K V) (f : K → Option V) (keys : ℕ → K) (tid : ℕ)
    (sched : List ℕ) : ∀ (s : C × (ℕ → Phase V)),
    min 2 (rank (s.2 tid) + sched.count tid) ≤ rank ((runSchedule I f keys s sched).2 tid) := by
  induction sched with
  | nil => intro s; simp [runSchedule]
  | cons a rest ih =>
    intro s
    have h := ih (conStep I f keys s a)
    show _ ≤ rank ((runSchedule I f keys (conStep I f keys s a) rest).2 tid)
    by_cases ha : a = tid
    · subst ha
      have h1 := conStep_self I f keys s a
      rw [List.count_cons_self]
      omega
    · have h1 := conStep_other I f keys s a tid (fun e => ha e.symm)
      rw [List.count_cons_of_ne ha]
      rw [h1] at h
      exact h

/-- C11 (progress). Every caller that is scheduled at least twice has finished: one lookup
and at most one insertion. -/
theorem C11_progress (I : Iface C K V) (f : K → Option V) (keys : ℕ → K) (c0 : C)
    (sched : List ℕ) (tid : ℕ) (h : 2 ≤ sched.count tid) :
    ∃ r, (runSchedule I f keys (c0, fun _ => .start) sched).2 tid = .done r := by
  have h1 := runSchedule_rank I f keys tid sched (c0, fun _ => .start)
  cases hph : (runSchedule I f keys (c0, fun _ => .start) sched).2 tid with
  | done r => exact ⟨r, rfl⟩
  | start => rw [hph] at h1; simp only [rank] at h1; omega
  | computed v => rw [hph] at h1; simp only [rank] at h1; omega

theorem C11_answer (I : Iface C K V) (hI : Iface.Conservative I) (f : K → Option V) (keys : ℕ → K)
    (c0 : C) (hc : SoundC I f c0) (sched : List ℕ) (tid : ℕ) (h : 2 ≤ sched.count tid) :
    (runSchedule I f keys (c0, fun _ => .start) sched).2 tid = .done (f (keys tid)) := by
  obtain ⟨r, hr⟩ := C11_progress I f keys c0 sched tid h
  rw [hr, (C11_linearizable' I hI f keys c0 hc sched).2 tid r hr]

end Abstract

section TreeInstance
variable {V : Type}

/-- the keys the package passes to `InsertInvertedMatrix`: non-empty, strictly increasing -/
def IncKey : Type := {k : List ℕ // k ≠ [] ∧ StrictInc k 0}

/-- the tree of an encoder with the cache enabled, on the package's keys.
`Tree.insert (some t) k v` is always `some _` (`treeIface_insert`). -/
def treeIface (V : Type) : Iface (Memo.Tree V) IncKey V where
  get t k := Memo.Tree.get (some t) k.1
  insert t k v := (Memo.Tree.insert (some t) k.1 v).getD t

theorem treeIface_insert (t : Memo.Tree V) (k : IncKey) (v : V) :
    Memo.Tree.insert (some t) k.1 v = some ((treeIface V).insert t k v) := by
  obtain ⟨k, hk, _⟩ := k
  cases k with
  | nil => exact absurd rfl hk
  | cons i r => rfl

theorem C11_tree_lawful : Iface.Lawful (treeIface V) where
  get_insert_same := by
    intro t k v
    show Memo.Tree.get (some ((treeIface V).insert t k v)) k.1 = some v
    rw [← treeIface_insert]
    exact Memo.Tree.get_insert_same t k.1 k.2.1 v
  get_insert_other := by
    intro t k k' v hne
    show Memo.Tree.get (some ((treeIface V).insert t k v)) k'.1 = Memo.Tree.get (some t) k'.1
    rw [← treeIface_insert]
    exact Memo.Tree.get_insert_other (some t) k.1 k'.1 k.2.2 k'.2.2
      (fun e => hne (Subtype.ext e.symm)) v

/-- the same two laws with the keys as hypotheses instead of a subtype -/
theorem C11_tree_laws (t : Memo.Tree V) (k k' : List ℕ) (v : V) (hk : k ≠ [])
    (hinc : StrictInc k 0) (hinc' : StrictInc k' 0) :
    Memo.Tree.get (Memo.Tree.insert (some t) k v) k = some v ∧
    (k' ≠ k → Memo.Tree.get (Memo.Tree.insert (some t) k v) k' = Memo.Tree.get (some t) k') :=
  ⟨Memo.Tree.get_insert_same t k hk v,
   fun hne => Memo.Tree.get_insert_other (some t) k k' hinc hinc' (fun e => hne e.symm) v⟩

def IncKey0 : Type := {k : List ℕ // StrictInc k 0}

/-- the tree exactly as the encoder holds it: possibly disabled (`none`), the empty key allowed -/
def optTreeIface (V : Type) : Iface (Option (Memo.Tree V)) IncKey0 V where
  get t k := Memo.Tree.get t k.1
  insert t k v := Memo.Tree.insert t k.1 v

theorem C11_tree_conservative : Iface.Conservative (optTreeIface V) := by
  intro t k v k' v' hget
  rcases Memo.Tree.get_insert_cases t k.1 k'.1 k.2 k'.2 v v' hget with ⟨h1, -, h3⟩ | h
  · exact Or.inl ⟨Subtype.ext h1, h3⟩
  · exact Or.inr h

end TreeInstance

section Matrix
variable {F : Type} [Field F] [DecidableEq F] {d p : ℕ}

def keyOf (d : ℕ) {n : ℕ} (present : Fin n → Bool) : IncKey0 :=
  ⟨cacheKey present d, cacheKey_strictInc present d⟩

/-- a fresh tree is sound: it holds the identity under the empty key only -/
theorem soundC_new (A : Mat F p d) :
    SoundC (optTreeIface (Mat F d d)) (fun k => invert (subOfKey A k.1)) (some (newTree d)) := by
  intro k v hget
  obtain ⟨hk, rfl⟩ := newTree_get (k := k.1) hget
  show invert (subOfKey A k.1) = _
  rw [hk]
  exact invert_subOfKey_nil A

theorem soundC_init (A : Mat F p d) (t0 : Option (Memo.Tree (Mat F d d)))
    (ht0 : t0 = some (newTree d) ∨ t0 = none) :
    SoundC (optTreeIface (Mat F d d)) (fun k => invert (subOfKey A k.1)) t0 := by
  rcases ht0 with rfl | rfl
  · exact soundC_new A
  · intro k v hget; cases hget

/-- C11 for the matrix codec. Any number of goroutines call `Reconstruct*` on one encoder
(cache enabled and fresh, or disabled), caller `tid` holding the presence pattern `present tid`
with at least `d` present shards.  In every lock-atomic interleaving every caller that finished
its lookup/insert protocol holds exactly `invert` of the sub-matrix its own pattern selects —
what `reconstruct` computes on a cache-free encoder — and a caller scheduled at least twice has
finished with that value.  (That the tree stays sound is `C11_matrix_sound`.) -/
theorem C11_matrix (A : Mat F p d) (t0 : Option (Memo.Tree (Mat F d d)))
    (ht0 : t0 = some (newTree d) ∨ t0 = none)
    (present : ℕ → Fin (d + p) → Bool) (hpres : ∀ tid, d ≤ countTrue (present tid))
    (sched : List ℕ) :
    let I := optTreeIface (Mat F d d)
    let s := runSchedule I (fun k => invert (subOfKey A k.1)) (fun tid => keyOf d (present tid))
      (t0, fun _ => .start) sched
    (∀ tid r, s.2 tid = .done r → r = invert (subMat A (present tid))) ∧
    (∀ tid, 2 ≤ sched.count tid → s.2 tid = .done (invert (subMat A (present tid)))) := by
  intro I s
  have hc : SoundC I (fun k => invert (subOfKey A k.1)) t0 := soundC_init A t0 ht0
  have hkey : ∀ tid, invert (subOfKey A (keyOf d (present tid)).1) = invert (subMat A (present tid)) :=
    fun tid => by rw [subMat_eq_subOfKey A (present tid) (hpres tid)]; rfl
  have hlin := C11_linearizable' I C11_tree_conservative (fun k => invert (subOfKey A k.1))
    (fun tid => keyOf d (present tid)) t0 hc sched
  refine ⟨fun tid r hr => ?_, fun tid h => ?_⟩
  · exact (hlin.2 tid r hr).trans (hkey tid)
  · have hans := C11_answer I C11_tree_conservative (fun k => invert (subOfKey A k.1))
      (fun tid => keyOf d (present tid)) t0 hc sched tid h
    rw [← hkey tid]
    exact hans

/-- the abstract invariant implies the soundness invariant of `RSV.Props.C10` -/
theorem sound_of_soundC (A : Mat F p d) (t : Option (Memo.Tree (Mat F d d)))
    (h : SoundC (optTreeIface (Mat F d d)) (fun k => invert (subOfKey A k.1)) t) :
    RSV.Props.C10.Sound A t := by
  intro present hd dec hget
  rw [subMat_eq_subOfKey A present hd]
  exact h (keyOf d present) dec hget

/-- after any interleaving of concurrent callers the tree is sound in the sense of C10: every
later call (sequential history) on that encoder returns the cache-free answer -/
theorem C11_matrix_sound {len : ℕ} (A : Mat F p d) (t0 : Option (Memo.Tree (Mat F d d)))
    (ht0 : t0 = some (newTree d) ∨ t0 = none)
    (keys : ℕ → IncKey0) (sched : List ℕ)
    (hist : List ((Fin (d + p) → Option (Shard F len)) × ReconMode)) :
    (runHistory A (runSchedule (optTreeIface (Mat F d d)) (fun k => invert (subOfKey A k.1)) keys
        (t0, fun _ => .start) sched).1 hist).1 =
      hist.map (fun (sh, mode) => reconstruct A sh mode) := by
  have hlin := C11_linearizable' (optTreeIface (Mat F d d)) C11_tree_conservative
    (fun k => invert (subOfKey A k.1)) keys t0 (soundC_init A t0 ht0) sched
  exact RSV.Props.C10.C10_matrix A _ (sound_of_soundC A _ hlin.1) hist

end Matrix

section Example

/-- a toy cache: the last inserted pair -/
def oneSlot : Iface (Option (ℕ × ℕ)) ℕ ℕ where
  get c k := match c with
    | some (k', v) => if k = k' then some v else none
    | none => none
  insert _ k v := some (k, v)

def answer {V : Type} : Phase V → Option (Option V)
  | .done r => some r
  | _ => none

theorem answer_eq_some {V : Type} (x : Phase V) (r : Option V) : answer x = some r ↔ x = .done r := by
  cases x <;> simp [answer]

/-- two callers with the same key, schedule `[0,1,0,1]`: both look up (miss), both compute, both
insert; both finish with `f key` -/
example :
    (runSchedule oneSlot (fun k => some (k * k)) (fun _ => 3) (none, fun _ => .start) [0, 1, 0, 1]).1
        = some (3, 9) ∧
    answer ((runSchedule oneSlot (fun k => some (k * k)) (fun _ => 3) (none, fun _ => .start)
        [0, 1, 0, 1]).2 0) = some (some 9) ∧
    answer ((runSchedule oneSlot (fun k => some (k * k)) (fun _ => 3) (none, fun _ => .start)
        [0, 1, 0, 1]).2 1) = some (some 9) := by
  decide

/-- schedule `[0,0,1]`: caller 0 misses, inserts; caller 1 hits and is done after one step -/
example :
    answer ((runSchedule oneSlot (fun k => some (k * k)) (fun _ => 3) (none, fun _ => .start)
        [0, 0, 1]).2 1) = some (some 9) := by
  decide

def exKeys : ℕ → IncKey := fun tid => if tid = 2 then ⟨[2], by decide⟩ else ⟨[1, 3], by decide⟩

/-- the tree instance on a concrete schedule: callers 0 and 1 share key `[1,3]`, caller 2 has `[2]` -/
example :
    (treeIface ℕ).get (runSchedule (treeIface ℕ) (fun k => some k.1.sum) exKeys
        (⟨Node.empty⟩, fun _ => .start) [0, 1, 2, 0, 1, 2]).1 ⟨[1, 3], by decide⟩ = some 4 ∧
    (treeIface ℕ).get (runSchedule (treeIface ℕ) (fun k => some k.1.sum) exKeys
        (⟨Node.empty⟩, fun _ => .start) [0, 1, 2, 0, 1, 2]).1 ⟨[2], by decide⟩ = some 2 ∧
    answer ((runSchedule (treeIface ℕ) (fun k => some k.1.sum) exKeys
        (⟨Node.empty⟩, fun _ => .start) [0, 1, 2, 0, 1, 2]).2 1) = some (some 4) := by
  decide

/-- the hypotheses of `C11_linearizable` are satisfiable for the tree with a non-trivial `f` -/
example (sched : List ℕ) (keys : ℕ → IncKey) :
    let s := runSchedule (treeIface ℕ) (fun k => some k.1.sum) keys (⟨Node.empty⟩, fun _ => .start) sched
    ∀ tid r, s.2 tid = .done r → r = some (keys tid).1.sum :=
  (C11_linearizable (treeIface ℕ) C11_tree_lawful _ keys ⟨Node.empty⟩
    (by intro k v h
        have : Memo.Tree.get (some (⟨Node.empty⟩ : Memo.Tree ℕ)) k.1 = none := by
          obtain ⟨k, hk, _⟩ := k
          cases k with
          | nil => exact absurd rfl hk
          | cons i r => exact Node.get_empty _ _
        have h' : Memo.Tree.get (some (⟨Node.empty⟩ : Memo.Tree ℕ)) k.1 = some v := h
        rw [this] at h'; cases h') sched).2

end Example

end RSV.Props.C11

#print axioms RSV.Props.C11.Iface.Lawful.conservative
#print axioms RSV.Props.C11.conStep_inv
#print axioms RSV.Props.C11.C11_linearizable'
#print axioms RSV.Props.C11.C11_linearizable
#print axioms RSV.Props.C11.C11_progress
#print axioms RSV.Props.C11.C11_answer
#print axioms RSV.Props.C11.treeIface_insert
#print axioms RSV.Props.C11.C11_tree_lawful
#print axioms RSV.Props.C11.C11_tree_laws
#print axioms RSV.Props.C11.C11_tree_conservative
#print axioms RSV.Props.C11.soundC_new
#print axioms RSV.Props.C11.C11_matrix
#print axioms RSV.Props.C11.sound_of_soundC
#print axioms RSV.Props.C11.C11_matrix_sound
#print axioms RSV.Props.C11.runSchedule_inv
#print axioms RSV.Props.C11.runSchedule_rank
