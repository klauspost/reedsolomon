import RSV.Props.C17
import RSV.Gen.Switch
import RSV.Proofs.Kernels
/-!
# C08 — every SIMD kernel computes the same bytes as the scalar field arithmetic

What is *proved* here: the two per-lane recipes the kernels implement (PSHUFB nibble lookup on the
regenerated `mulTableLow/High`, GF2P8AFFINEQB on the regenerated bit matrices) equal the field
product for every coefficient and every byte; the returned-count arithmetic; the slot layout of the
expanded matrices.  That the assembly implements the recipe in every lane is `C08_asm_sound` and its companions
(`RSV.Props.C08asm`, `RSV.Props.C08asmLeo`), relative to the modelled instruction semantics; the correspondence
part of the check executes every kernel lane-exhaustively with guard zones.
-/
namespace RSV.Props.C08
open RSV.Gen RSV.Tables RSV.Model.Kernels

/-- PSHUFB recipe: `low[c][x & 15] ^ high[c][x >> 4] = c·x` for all 65,536 pairs (by linearity of the
product in `x` and the 2·4,096 table entries checked in C17) -/
theorem C08_nibble (c x : Nat) (hc : c < 256) (hx : x < 256) :
    byteAt (mulTableLowRows[c]!) (x &&& 15) ^^^ byteAt (mulTableHighRows[c]!) (x >>> 4) = gmul c x := by
  rw [mulTableLow_ok c hc _ (and15_lt x), mulTableHigh_ok c hc _ (shr4_lt hx), gmul_nibbles]

/-- GFNI recipe: GF2P8AFFINEQB with the regenerated matrix for `c` multiplies every byte by `c` -/
theorem C08_affine (c x : Nat) (hc : c < 256) (hx : x < 256) :
    affineByte (wordAt gf2p811dMulMatrices c) x = gmul c x := gfni_ok c x hc hx

/-- both recipes agree with each other and with the scalar table the pure Go path uses -/
theorem C08_recipes_agree (c x : Nat) (hc : c < 256) (hx : x < 256) :
    byteAt (mulTableLowRows[c]!) (x &&& 15) ^^^ byteAt (mulTableHighRows[c]!) (x >>> 4)
      = affineByte (wordAt gf2p811dMulMatrices c) x ∧
    affineByte (wordAt gf2p811dMulMatrices c) x = byteAt (mulTableRows[c]!) x := by
  rw [C08_nibble c x hc hx, C08_affine c x hc hx, mulTable_ok c x hc hx]; exact ⟨rfl, rfl⟩

/-- the returned count is the granularity-aligned prefix: a multiple of `g`, at most `len`, and less
than `g` bytes are left for the scalar tail -/
theorem C08_count (f : Family) (outputs len : Nat) :
    count f outputs len % gran f outputs = 0 ∧ count f outputs len ≤ len ∧ len - count f outputs len < gran f outputs := by
  have hg : 0 < gran f outputs := by
    rcases gran_cases f outputs with h | h <;> rw [h] <;> decide
  unfold count
  refine ⟨Nat.mul_mod_left _ _, Nat.div_mul_le_self _ _, ?_⟩
  have := Nat.mod_lt len hg
  have h2 := Nat.div_add_mod len (gran f outputs)
  rw [Nat.mul_comm] at h2
  omega

/-- granularities are 32 or 64 (with `C08_count`: a kernel's tail left for the scalar code is shorter than 64 bytes) -/
theorem C08_gran (f : Family) (outputs : Nat) : gran f outputs = 32 ∨ gran f outputs = 64 :=
  gran_cases f outputs

/-- distinct coefficient slots of the expanded matrices do not overlap -/
theorem C08_slots_injective (outputs i j i' j' : Nat) (hi : i < outputs) (hi' : i' < outputs)
    (h : gfniSlot outputs i j = gfniSlot outputs i' j') : i = i' ∧ j = j' := by
  have a := slot_off j hi
  rw [show j * outputs + i = j' * outputs + i' from h] at a
  have b := slot_off j' hi'
  exact ⟨a.2.symm.trans b.2, a.1.symm.trans b.1⟩

theorem C08_avx2_slots (outputs i j i' j' : Nat) (hi : i < outputs) (hi' : i' < outputs)
    (h : (i, j) ≠ (i', j')) : avx2Slot outputs i j + 64 ≤ avx2Slot outputs i' j' ∨ avx2Slot outputs i' j' + 64 ≤ avx2Slot outputs i j := by
  unfold avx2Slot
  have : j * outputs + i ≠ j' * outputs + i' := fun e => by
    have := C08_slots_injective outputs i j i' j' hi hi' e
    exact h (by rw [this.1, this.2])
  omega

/-- family of a switch function code (0,1 AVX2; 2,3 AVX512+GFNI; 4,5 AVX+GFNI; odd = xor variant) -/
def familyOf (code : Nat) : Option Family :=
  if code < 2 then some .avx2 else if code < 4 then some .gfni else if code < 6 then some .avxgfni else none

/-- Tie A for the kernel dispatch: the six switch functions regenerated from `galois_gen_switch_amd64.go` have
exactly the 600 cases (1..10 inputs × 1..10 outputs), pairwise distinct; in every case the extractor found the
callee's name to carry the case's own shape (and `Xor` iff the switch is the xor one), and the case returns the count
with the granularity the model assumes -/
theorem C08_switch_table :
    RSV.Gen.kernelSwitch.length = 600 ∧
    (∀ e ∈ RSV.Gen.kernelSwitch, e.2.2.2.2 = true ∧ 1 ≤ e.2.1 ∧ e.2.1 ≤ 10 ∧ 1 ≤ e.2.2.1 ∧ e.2.2.1 ≤ 10 ∧
      (familyOf e.1).map (fun f => gran f e.2.2.1) = some e.2.2.2.1) ∧
    (RSV.Gen.kernelSwitch.map fun e => (e.1, e.2.1, e.2.2.1)).Nodup := by
  -- distinctness: the generator lists the cases in increasing order of (switch, inputs, outputs)
  have hinc : ((RSV.Gen.kernelSwitch.map fun e => (e.1, e.2.1, e.2.2.1)).map
      fun t => 100 * t.1 + 10 * t.2.1 + t.2.2).IsChain (· < ·) := by decide +kernel
  exact ⟨by decide +kernel, by decide +kernel,
    List.Nodup.of_map _ ((List.isChain_iff_pairwise.mp hinc).imp Nat.ne_of_lt)⟩

example : count .avx2 2 1000 = 960 ∧ count .avx2 10 935 = 928 ∧ count .gfni 10 997 = 960 ∧ count .avxgfni 4 200 = 192 := by decide

end RSV.Props.C08
