import RSV.Proofs.Tables
import RSV.Proofs.GF256Field
/-!
# C17 — precomputed field tables equal the field they claim to tabulate

The static GF(2^8) tables are *regenerated* from `/repo/galois.go` on every run
(`RSV.Gen.Tables`); the theorems below are re-checked by the kernel against them.
`gmul` is shift-and-reduce multiplication modulo `x^8+x^4+x^3+x^2+1`.
The Leopard run-time tables are covered in `RSV.Props.C17leo`.
-/
namespace RSV.Props.C17
open RSV.Gen RSV.Tables

/-- all 65,536 products -/
theorem C17_mulTable (a b : Nat) (ha : a < 256) (hb : b < 256) : byteAt (mulTableRows[a]!) b = gmul a b :=
  mulTable_ok a b ha hb

/-- exponent table: `expTable[i] = x^i` -/
theorem C17_expTable (i : Nat) (hi : i < 256) : byteAt expTable i = gpow 2 i := expTable_pow i hi

/-- logarithm table inverts the exponent table -/
theorem C17_logTable (i : Nat) (hi : i < 255) : byteAt logTable (gpow 2 i) = i := by
  rw [← expTable_pow i (by omega)]; exact logTable_exp i hi

theorem C17_expLog (a : Nat) (ha : a < 256) (h0 : a ≠ 0) : gpow 2 (byteAt logTable a) = a :=
  gpow_log a ha h0

theorem C17_invTable (a : Nat) (ha : a < 256) (h0 : a ≠ 0) : gmul a (byteAt invTable a) = 1 :=
  invTable_ok.2 a ha h0

/-- the inverse table agrees with the field inverse of the model carrier -/
theorem C17_invTable_field (a : GF256) (h0 : a ≠ 0) : GF256.ofNat (byteAt invTable a.val) = a⁻¹ :=
  GF256.invTable_field a h0

theorem C17_mulTableLow (a n : Nat) (ha : a < 256) (hn : n < 16) : byteAt (mulTableLowRows[a]!) n = gmul a n :=
  mulTableLow_ok a ha n hn
theorem C17_mulTableHigh (a n : Nat) (ha : a < 256) (hn : n < 16) : byteAt (mulTableHighRows[a]!) n = gmul a (n * 16) :=
  mulTableHigh_ok a ha n hn

/-- the 8×8 GFNI bit-matrices: GF2P8AFFINEQB with matrix `c` multiplies by `c` -/
theorem C17_gfni (c x : Nat) (hc : c < 256) (hx : x < 256) :
    affineByte (wordAt gf2p811dMulMatrices c) x = gmul c x := gfni_ok c x hc hx

/-- the constant in galois.go is the polynomial the specification uses -/
theorem C17_polynomial : generatingPolynomial + 256 = poly8 ∧ fieldSize = 256 :=
  ⟨generatingPolynomial_ok, fieldSize_ok⟩

/-- field identities hold for all operands: `GF256` with these operations is a field -/
theorem C17_field_identities (a b c : GF256) :
    (a * b) * c = a * (b * c) ∧ a * (b + c) = a * b + a * c ∧ a * b = b * a ∧ (a ≠ 0 → a * a⁻¹ = 1) :=
  ⟨mul_assoc a b c, mul_add a b c, mul_comm a b, fun h => mul_inv_cancel₀ h⟩

/-- consequently the table product is associative for all byte operands -/
theorem C17_table_assoc (a b c : Nat) (ha : a < 256) (hb : b < 256) (hc : c < 256) :
    byteAt (mulTableRows[byteAt (mulTableRows[a]!) b]!) c = byteAt (mulTableRows[a]!) (byteAt (mulTableRows[b]!) c) := by
  rw [mulTable_ok a b ha hb, mulTable_ok b c hb hc, mulTable_ok _ c (gmul_lt _ ha) hc,
    mulTable_ok a _ ha (gmul_lt _ hb)]
  exact gmul_assoc ha hb hc

end RSV.Props.C17
