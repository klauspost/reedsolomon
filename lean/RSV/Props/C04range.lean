import RSV.Proofs.LeoSchedRange
import RSV.Props.C04
import RSV.Props.C05
/-!
# C04 / C05 — the Leopard schedules address only rows of the work area and shards of the shard set

`RSV.Props.C04` / `RSV.Props.C05` state locality, chunking and linearity of `encode` / `reconstruct`
under the hypothesis "every step of the generated schedule is `InRange`" (the driver also decides it
for the Encode schedule of each configuration it runs and reports it as `sched=`).  Here that hypothesis is proved for the generators
(`RSV/Proofs/LeoSchedRange.lean`), for every context `C` (any tables, any `C.P.bits`), every `d`, every
erasure set and every `p ≤ 2^64` (`C04_encodeSched_inRange'`, `C05_reconSched_inRange`), and the
`…_all` corollaries are the C04 / C05 theorems with it discharged.

The bounds `≤ 2^64` are there because `ceilPow2` doubles at most 64 times: beyond them
`p ≤ ceilPow2 p` fails (and then, e.g., the first loop of `reconSched` writes row `2^64 = ` number of rows).
-/
namespace RSV.Props.C04range
open RSV.Model.Leo RSV.Proofs.LeoSched RSV.Proofs.LeoSchedRange RSV.Props.C04 RSV.Props.C05

variable (C : Ctx)

/-- `ifftLayers base mtrunc m skewOff idxAdj` only touches rows `[base, base + m)` (no shard at all),
whenever `m` is a power of two and `mtrunc ≤ m` -/
theorem C04_ifftLayers_inRange (base mtrunc m skewOff idxAdj nrows nshards e : Nat) (hm : m = 2 ^ e)
    (hmt : mtrunc ≤ m) (hn : base + m ≤ nrows) :
    ∀ s ∈ (ifftLayers C base mtrunc m skewOff idxAdj).toList, InRange nrows nshards s :=
  ifftLayers_in C base mtrunc m skewOff idxAdj nrows nshards e hm hmt hn

/-- `fftLayers mtrunc m` only touches rows `[0, m)`, whenever `m` is a power of two and `mtrunc ≤ m` -/
theorem C04_fftLayers_inRange (mtrunc m nrows nshards e : Nat) (hm : m = 2 ^ e) (hmt : mtrunc ≤ m)
    (hn : m ≤ nrows) : ∀ s ∈ (fftLayers C mtrunc m).toList, InRange nrows nshards s :=
  fftLayers_in C mtrunc m nrows nshards e hm hmt hn

/-- `ceilPow2 p` is a power of two, for every `p` -/
theorem C04_ceilPow2_pow2 (p : Nat) : ∃ e, ceilPow2 p = 2 ^ e := ceilPow2_pow2 p

/-- general form: no lower bound on `p` or `d`, `p ≤ 2^64` -/
theorem C04_encodeSched_inRange' (C : Ctx) (d p : Nat) (hpb : p ≤ 2 ^ 64) :
    ∀ s ∈ (encodeSched C d p).toList, InRange (2 * ceilPow2 p) d s :=
  encodeSched_in C d p hpb

/-- every step of the Encode schedule is in range, for all configurations.  `hp` is part of the stated
interface; the proof does not need it. -/
theorem C04_encodeSched_inRange (C : Ctx) (d p : Nat) (hp : 0 < p) (hpb : p ≤ 2 ^ 32) :
    ∀ s ∈ (encodeSched C d p).toList, InRange (2 * ceilPow2 p) d s :=
  have _ := hp
  C04_encodeSched_inRange' C d p (Nat.le_trans hpb (Nat.pow_le_pow_right (by decide) (by decide)))

/-- executable form -/
theorem C04_encodeSched_allInRange (C : Ctx) (d p : Nat) (hpb : p ≤ 2 ^ 64) :
    allInRange (2 * ceilPow2 p) d (encodeSched C d p).toList = true :=
  (allInRange_iff _ _ _).mpr (C04_encodeSched_inRange' C d p hpb)

/-- the hypothesis of the C04 `encode` theorems, for any shard set with at least `d` shards -/
theorem C04_encode_hr (d p : Nat) (hpb : p ≤ 2 ^ 64) {data : Array Vec} (hd : d ≤ data.size) :
    ∀ s ∈ (encodeSched C d p).toList, InRange (2 * ceilPow2 p) data.size s :=
  fun s hs => InRange_mono (Nat.le_refl _) hd (C04_encodeSched_inRange' C d p hpb s hs)

/-- symbol `k` of the parity shards depends only on symbols `k` of the data shards — all `(d, p)` -/
theorem C04_encode_local_all {len k : Nat} (hk : k < len) (d p : Nat) (hpb : p ≤ 2 ^ 64)
    {data : Array Vec} (hs : WF len data) (hd : d ≤ data.size) :
    proj k (encode C d p len data) = encode C d p 1 (proj k data) :=
  C04_encode_local C hk d p hs (C04_encode_hr C d p hpb hd)

/-- encoding the concatenation of two symbol ranges = concatenating the encodings — all `(d, p)` -/
theorem C04_encode_chunking_all {l₁ l₂ : Nat} (d p : Nat) (hpb : p ≤ 2 ^ 64) {s₁ s₂ : Array Vec}
    (hs₁ : WF l₁ s₁) (hs₂ : WF l₂ s₂) (hss : s₁.size = s₂.size) (hd : d ≤ s₁.size) :
    encode C d p (l₁ + l₂) (rowsAppend s₁ s₂) =
      rowsAppend (encode C d p l₁ s₁) (encode C d p l₂ s₂) :=
  C04_encode_chunking C d p hs₁ hs₂ hss (C04_encode_hr C d p hpb hd)

/-- `encode` is xor-additive in the data — all `(d, p)` -/
theorem C04_encode_linear_all (hC : MulLinear C) {len : Nat} (d p : Nat) (hpb : p ≤ 2 ^ 64)
    {s₁ s₂ : Array Vec} (hs₁ : WF len s₁) (hs₂ : WF len s₂) (hss : s₁.size = s₂.size)
    (hd : d ≤ s₁.size) :
    encode C d p len (xorRows s₁ s₂) = xorRows (encode C d p len s₁) (encode C d p len s₂) :=
  C04_encode_linear C hC d p hs₁ hs₂ hss (C04_encode_hr C d p hpb hd)

/-- every step of the Reconstruct schedule is in range, for every erasure set and every `el` -/
theorem C05_reconSched_inRange (C : Ctx) (d p : Nat) (missing : Nat → Bool) (el : Array Nat)
    (hpb : p ≤ 2 ^ 64) (hmd : ceilPow2 p + d ≤ 2 ^ 64) :
    ∀ s ∈ (reconSched C d p missing el).toList, InRange (ceilPow2 (ceilPow2 p + d)) (d + p) s :=
  reconSched_in C d p missing el hpb hmd

/-- a sufficient, `ceilPow2`-free side condition: `p ≤ 2^32` and `d ≤ 2^32` -/
theorem C05_side_of_le32 (d p : Nat) (hp : p ≤ 2 ^ 32) (hd : d ≤ 2 ^ 32) :
    p ≤ 2 ^ 64 ∧ ceilPow2 p + d ≤ 2 ^ 64 := by
  have h64 : (2 : Nat) ^ 32 ≤ 2 ^ 64 := Nat.pow_le_pow_right (by decide) (by decide)
  refine ⟨Nat.le_trans hp h64, ?_⟩
  have hc := ceilPow2_le_two_pow hp
  have : (2 : Nat) ^ 32 + 2 ^ 32 ≤ 2 ^ 64 := by decide
  omega

/-- the hypothesis `SchedInRange` of the C05 theorems, for any shard set with at least `d + p` shards -/
theorem C05_schedInRange (d p : Nat) (missing : Nat → Bool) (el : Array Nat)
    (hpb : p ≤ 2 ^ 64) (hmd : ceilPow2 p + d ≤ 2 ^ 64) {nshards : Nat} (hn : d + p ≤ nshards) :
    SchedInRange C d p missing el nshards :=
  fun s hs => InRange_mono (Nat.le_refl _) hn (C05_reconSched_inRange C d p missing el hpb hmd s hs)

/-- symbol `k` of every reconstructed shard depends only on symbols `k` of the shards — all `(d, p)`,
all erasure sets -/
theorem C05_reconstruct_local_all {len k : Nat} (hk : k < len) (d p : Nat) {shards : Array Vec}
    (missing : Nat → Bool) (recoverAll : Bool) (hs : WF len shards)
    (hpb : p ≤ 2 ^ 64) (hmd : ceilPow2 p + d ≤ 2 ^ 64) (hn : d + p ≤ shards.size) :
    (reconstruct C d p len shards missing recoverAll).map (Option.map fun row => #[row[k]!]) =
      reconstruct C d p 1 (proj k shards) missing recoverAll :=
  C05_reconstruct_local C hk d p missing recoverAll hs (le_ceilPow2 p hpb) (le_ceilPow2 _ hmd)
    (C05_schedInRange C d p missing _ hpb hmd hn)

/-- reconstructing the concatenation of two symbol ranges = concatenating the reconstructions -/
theorem C05_reconstruct_chunking_all {l₁ l₂ : Nat} (d p : Nat) {s₁ s₂ : Array Vec}
    (missing : Nat → Bool) (recoverAll : Bool) (hs₁ : WF l₁ s₁) (hs₂ : WF l₂ s₂)
    (hss : s₁.size = s₂.size)
    (hpb : p ≤ 2 ^ 64) (hmd : ceilPow2 p + d ≤ 2 ^ 64) (hn : d + p ≤ s₁.size) :
    reconstruct C d p (l₁ + l₂) (rowsAppend s₁ s₂) missing recoverAll =
      Array.zipWith (optZip (· ++ ·)) (reconstruct C d p l₁ s₁ missing recoverAll)
        (reconstruct C d p l₂ s₂ missing recoverAll) :=
  C05_reconstruct_chunking C d p missing recoverAll hs₁ hs₂ hss (le_ceilPow2 p hpb)
    (le_ceilPow2 _ hmd) (C05_schedInRange C d p missing _ hpb hmd hn)

/-- for a fixed erasure set the reconstructed shards are xor-additive in the shards -/
theorem C05_reconstruct_linear_all (hC : MulLinear C) {len : Nat} (d p : Nat) {s₁ s₂ : Array Vec}
    (missing : Nat → Bool) (recoverAll : Bool) (hs₁ : WF len s₁) (hs₂ : WF len s₂)
    (hss : s₁.size = s₂.size)
    (hpb : p ≤ 2 ^ 64) (hmd : ceilPow2 p + d ≤ 2 ^ 64) (hn : d + p ≤ s₁.size) :
    reconstruct C d p len (xorRows s₁ s₂) missing recoverAll =
      Array.zipWith (optZip xorVec) (reconstruct C d p len s₁ missing recoverAll)
        (reconstruct C d p len s₂ missing recoverAll) :=
  C05_reconstruct_linear C hC d p missing recoverAll hs₁ hs₂ hss (le_ceilPow2 p hpb)
    (le_ceilPow2 _ hmd) (C05_schedInRange C d p missing _ hpb hmd hn)

/-! The hypotheses of `C04_encodeSched_inRange`, of `C05_reconSched_inRange`, and of `C04_ifftLayers_inRange` (with
`mtrunc = 3`, `base = 4`, `nrows = 8`) are satisfiable. -/
example : ∃ p : Nat, 0 < p ∧ p ≤ 2 ^ 32 := ⟨1, by decide, by decide⟩
example : ∃ d p : Nat, p ≤ 2 ^ 64 ∧ ceilPow2 p + d ≤ 2 ^ 64 :=
  ⟨3, 2, C05_side_of_le32 3 2 (by decide) (by decide)⟩
example : ∃ m e : Nat, m = 2 ^ e ∧ (3 : Nat) ≤ m ∧ 4 + m ≤ 8 := ⟨4, 2, by decide, by decide, by decide⟩

/-- the GF(2^8) context with the real tables: no evaluation needed -/
example : ∀ s ∈ (encodeSched (mkCtx P8) 10 4).toList, InRange (2 * ceilPow2 4) 10 s :=
  C04_encodeSched_inRange (mkCtx P8) 10 4 (by decide) (by decide)

/-- the largest GF(2^16) shape -/
example : ∀ s ∈ (encodeSched C 32768 32768).toList, InRange (2 * ceilPow2 32768) 32768 s :=
  C04_encodeSched_inRange C 32768 32768 (by decide) (by decide)

/-- the edge cases `d = 0` and `p = 0` are covered by the general form -/
example : ∀ s ∈ (encodeSched C 0 0).toList, InRange (2 * ceilPow2 0) 0 s :=
  C04_encodeSched_inRange' C 0 0 (by decide)

/-- agrees with the per-configuration kernel check of `RSV.Props.C04` -/
example : allInRange (2 * ceilPow2 3) 10 (encodeSched shapeCtx 10 3).toList = true :=
  C04_encodeSched_allInRange shapeCtx 10 3 (by decide)

example (missing : Nat → Bool) (el : Array Nat) :
    ∀ s ∈ (reconSched (mkCtx P8) 3 2 missing el).toList, InRange (ceilPow2 (ceilPow2 2 + 3)) (3 + 2) s :=
  C05_reconSched_inRange (mkCtx P8) 3 2 missing el (by decide)
    (C05_side_of_le32 3 2 (by decide) (by decide)).2

example (d p : Nat) (hp : p ≤ 2 ^ 32) (hd : d ≤ 2 ^ 32) (missing : Nat → Bool) (el : Array Nat) :
    ∀ s ∈ (reconSched C d p missing el).toList, InRange (ceilPow2 (ceilPow2 p + d)) (d + p) s :=
  C05_reconSched_inRange C d p missing el (C05_side_of_le32 d p hp hd).1 (C05_side_of_le32 d p hp hd).2

end RSV.Props.C04range

#print axioms RSV.Props.C04range.C04_ifftLayers_inRange
#print axioms RSV.Props.C04range.C04_fftLayers_inRange
#print axioms RSV.Props.C04range.C04_ceilPow2_pow2
#print axioms RSV.Props.C04range.C04_encodeSched_inRange'
#print axioms RSV.Props.C04range.C04_encodeSched_inRange
#print axioms RSV.Props.C04range.C04_encodeSched_allInRange
#print axioms RSV.Props.C04range.C04_encode_local_all
#print axioms RSV.Props.C04range.C04_encode_chunking_all
#print axioms RSV.Props.C04range.C04_encode_linear_all
#print axioms RSV.Props.C04range.C05_reconSched_inRange
#print axioms RSV.Props.C04range.C05_side_of_le32
#print axioms RSV.Props.C04range.C05_schedInRange
#print axioms RSV.Props.C04range.C05_reconstruct_local_all
#print axioms RSV.Props.C04range.C05_reconstruct_chunking_all
#print axioms RSV.Props.C04range.C05_reconstruct_linear_all
