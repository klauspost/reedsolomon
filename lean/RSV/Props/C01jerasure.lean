import RSV.Props.C01
import RSV.Proofs.Jerasure
/-!
# Property C01, Jerasure family

`buildMatrixJerasure GF256.ofNat d (d + p)` (`WithJerasureMatrix`) is systematic and MDS for all
`0 < d`, `0 < p`, `d + p ≤ 256`; the pivot search of its main loop never fails; its first parity
row and first parity column are all ones.  Proofs: `RSV.Proofs.JerasureInv` (the invariant "every
`d` rows independent") and `RSV.Proofs.Jerasure` (the builder).
-/

namespace RSV.Props.C01
open RSV.Model RSV.CodeTheory RSV.Generators RSV.Jerasure

/-- the points `byte(0) = 0, byte(1), …, byte(d+p-2)` the Jerasure builder uses are distinct
(the last row is overwritten: it is the point at infinity) -/
theorem jerasure_points {d p : ℕ} (h : d + p ≤ 256) :
    GF256.ofNat 0 = 0 ∧
    ∀ a b, a < d + p - 1 → b < d + p - 1 → GF256.ofNat a = GF256.ofNat b → a = b :=
  ⟨rfl, ofNat_injOn_le (by omega)⟩

/-- the Jerasure generator (`WithJerasureMatrix`): top square = identity, parity part MDS -/
theorem C01_jerasure (d p : ℕ) (hd : 0 < d) (hp : 0 < p) (h : d + p ≤ 256) :
    (∀ (r : Fin (d + p)) (c : Fin d), r.val < d →
      (buildMatrixJerasure GF256.ofNat d (d + p) (by omega) hd).get r c
        = if r.val = c.val then 1 else 0) ∧
    MDS (parityFn (buildMatrixJerasure GF256.ofNat d (d + p) (by omega) hd)) :=
  let ⟨hT, hM, _, _⟩ := buildMatrixJerasure_mds GF256.ofNat d p hd hp
    (jerasure_points h).1 (jerasure_points h).2
  ⟨hT, hM⟩

/-- the normalisation Jerasure is known for: first parity row and first parity column all ones -/
theorem C01_jerasure_ones (d p : ℕ) (hd : 0 < d) (hp : 0 < p) (h : d + p ≤ 256) :
    (∀ c, parityFn (buildMatrixJerasure GF256.ofNat d (d + p) (by omega) hd) ⟨0, hp⟩ c = 1) ∧
    (∀ r, parityFn (buildMatrixJerasure GF256.ofNat d (d + p) (by omega) hd) r ⟨0, hd⟩ = 1) := by
  obtain ⟨_, _, hrow, hcol⟩ := buildMatrixJerasure_mds GF256.ofNat d p hd hp
    (jerasure_points h).1 (jerasure_points h).2
  constructor
  · intro c
    unfold parityFn
    rw [parityPart_get]
    exact hrow c
  · intro r
    unfold parityFn
    rw [parityPart_get]
    exact hcol _ (Nat.le_add_right d r.val)

/-- every `d` rows of the full `(d + p) × d` generator are independent: a message killed by `d`
rows is zero -/
theorem C01_jerasure_rows (d p : ℕ) (hd : 0 < d) (hp : 0 < p) (h : d + p ≤ 256)
    (S : Finset (Fin (d + p))) (hS : S.card = d) (t : Fin d → GF256)
    (h0 : ∀ i ∈ S, ∑ c, (buildMatrixJerasure GF256.ofNat d (d + p) (by omega) hd).get i c * t c = 0) :
    t = 0 :=
  (buildMatrixJerasure_rowsMDS GF256.ofNat d (d + p) (by omega) hd
    (jerasure_points h).1 (jerasure_points h).2).1 S hS t h0

/-- the pivot search of column `k` of the main loop always finds a row: the `none` branch of the
model (the Go loop would index out of range) is dead code -/
theorem C01_jerasure_pivot (d p : ℕ) (hd : 0 < d) (hp : 0 < p) (h : d + p ≤ 256)
    (k : ℕ) (hk : k < d) :
    (findFirst (fun r : Fin (d + p) => decide (k ≤ r.val) &&
      decide ((jerasureLoop (Nat.le_add_right d p) (jerInit GF256.ofNat d (d + p)) k
        (Nat.le_of_lt hk)).get r ⟨k, hk⟩ ≠ 0))).isSome :=
  buildMatrixJerasure_pivot GF256.ofNat d (d + p) (by omega) hd
    (jerasure_points h).1 (jerasure_points h).2 k hk

/-- any `≤ p` lost shards of a Jerasure-encoded stripe leave the data determined -/
theorem C01_jerasure_losses (d p : ℕ) (hd : 0 < d) (hp : 0 < p) (h : d + p ≤ 256)
    (lost : Finset (Fin d ⊕ Fin p)) (hl : lost.card ≤ p) (t t' : Fin d → GF256)
    (heq : ∀ i, i ∉ lost →
      cw (parityFn (buildMatrixJerasure GF256.ofNat d (d + p) (by omega) hd)) t i
        = cw (parityFn (buildMatrixJerasure GF256.ofNat d (d + p) (by omega) hd)) t' i) :
    t = t' :=
  C01_any_p_losses (C01_jerasure d p hd hp h).2 lost hl t t' heq

/-- the 3 + 2 Jerasure generator, evaluated in the kernel: identity on top, then `1 1 1` and
`1 245 244` -/
example : (buildMatrixJerasure GF256.ofNat 3 (3 + 2) (by decide) (by decide)).toList.map
      (fun row => row.toList.map GF256.val)
    = [[1, 0, 0], [0, 1, 0], [0, 0, 1], [1, 1, 1], [1, 245, 244]] := by decide +kernel

/-- a concrete parity entry that is neither `0` nor `1` -/
example : parityFn (buildMatrixJerasure GF256.ofNat 3 (3 + 2) (by decide) (by decide))
    ⟨1, by decide⟩ ⟨2, by decide⟩ = GF256.ofNat 244 := by decide +kernel

/-- degenerate shape `d = 1` (first and last row overwrite the same single column) -/
example : (buildMatrixJerasure GF256.ofNat 1 (1 + 2) (by decide) (by decide)).toList.map
      (fun row => row.toList.map GF256.val) = [[1], [1], [1]] := by decide +kernel

/-- degenerate shape `p = 1` (the only parity row is the point at infinity) -/
example : (buildMatrixJerasure GF256.ofNat 4 (4 + 1) (by decide) (by decide)).toList.map
      (fun row => row.toList.map GF256.val)
    = [[1, 0, 0, 0], [0, 1, 0, 0], [0, 0, 1, 0], [0, 0, 0, 1], [1, 1, 1, 1]] := by decide +kernel

/-- the theorem applies up to the full 256 shards -/
example : MDS (parityFn (buildMatrixJerasure GF256.ofNat 200 (200 + 56) (by decide) (by decide))) :=
  (C01_jerasure 200 56 (by decide) (by decide) (by decide)).2

/-- `MDS` is not a property every matrix has: the all-ones `2 × 2` parity has a singular minor
(same witness as in `RSV.Props.C01`) -/
example : ¬ MDS (fun (_ : Fin 2) (_ : Fin 2) => (1 : GF256)) := by
  intro hM
  have := hM {Sum.inr 0, Sum.inr 1} (by decide) (fun _ => 1) (by
    intro i hi
    simp only [Finset.mem_insert, Finset.mem_singleton] at hi
    rcases hi with rfl | rfl <;> simp [cw] <;> exact CharTwo.two_eq_zero)
  have h1 := congrFun this 0
  simp at h1

end RSV.Props.C01

#print axioms RSV.Props.C01.jerasure_points
#print axioms RSV.Props.C01.C01_jerasure
#print axioms RSV.Props.C01.C01_jerasure_ones
#print axioms RSV.Props.C01.C01_jerasure_rows
#print axioms RSV.Props.C01.C01_jerasure_pivot
#print axioms RSV.Props.C01.C01_jerasure_losses
