import RSV.Proofs.Columns

/-!
# C12 — `EncodeIdx` in any order, and `Update`, equal one-shot `Encode`

`encodeIdxStep A par c s` is one `EncodeIdx(s, c, par)` call; a sequence of calls is a `foldl` over
the list of shard indices.  `updateSpec` is `Update`.
-/

namespace RSV.Props.C12
open RSV.Model

variable {F : Type} [Field F] {d p len : ℕ}

/-- general form: any starting parity, any list of indices (duplicates allowed): byte `k` of
parity `r` grows by the list sum of `A r c * (data c)[k]` -/
theorem C12_idx_general (A : Mat F p d) (data : Fin d → Shard F len) (order : List (Fin d))
    (par0 : Fin p → Shard F len) (r : Fin p) (k : Fin len) :
    ((order.foldl (fun par c => encodeIdxStep A par c (data c)) par0) r)[k]
      = (par0 r)[k] + (order.map fun c => A.get r c * (data c)[k]).sum :=
  foldl_encodeIdxStep_getElem A data order par0 r k

/-- partial delivery: after the shards in `order` (no duplicates) the parity is the encoding of
the data with the undelivered shards zeroed — so progressive encoding is well defined at every
stage -/
theorem C12_idx_partial (A : Mat F p d) (data : Fin d → Shard F len) (order : List (Fin d))
    (hnd : order.Nodup) :
    order.foldl (fun par c => encodeIdxStep A par c (data c)) (fun _ => Vector.replicate len 0)
      = encodeSpec A (fun c => if c ∈ order then data c else Vector.replicate len 0) := by
  refine parity_ext fun r k => ?_
  rw [foldl_encodeIdxStep_nodup A data order hnd, encodeSpec_getElem]
  simp only [Fin.getElem_fin, Vector.getElem_replicate, zero_add]
  refine Finset.sum_congr rfl fun c _ => ?_
  split <;> simp

example : ([] : List (Fin 2)).Nodup ∧ ([0] : List (Fin 2)).Nodup := by decide

/-- starting from zeroed parity, feeding every data shard exactly once in any order gives the
parity of `Encode` -/
theorem C12_idx_any_order (A : Mat F p d) (data : Fin d → Shard F len) (order : List (Fin d))
    (hperm : order.Perm (List.finRange d)) :
    order.foldl (fun par c => encodeIdxStep A par c (data c)) (fun _ => Vector.replicate len 0)
      = encodeSpec A data := by
  rw [C12_idx_partial A data order (hperm.nodup_iff.mpr (List.nodup_finRange d))]
  congr 1
  funext c
  rw [if_pos (hperm.mem_iff.mpr (List.mem_finRange c))]

example (d : ℕ) : (List.finRange d).Perm (List.finRange d) ∧
    (List.finRange d).reverse.Perm (List.finRange d) :=
  ⟨List.Perm.refl _, List.reverse_perm _⟩

/-- Update: for any set of changed shards (`newData c = some s`), with old copies present for the
changed ones, parity becomes the parity of the updated data set; unchanged shards may be absent
(`none`), and whatever is supplied as the old copy of an unchanged shard is ignored -/
theorem C12_update (A : Mat F p d) (dataOld : Fin d → Shard F len)
    (old : Fin d → Option (Shard F len)) (newData : Fin d → Option (Shard F len))
    (hold : ∀ c, (newData c).isSome → old c = some (dataOld c)) :
    updateSpec A old (encodeSpec A dataOld) newData
      = encodeSpec A (fun c => (newData c).getD (dataOld c)) := by
  refine parity_ext fun r k => ?_
  rw [updateSpec_getElem, encodeSpec_getElem, encodeSpec_getElem, ← Finset.sum_add_distrib]
  refine Finset.sum_congr rfl fun c _ => ?_
  rcases hn : newData c with _ | nw
  · rw [updTerm_none A old newData r k c hn]; simp
  · rw [updTerm_some A old newData r k c nw (dataOld c) hn (hold c (by simp [hn]))]
    simp only [Option.getD_some]
    ring

/-- the statement in the form with the (redundant) hypothesis that every supplied old copy is the
real one -/
theorem C12_update' (A : Mat F p d) (dataOld : Fin d → Shard F len)
    (old : Fin d → Option (Shard F len)) (newData : Fin d → Option (Shard F len))
    (hold : ∀ c, (newData c).isSome → old c = some (dataOld c))
    (_hold' : ∀ c s, old c = some s → s = dataOld c) :
    updateSpec A old (encodeSpec A dataOld) newData
      = encodeSpec A (fun c => (newData c).getD (dataOld c)) :=
  C12_update A dataOld old newData hold

/-- non-vacuity of `C12_update`: one shard of two changed, old copy supplied for it only -/
example (dataOld : Fin 2 → Shard F len) (s : Shard F len) :
    ∃ (old newData : Fin 2 → Option (Shard F len)),
      (∀ c, (newData c).isSome → old c = some (dataOld c)) ∧
      (∀ c s, old c = some s → s = dataOld c) ∧ newData 0 = some s ∧ old 1 = none :=
  ⟨fun c => if c = 0 then some (dataOld 0) else none, fun c => if c = 0 then some s else none, by
    intro c; by_cases h : c = 0 <;> simp [h], by
    intro c s'; by_cases h : c = 0 <;> simp [h]; exact fun h => h.symm, by simp, by simp⟩

/-- Update with nothing changed is the identity on parity (any parity, any old copies) -/
theorem C12_update_none (A : Mat F p d) (old : Fin d → Option (Shard F len))
    (par : Fin p → Shard F len) :
    updateSpec A old par (fun _ => none) = par := by
  refine parity_ext fun r k => ?_
  rw [updateSpec_getElem, Finset.sum_eq_zero fun c _ => updTerm_none A old _ r k c rfl, add_zero]

end RSV.Props.C12

#print axioms RSV.Props.C12.C12_idx_general
#print axioms RSV.Props.C12.C12_idx_partial
#print axioms RSV.Props.C12.C12_idx_any_order
#print axioms RSV.Props.C12.C12_update
#print axioms RSV.Props.C12.C12_update'
#print axioms RSV.Props.C12.C12_update_none
