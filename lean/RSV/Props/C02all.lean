import RSV.Props.C02
import RSV.Props.C17invert
/-! C02 umbrella: the reconstruction theorems (`RSV.Props.C02`, about `RSV.Model.invert`) and the theorem that the package's
`matrix.Invert`, as regenerated from `matrix.go`, is that inversion (`RSV.Props.C17invert.C17m_Invert`) -/
