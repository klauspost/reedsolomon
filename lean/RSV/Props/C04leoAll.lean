import RSV.Proofs.LCHSched.All
import RSV.Props.C04lch
import RSV.Proofs.LCHBridge.Instances
/-!
# C04 / C01 (Leopard) — for EVERY admissible configuration, GF(2^8) and GF(2^16)

`RSV.Props.C04lch` proves, for any table context with a field reading `F` whose skew table is correct
(`SkewOK F`), that the executable schedule model `Leo.encode` (radix-4 butterfly loops, truncation, groups of
`m = ceilPow2 p` shards, log/exp table arithmetic) computes the systematic code of the explicit generalised
Cauchy matrix `encMatrix`, and that this matrix is MDS.  `RSV.Proofs.LCHBridge.Instances` supplies the two
real contexts: `F8` (`mkCtx P8` read in `GF256` through the Cantor map) and `F16` (`mkCtx P16` in `GF65536`),
and `RSV.Proofs.LCHBridge.Skew` proves `SkewOK` structurally from the loops of `initFFTSkew` (no table
evaluation), hence `skewOK8`, `skewOK16`.

Instantiated here: no configuration is enumerated and no certificate is run —

* `C04_leo8_encode_all`, `C04_leo16_encode_all`: for all `0 < d`, `p ≤ 2^64` with `d + ceilPow2 p ≤ 256`
  (resp. `65536`) — exactly the shapes `New` accepts for the Leopard codecs — and every well-formed input of
  symbols below the field order: every parity symbol is the codeword coordinate of `encMatrix`, and `encMatrix`
  is MDS;
* `C01_leo8_any_d_all`, `C01_leo16_any_d_all`: any `d` of the `d + p` symbols (data and parity symbols as the
  model computes them) at a symbol position determine the data symbols there.
-/
namespace RSV.Props.C04leoAll
open RSV RSV.Model.Leo RSV.LCH RSV.LCHBridge RSV.Proofs.LeoSched RSV.Props.C04lch

/-- Leopard GF(2^8): Encode is the LCH code and the code is MDS, for every admissible `(d, p)` -/
theorem C04_leo8_encode_all {d p : ℕ} (hd : 0 < d) (hp64 : p ≤ 2 ^ 64) (hadm : d + ceilPow2 p ≤ 256) :
    ∃ t, ceilPow2 p = 2 ^ t ∧ CodeTheory.MDS (encMatrix (beta F8) 8 t p d) ∧
      ∀ (len : ℕ) (data : Array Vec), d ≤ data.size → WF len data → SymsBelow 256 data →
        ∀ (r : Fin p) (s : ℕ), s < len →
          F8.φ (((encode (mkCtx P8) d p len data)[r.val]!)[s]!) =
            CodeTheory.cw (encMatrix (beta F8) 8 t p d) (fun c => F8.φ ((data[c.val]!)[s]!)) (Sum.inr r) :=
  C04_encode_lch_all F8 skewOK8 hd hp64 hadm

/-- Leopard GF(2^16): the same for every admissible `(d, p)` up to 65,536 shards -/
theorem C04_leo16_encode_all {d p : ℕ} (hd : 0 < d) (hp64 : p ≤ 2 ^ 64) (hadm : d + ceilPow2 p ≤ 65536) :
    ∃ t, ceilPow2 p = 2 ^ t ∧ CodeTheory.MDS (encMatrix (beta F16) 16 t p d) ∧
      ∀ (len : ℕ) (data : Array Vec), d ≤ data.size → WF len data → SymsBelow 65536 data →
        ∀ (r : Fin p) (s : ℕ), s < len →
          F16.φ (((encode (mkCtx P16) d p len data)[r.val]!)[s]!) =
            CodeTheory.cw (encMatrix (beta F16) 16 t p d) (fun c => F16.φ ((data[c.val]!)[s]!)) (Sum.inr r) :=
  C04_encode_lch_all F16 skewOK16 hd hp64 hadm

/-- Leopard GF(2^8): any `d` of the `d + p` symbols determine the data — every admissible `(d, p)` -/
theorem C01_leo8_any_d_all {d p len s : ℕ} {data data' : Array Vec}
    (hd : 0 < d) (hp64 : p ≤ 2 ^ 64) (hadm : d + ceilPow2 p ≤ 256)
    (hdsz : d ≤ data.size) (hwd : WF len data) (hbd : SymsBelow 256 data)
    (hdsz' : d ≤ data'.size) (hwd' : WF len data') (hbd' : SymsBelow 256 data') (hs : s < len)
    (S : Finset (Fin d ⊕ Fin p)) (hcard : S.card = d)
    (hdata : ∀ c : Fin d, Sum.inl c ∈ S → (data[c.val]!)[s]! = (data'[c.val]!)[s]!)
    (hpar : ∀ r : Fin p, Sum.inr r ∈ S →
      ((encode (mkCtx P8) d p len data)[r.val]!)[s]! = ((encode (mkCtx P8) d p len data')[r.val]!)[s]!) :
    ∀ c : Fin d, (data[c.val]!)[s]! = (data'[c.val]!)[s]! := by
  obtain ⟨t, hm⟩ := RSV.Proofs.LeoSched.ceilPow2_pow2 p
  exact C04_encode_any_d F8 skewOK8 hd hp64 hm hadm hdsz hwd hbd hdsz' hwd' hbd' hs S hcard hdata hpar

/-- Leopard GF(2^16): any `d` of the `d + p` symbols determine the data — every admissible `(d, p)` -/
theorem C01_leo16_any_d_all {d p len s : ℕ} {data data' : Array Vec}
    (hd : 0 < d) (hp64 : p ≤ 2 ^ 64) (hadm : d + ceilPow2 p ≤ 65536)
    (hdsz : d ≤ data.size) (hwd : WF len data) (hbd : SymsBelow 65536 data)
    (hdsz' : d ≤ data'.size) (hwd' : WF len data') (hbd' : SymsBelow 65536 data') (hs : s < len)
    (S : Finset (Fin d ⊕ Fin p)) (hcard : S.card = d)
    (hdata : ∀ c : Fin d, Sum.inl c ∈ S → (data[c.val]!)[s]! = (data'[c.val]!)[s]!)
    (hpar : ∀ r : Fin p, Sum.inr r ∈ S →
      ((encode (mkCtx P16) d p len data)[r.val]!)[s]! = ((encode (mkCtx P16) d p len data')[r.val]!)[s]!) :
    ∀ c : Fin d, (data[c.val]!)[s]! = (data'[c.val]!)[s]! := by
  obtain ⟨t, hm⟩ := RSV.Proofs.LeoSched.ceilPow2_pow2 p
  exact C04_encode_any_d F16 skewOK16 hd hp64 hm hadm hdsz hwd hbd hdsz' hwd' hbd' hs S hcard hdata hpar

/-- the field readings are the ones of `RSV.Props.C17leo` / `RSV.Props.C17gf16`: `φ` is the Cantor map into the
first-principles fields, `k` the bit width -/
theorem C04_field_readings : F8.k = 8 ∧ F16.k = 16 ∧
    (∀ a, F8.φ a = RSV.Proofs.LeoField.toGF a) ∧ (∀ a, F16.φ a = RSV.Proofs.Leo16.toGF16 a) :=
  ⟨rfl, rfl, fun _ => rfl, fun _ => rfl⟩

/-- non-vacuity: the largest GF(2^16) shape `New` accepts satisfies the hypotheses -/
example : ∃ t, ceilPow2 32768 = 2 ^ t ∧ CodeTheory.MDS (encMatrix (beta F16) 16 t 32768 32768) := by
  obtain ⟨t, h1, h2, -⟩ := C04_leo16_encode_all (d := 32768) (p := 32768) (by decide) (by decide)
    (by rw [RSV.Proofs.LeoSched.ceilPow2_eq_two_pow (t := 15) (by decide) (by decide) (by decide)])
  exact ⟨t, h1, h2⟩

end RSV.Props.C04leoAll

#print axioms RSV.Props.C04leoAll.C04_leo8_encode_all
#print axioms RSV.Props.C04leoAll.C04_leo16_encode_all
#print axioms RSV.Props.C04leoAll.C01_leo8_any_d_all
#print axioms RSV.Props.C04leoAll.C01_leo16_any_d_all
#print axioms RSV.Props.C04leoAll.C04_field_readings
