import RSV.Props.C17funcs
import RSV.Props.C04
import RSV.Props.C17leo
import RSV.Props.C04gf8
import RSV.Props.C04range
import RSV.Props.C04gf16
import RSV.Props.C04leoAll
import RSV.Props.Consts
/-!
# C04 umbrella — Leopard Encode

Structural theorems about the schedule interpreter are in `RSV.Props.C04` (symbol-locality ⇒ any
chunking, xor-linearity, scratch independence, for arbitrary step lists).  Field and table facts
for GF(2^8) are in `RSV.Props.C17leo`, the MDS certificate in `RSV.Props.C01leo`.  That the generated
schedules compute the Lin–Chung–Han code, for every admissible configuration of both fields, is
`RSV.Props.C04leoAll` (`C04_leo8_encode_all`, `C04_leo16_encode_all`).
-/
namespace RSV.Props.C04all
open RSV.Model.Leo RSV.Proofs.LeoSched RSV.Props.C04

/-- the 32 KiB work chunk of the GF(2^8) codec is a multiple of 64 bytes, the size Encode insists on -/
theorem C04_chunk_constants : RSV.Gen.workSize8 = 32768 ∧ RSV.Gen.workSize8 % 64 = 0 ∧ RSV.Gen.inversion8Bytes * 8 = RSV.Gen.order8 :=
  RSV.Props.Consts.leopard_constants

/-- chunking cannot change a symbol: encoding a shard set cut in two (at any symbol boundary) and
concatenating the results equals encoding it whole — for every configuration whose schedule
addresses rows in range (decided per configuration by the driver and reported as `sched=`) -/
theorem C04_chunk_independent (C : Ctx) (d p l₁ l₂ : Nat) (s₁ s₂ : Array Vec)
    (h₁ : WF l₁ s₁) (h₂ : WF l₂ s₂) (hs : s₁.size = s₂.size)
    (hr : ∀ s ∈ (encodeSched C d p).toList, InRange (2 * ceilPow2 p) s₁.size s) :
    encode C d p (l₁ + l₂) (rowsAppend s₁ s₂) = rowsAppend (encode C d p l₁ s₁) (encode C d p l₂ s₂) :=
  C04_encode_chunking C d p h₁ h₂ hs hr

end RSV.Props.C04all
