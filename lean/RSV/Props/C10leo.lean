import RSV.Props.C11
import RSV.Props.C05
import RSV.Props.C05bitfield

/-!
# C10 / C11 (Leopard GF(2^8) part) — the error-locator cache of `leopardFF8`

`leopardFF8.reconstruct` keeps a map from `cacheKey.cacheID()` (32 bytes: one bit per position of the
error-locator vector that is set) to the evaluated locator table `errLocs`.  The map is read and written
under `inversionMu`; on a miss the table is computed outside the lock and stored.

`keyPositions d p missing` are the positions `set` in `cacheKey` — exactly the ones `errLocs` is
initialised to 1 at (missing parity `i` at `i`, the padding `p … m`, missing data `i` at `m + i`, with
`m = ceilPow2 p`).  Under `p ≤ ceilPow2 p` and `ceilPow2 p + d ≤ 256` (all positions fit the 256-bit
key; the first follows from the second, `ceilPow2` being short of `p` only at its cap `2^64`:
`LeoSched.le_ceilPow2_of_lt`) the key determines the erasure set on `[0, d + p)`, so the fresh locator table is a function of
the key; a Go map under a mutex is a lawful cache; hence `C11_linearizable` applies
(`C10_leo8_cache`).  Sequential call histories (C10) are the schedules in which each caller's steps
are adjacent.
-/
namespace RSV.Props.C10leo
open RSV.Model.Leo RSV.Model.Memo RSV.Model.BitfieldImpl

/-- positions `cacheKey.set` is called with -/
def keyPositions (d p : ℕ) (missing : ℕ → Bool) : List ℕ :=
  ((List.range p).filter fun i => missing (d + i)) ++
  ((List.range (ceilPow2 p)).filter fun i => decide (p ≤ i)) ++
  (((List.range d).filter fun i => missing i).map fun i => ceilPow2 p + i)

theorem mem_keyPositions (d p : ℕ) (missing : ℕ → Bool) (x : ℕ) :
    x ∈ keyPositions d p missing ↔
      (x < p ∧ missing (d + x) = true) ∨ (p ≤ x ∧ x < ceilPow2 p) ∨
      (ceilPow2 p ≤ x ∧ x < ceilPow2 p + d ∧ missing (x - ceilPow2 p) = true) := by
  unfold keyPositions
  simp only [List.mem_append, List.mem_filter, List.mem_range, List.mem_map, decide_eq_true_eq]
  constructor
  · rintro ((h | h) | ⟨i, ⟨hi, hm⟩, rfl⟩)
    · exact Or.inl h
    · exact Or.inr (Or.inl ⟨h.2, h.1⟩)
    · refine Or.inr (Or.inr ⟨by omega, by omega, ?_⟩)
      rw [Nat.add_sub_cancel_left]; exact hm
  · rintro (h | h | ⟨h1, h2, h3⟩)
    · exact Or.inl (Or.inl h)
    · exact Or.inl (Or.inr ⟨h.2, h.1⟩)
    · exact Or.inr ⟨x - ceilPow2 p, ⟨by omega, h3⟩, by omega⟩

theorem keyPositions_lt (d p : ℕ) (missing : ℕ → Bool) (hp : p ≤ ceilPow2 p)
    (h : ceilPow2 p + d ≤ 256) : ∀ x ∈ keyPositions d p missing, x < 256 := by
  intro x hx
  rcases (mem_keyPositions d p missing x).mp hx with h1 | h1 | h1 <;> omega

/-- the 32-byte map key of the Go code, computed by the word-level bit-field model -/
def leo8Key (d p : ℕ) (missing : ℕ → Bool) : List ℕ :=
  (BF8.ofList (keyPositions d p missing)).cacheID

def missingOfKey (d p : ℕ) (key : List ℕ) : ℕ → Bool := fun i =>
  if i < d then RSV.Model.Bitfield.keyBit key (ceilPow2 p + i)
  else RSV.Model.Bitfield.keyBit key (i - d)

/-- if all positions fit the key (`p ≤ ceilPow2 p`, `ceilPow2 p + d ≤ 256`) the key holds the erasure
set: bit `m + i` for data shard `i`, bit `i - d` for parity shard `i` -/
theorem missingOfKey_leo8Key (d p : ℕ) (missing : ℕ → Bool) (hp : p ≤ ceilPow2 p)
    (h : ceilPow2 p + d ≤ 256) (i : ℕ) (hi : i < d + p) :
    missingOfKey d p (leo8Key d p missing) i = missing i := by
  unfold missingOfKey leo8Key
  rw [RSV.Props.C05bitfield.C05_bf8_cacheID _ (keyPositions_lt d p missing hp h)]
  by_cases hid : i < d
  · rw [if_pos hid, RSV.Props.C05bitfield.C05_cacheKey_keyBit _ _ (by omega), Bool.eq_iff_iff,
      List.contains_iff_mem, mem_keyPositions, Nat.add_sub_cancel_left]
    constructor
    · rintro (h1 | h1 | h1)
      · omega
      · omega
      · exact h1.2.2
    · exact fun hm => Or.inr (Or.inr ⟨by omega, by omega, hm⟩)
  · have hid' : d + (i - d) = i := by omega
    rw [if_neg hid, RSV.Props.C05bitfield.C05_cacheKey_keyBit _ _ (by omega), Bool.eq_iff_iff,
      List.contains_iff_mem, mem_keyPositions, hid']
    constructor
    · rintro (h1 | h1 | h1)
      · exact h1.2
      · omega
      · omega
    · exact fun hm => Or.inl ⟨by omega, hm⟩

/-- equal keys ⇒ equal erasure sets, if `p ≤ ceilPow2 p` and `ceilPow2 p + d ≤ 256`: two calls on one
encoder that hit the same map entry have the same missing shards -/
theorem C10_leo8_key_determines (d p : ℕ) (missing missing' : ℕ → Bool) (hp : p ≤ ceilPow2 p)
    (h : ceilPow2 p + d ≤ 256) (hk : leo8Key d p missing = leo8Key d p missing') :
    ∀ i, i < d + p → missing i = missing' i := fun i hi => by
  rw [← missingOfKey_leo8Key d p missing hp h i hi, hk, missingOfKey_leo8Key d p missing' hp h i hi]

variable (C : Ctx)

def locsOfKey (d p : ℕ) (key : List ℕ) : Array ℕ := errLocs C d p (missingOfKey d p key)

/-- the fresh locator table of a call is `locsOfKey` of its key (same two side conditions) -/
theorem C10_leo8_value_of_key (d p : ℕ) (missing : ℕ → Bool) (hp : p ≤ ceilPow2 p)
    (h : ceilPow2 p + d ≤ 256) :
    locsOfKey C d p (leo8Key d p missing) = errLocs C d p missing :=
  RSV.Props.C05.C05_errLocs_fn C d p _ _ (missingOfKey_leo8Key d p missing hp h)

/-- `map[K]V`: lookup finds the most recent store -/
def mapIface (K V : Type) [DecidableEq K] : Iface (List (K × V)) K V where
  get c k := (c.find? fun e => decide (e.1 = k)).map (·.2)
  insert c k v := (k, v) :: c

theorem C10_map_lawful (K V : Type) [DecidableEq K] : RSV.Props.C11.Iface.Lawful (mapIface K V) where
  get_insert_same := by
    intro c k v
    simp [mapIface]
  get_insert_other := by
    intro c k k' v hne
    have : ¬ k = k' := fun e => hne e.symm
    simp [mapIface, this]

/-- C10/C11 for the GF(2^8) locator cache, for `p ≤ ceilPow2 p` and `ceilPow2 p + d ≤ 256`.  Callers
`tid` with erasure sets `miss tid` share one encoder whose map `c0` is sound (e.g. empty).  After any
schedule the map is sound, and every finished caller holds the locator table a fresh computation
gives for its own erasure set. -/
theorem C10_leo8_cache (d p : ℕ) (hp : p ≤ ceilPow2 p) (h : ceilPow2 p + d ≤ 256)
    (miss : ℕ → ℕ → Bool) (c0 : List (List ℕ × Array ℕ))
    (hc : RSV.Props.C11.SoundC (mapIface (List ℕ) (Array ℕ)) (fun k => some (locsOfKey C d p k)) c0)
    (sched : List ℕ) :
    let s := runSchedule (mapIface (List ℕ) (Array ℕ)) (fun k => some (locsOfKey C d p k))
      (fun tid => leo8Key d p (miss tid)) (c0, fun _ => .start) sched
    RSV.Props.C11.SoundC (mapIface (List ℕ) (Array ℕ)) (fun k => some (locsOfKey C d p k)) s.1 ∧
    ∀ tid r, s.2 tid = .done r → r = some (errLocs C d p (miss tid)) := by
  intro s
  obtain ⟨h1, h2⟩ := RSV.Props.C11.C11_linearizable (mapIface (List ℕ) (Array ℕ))
    (C10_map_lawful _ _) (fun k => some (locsOfKey C d p k)) (fun tid => leo8Key d p (miss tid))
    c0 hc sched
  refine ⟨h1, fun tid r hr => ?_⟩
  rw [h2 tid r hr, C10_leo8_value_of_key C d p (miss tid) hp h]

theorem C10_leo8_empty_sound (d p : ℕ) :
    RSV.Props.C11.SoundC (mapIface (List ℕ) (Array ℕ)) (fun k => some (locsOfKey C d p k)) [] := by
  intro k v hget
  simp [mapIface] at hget

-- 4 data + 2 parity, data shard 1 and parity shard 0 missing: key bits 0 (parity 0) and 2 + 1
example : keyPositions 4 2 (fun i => i = 1 || i = 4) = [0, 3] := by decide +kernel
example : (leo8Key 4 2 (fun i => i = 1 || i = 4)).take 2 = [9, 0] := by decide +kernel
-- a different erasure set has a different key
example : leo8Key 4 2 (fun i => i = 1 || i = 4) ≠ leo8Key 4 2 (fun i => i = 1) := by decide +kernel
example : (2 : ℕ) ≤ ceilPow2 2 ∧ ceilPow2 2 + 4 ≤ 256 := by decide +kernel
-- two callers with different erasure sets and one with the first set again, interleaved: all three finish
-- with their own table (instance of the theorem; the premises hold)
example (C : Ctx) (sched : List ℕ) :
    let miss : ℕ → ℕ → Bool := fun tid i => if tid = 1 then i = 1 else (i = 1 || i = 4)
    let s := runSchedule (mapIface (List ℕ) (Array ℕ)) (fun k => some (locsOfKey C 4 2 k))
      (fun tid => leo8Key 4 2 (miss tid)) ([], fun _ => .start) sched
    ∀ tid r, s.2 tid = .done r → r = some (errLocs C 4 2 (miss tid)) :=
  (C10_leo8_cache C 4 2 (by decide +kernel) (by decide +kernel) _ [] (C10_leo8_empty_sound C 4 2) sched).2

end RSV.Props.C10leo

#print axioms RSV.Props.C10leo.mem_keyPositions
#print axioms RSV.Props.C10leo.C10_leo8_key_determines
#print axioms RSV.Props.C10leo.C10_leo8_value_of_key
#print axioms RSV.Props.C10leo.C10_map_lawful
#print axioms RSV.Props.C10leo.C10_leo8_cache
#print axioms RSV.Props.C10leo.C10_leo8_empty_sound
