import RSV.Props.C17buildMatrix
import RSV.Props.C17matrix
import RSV.Props.C01
import RSV.Props.C01leo
import RSV.Props.C01leo16
import RSV.Props.C01jerasure
import RSV.Props.C04leoAll
/-! C01 umbrella: every code the library builds is MDS.  The GF(2^8) matrix families
(`RSV.Props.C01`, Jerasure in `C01jerasure`); the Leopard generators through the driver's
certificate (`C01leo`, `C01leo16`) and, for every admissible configuration, as the matrix the
schedule computes (`C04leoAll`); the regenerated Go builders return the model's matrices
(`C17buildMatrix`, `C17matrix`). -/
namespace RSV.Props.C01all
open RSV RSV.Model RSV.CodeTheory RSV.Props.C01

/-- the three closed-form GF(2^8) families are MDS for every admissible configuration -/
theorem C01_families (d p : ℕ) (hd : 0 < d) (hp : 0 < p) (h : d + p ≤ 256) :
    MDS (parityFn (buildMatrixCauchy GF256.ofNat d (d + p))) ∧
    (∃ G, buildMatrix GF256.ofNat d (d + p) (Nat.le_add_right d p) = some G ∧ MDS (parityFn G)) ∧
    (p = 1 → MDS (parityFn (buildXorMatrix (F := GF256) d (d + 1)))) :=
  ⟨C01_cauchy d p hd hp h,
   let ⟨G, hG, _, hM⟩ := C01_default d p hd hp h; ⟨G, hG, hM⟩,
   fun hp1 => C01_xor d hd (by omega)⟩

/-- what the driver's per-configuration certificate establishes (Jerasure, and any matrix read
from the running implementation) -/
theorem C01_certificate {d p : ℕ} (h : d + p ≤ 256) (inf : Option (Fin p)) (A : Mat GF256 p d)
    (u : Fin p → GF256) (v : Fin d → GF256)
    (hc : certGC A (fun r => if inf = some r then none else some (GF256.ofNat (d + r.val)))
      (fun c => GF256.ofNat c.val) u v = true) : MDS (fun r c => A.get r c) :=
  C01_certGC h inf A u v hc

/-- MDS implies: the loss of any `p` or fewer shards never makes the data unrecoverable -/
theorem C01_losses {d p : ℕ} {A : Fin p → Fin d → GF256} (hA : MDS A) (lost : Finset (Fin d ⊕ Fin p))
    (hl : lost.card ≤ p) (t t' : Fin d → GF256) (heq : ∀ i, i ∉ lost → cw A t i = cw A t' i) : t = t' :=
  C01_any_p_losses hA lost hl t t' heq

end RSV.Props.C01all
