import RSV.Proofs.GenFuncsLeo
/-!
# C17 (functions) — the scalar Go functions, regenerated from the Go source, equal the model / specification

`RSV.Gen.Funcs` is regenerated on every run from the current Go sources by the Go-subset → Lean
translator of `tools/extract` (Go's wrap-around arithmetic, conversions, table reads, panics and loops
made explicit).  Each theorem below states, for all inputs in the range of the Go parameter types (or in the stated
sub-range: `galExp` exponents below 2^55, `ceilPow2` arguments in `[1, 2^62]`),
that the regenerated definition equals the hand-written function the other theorems are about:
`gmul` / `gpow` / the field operations of `GF256` (galois.go), and `addMod` / `subMod` / `mulLog` /
`ceilPow2` / `isNeeded` of the executable Leopard model (leopard.go, leopard8.go).
`some v` = the Go function returns `v`; `none` = it panics.  A change of one of these Go functions
changes the regenerated definition and breaks the corresponding proof obligation.
-/
namespace RSV.Props.C17funcs
open RSV.Model RSV.Model.BitfieldImpl

/-- `galAdd` is xor — the addition of `GF256` -/
theorem C17f_galAdd (x y : GF256) : Gen.galAdd x.val y.val = (x + y).val := rfl

/-- `galMultiply` is the shift-and-reduce product, for all byte operands -/
theorem C17f_galMultiply (a b : Nat) (ha : a < 256) (hb : b < 256) : Gen.galMultiply a b = gmul a b :=
  Tables.mulTable_ok a b ha hb

/-- `galDivide a b` returns the field quotient when both operands are non-zero … -/
theorem C17f_galDivide (a b : Nat) (ha : a < 256) (hb : b < 256) (ha0 : a ≠ 0) (hb0 : b ≠ 0) :
    Gen.galDivide a b = some (GF256.ofNat a / GF256.ofNat b).val :=
  GenFuncs.galDivide_field ha hb ha0 hb0

/-- … returns `0` for a zero dividend whatever the divisor (also `0 / 0`) … -/
theorem C17f_galDivide_zero (b : Nat) : Gen.galDivide 0 b = some 0 := GenFuncs.galDivide_zero_left b

/-- … and panics for a non-zero dividend and a zero divisor -/
theorem C17f_galDivide_panic (a : Nat) (ha0 : a ≠ 0) : Gen.galDivide a 0 = none :=
  GenFuncs.galDivide_zero_right ha0

/-- `galOneOver` returns the field inverse of a non-zero byte and panics on `0` -/
theorem C17f_galOneOver (a : Nat) (ha : a < 256) (ha0 : a ≠ 0) :
    Gen.galOneOver a = some ((GF256.ofNat a)⁻¹).val := GenFuncs.galOneOver_field ha ha0

theorem C17f_galOneOver_panic : Gen.galOneOver 0 = none := GenFuncs.galOneOver_zero

/-- `galExp a n = a^n` (repeated `gmul`) for every byte `a` and every exponent `0 ≤ n < 2^55`
(beyond that `int(logA) * n` can overflow `int`; the callers pass `n < 65536`); the reduction loop
terminates -/
theorem C17f_galExp (a n : Nat) (ha : a < 256) (hn : n < 2 ^ 55) : Gen.galExp a (n : Int) = some (gpow a n) :=
  GenFuncs.galExp_eq a n ha hn

theorem C17f_addMod (a b : Nat) (ha : a < 65536) (hb : b < 65536) : Gen.addMod a b = Leo.addMod Leo.P16 a b :=
  GenFuncs.addMod_eq a b

theorem C17f_subMod (a b : Nat) (ha : a < 65536) (hb : b < 65536) : Gen.subMod a b = Leo.subMod Leo.P16 a b :=
  GenFuncs.subMod_eq ha hb

/-- `mulLog`, with the run-time tables `expLUT`, `logLUT` as parameters (entries of `logLUT` are `ffe`) -/
theorem C17f_mulLog (expLUT logLUT : Array Nat) (a b : Nat) (hl : logLUT[a]! < 65536) (hb : b < 65536) :
    Gen.mulLog expLUT logLUT a b = Leo.mulLog Leo.P16 ⟨logLUT, expLUT⟩ a b := GenFuncs.mulLog_eq expLUT logLUT a b

theorem C17f_fwht2alt (a b : Nat) (ha : a < 65536) (hb : b < 65536) :
    Gen.fwht2alt a b = (Leo.addMod Leo.P16 a b, Leo.subMod Leo.P16 a b) := GenFuncs.fwht2alt_eq ha hb

/-- `ceilPow2` (via `bits.LeadingZeros`) equals the doubling loop of the model for `1 ≤ n ≤ 2^62`
(Go returns `0` for `n = 0` and a negative number above `2^62`; the callers pass `1 ≤ n ≤ 65536`) -/
theorem C17f_ceilPow2 (n : Nat) (h1 : 1 ≤ n) (h2 : n ≤ 2 ^ 62) :
    Gen.ceilPow2 (n : Int) = some ((Leo.ceilPow2 n : Nat) : Int) := GenFuncs.ceilPow2_eq n h1 h2

/-- `(*errorBitfield).isNeeded` for every level `≥ 1` and every `bit < 65536`; the receiver's fields are
parameters -/
theorem C17f_isNeeded16 (words bigWords : Array (Array Nat)) (biggestWords : Array Nat) (m bit : Nat)
    (hm : 1 ≤ m) (hb : bit < 65536) :
    Gen.errorBitfield_isNeeded words bigWords biggestWords (m : Int) bit =
      some (BF16.isNeeded ⟨words, bigWords, biggestWords⟩ m bit) :=
  GenFuncs.isNeeded16_eq words bigWords biggestWords m bit hm hb

/-- level `0` (never queried) panics in Go (`Words[-1]`) -/
theorem C17f_isNeeded16_level0 (words bigWords : Array (Array Nat)) (biggestWords : Array Nat) (bit : Nat) :
    Gen.errorBitfield_isNeeded words bigWords biggestWords 0 bit = none :=
  GenFuncs.isNeeded16_level0 words bigWords biggestWords bit

theorem C17f_addMod8 (a b : Nat) (ha : a < 256) (hb : b < 256) : Gen.addMod8 a b = Leo.addMod Leo.P8 a b :=
  GenFuncs.addMod8_eq a b

theorem C17f_subMod8 (a b : Nat) (ha : a < 256) (hb : b < 256) : Gen.subMod8 a b = Leo.subMod Leo.P8 a b :=
  GenFuncs.subMod8_eq ha hb

theorem C17f_mulLog8 (expLUT logLUT : Array Nat) (a b : Nat) (hl : logLUT[a]! < 256) (hb : b < 256) :
    Gen.mulLog8 expLUT logLUT a b = Leo.mulLog Leo.P8 ⟨logLUT, expLUT⟩ a b := GenFuncs.mulLog8_eq expLUT logLUT a b

theorem C17f_fwht2alt8 (a b : Nat) (ha : a < 256) (hb : b < 256) :
    Gen.fwht2alt8 a b = (Leo.addMod Leo.P8 a b, Leo.subMod Leo.P8 a b) := GenFuncs.fwht2alt8_eq ha hb

/-- `(*errorBitfield8).isNeeded` for every level and every `bit < 256` -/
theorem C17f_isNeeded8 (words : Array (Array Nat)) (m bit : Nat) (hb : bit < 256) :
    Gen.errorBitfield8_isNeeded words (m : Int) (bit : Int) = some (BF8.isNeeded ⟨words⟩ m bit) :=
  GenFuncs.isNeeded8_eq words m bit hb

/-- a `bit ≥ 256` at a level that reads the words panics in Go (index out of range) -/
theorem C17f_isNeeded8_panic (words : Array (Array Nat)) (m bit : Nat) (hm1 : 1 ≤ m) (hm7 : m ≤ 7)
    (hb : 256 ≤ bit) (hb63 : bit < 2 ^ 63) :
    Gen.errorBitfield8_isNeeded words (m : Int) (bit : Int) = none :=
  GenFuncs.isNeeded8_oob words m bit hm1 hm7 hb hb63

/-! non-vacuity: the hypotheses are satisfiable and the statements are about concrete values -/

example : Gen.galMultiply 7 9 = gmul 7 9 := C17f_galMultiply 7 9 (by decide) (by decide)
example : Gen.galMultiply 7 9 = 63 := by decide +kernel
example : Gen.galDivide 63 9 = some (GF256.ofNat 63 / GF256.ofNat 9).val :=
  C17f_galDivide 63 9 (by decide) (by decide) (by decide) (by decide)
example : Gen.galDivide 63 9 = some 7 := by decide +kernel
example : Gen.galDivide 5 0 = none := C17f_galDivide_panic 5 (by decide)
example : Gen.galOneOver 2 = some ((GF256.ofNat 2)⁻¹).val := C17f_galOneOver 2 (by decide) (by decide)
example : Gen.galOneOver 2 = some 142 := by decide +kernel
example : Gen.galExp 3 1000 = some (gpow 3 1000) := C17f_galExp 3 1000 (by decide) (by decide)
example : Gen.addMod 65535 65535 = Leo.addMod Leo.P16 65535 65535 := C17f_addMod _ _ (by decide) (by decide)
example : Gen.addMod 65535 65535 = 65535 ∧ Gen.subMod 3 5 = 65533 ∧ Gen.subMod8 0 1 = 254 := by decide +kernel
example : Gen.ceilPow2 5 = some ((Leo.ceilPow2 5 : Nat) : Int) := C17f_ceilPow2 5 (by decide) (by decide)
example : Gen.ceilPow2 5 = some 8 := by decide +kernel
example : Gen.errorBitfield8_isNeeded #[#[0, 0, 4, 0], #[], #[], #[], #[], #[], #[]] 1 130 = some true := by decide +kernel
example : Gen.errorBitfield8_isNeeded #[#[0, 0, 4, 0], #[], #[], #[], #[], #[], #[]] 1 130
    = some (BF8.isNeeded ⟨#[#[0, 0, 4, 0], #[], #[], #[], #[], #[], #[]]⟩ 1 130) := C17f_isNeeded8 _ 1 130 (by decide)

end RSV.Props.C17funcs

#print axioms RSV.Props.C17funcs.C17f_galAdd
#print axioms RSV.Props.C17funcs.C17f_galMultiply
#print axioms RSV.Props.C17funcs.C17f_galDivide
#print axioms RSV.Props.C17funcs.C17f_galDivide_zero
#print axioms RSV.Props.C17funcs.C17f_galDivide_panic
#print axioms RSV.Props.C17funcs.C17f_galOneOver
#print axioms RSV.Props.C17funcs.C17f_galOneOver_panic
#print axioms RSV.Props.C17funcs.C17f_galExp
#print axioms RSV.Props.C17funcs.C17f_addMod
#print axioms RSV.Props.C17funcs.C17f_subMod
#print axioms RSV.Props.C17funcs.C17f_mulLog
#print axioms RSV.Props.C17funcs.C17f_fwht2alt
#print axioms RSV.Props.C17funcs.C17f_ceilPow2
#print axioms RSV.Props.C17funcs.C17f_isNeeded16
#print axioms RSV.Props.C17funcs.C17f_isNeeded16_level0
#print axioms RSV.Props.C17funcs.C17f_addMod8
#print axioms RSV.Props.C17funcs.C17f_subMod8
#print axioms RSV.Props.C17funcs.C17f_mulLog8
#print axioms RSV.Props.C17funcs.C17f_fwht2alt8
#print axioms RSV.Props.C17funcs.C17f_isNeeded8
#print axioms RSV.Props.C17funcs.C17f_isNeeded8_panic
