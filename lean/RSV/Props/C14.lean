import RSV.Proofs.Streams
/-!
# C14 — streaming ≡ in-memory (fault-free readers and writers)

Model: `RSV.Model.St`.  Fault-free reader `cleanRd data = ⟨data, none⟩`, fresh writer `cleanWr = ⟨[], none, false⟩`.
"Independent of fragmentation" lives in `readFull`: the model has no fragmentation parameter.

Column-locality of the in-memory codec (hypotheses of the loop theorems):
* `EncLocal C`: on `C.d` rows of one non-zero length `C.encode` yields `C.p` rows, and
  `C.encode (zipWith (++) b₁ b₂) = zipWith (++) (C.encode b₁) (C.encode b₂)` for two such inputs;
* `VerLocal C`: `C.verify (zipWith (++) b₁ b₂) = (C.verify b₁ && C.verify b₂)` on `C.d + C.p` rows;
* `RecOK C dataOnly want os orig L`: on every column window `[a, a+b) ⊆ [0, L)` of the present shards
  `C.reconstruct` returns rows that agree with the windows of `orig` at the wanted indices.
`EncLocal` and `VerLocal` are discharged for the toy codec `toy` (2 data + 1 xor parity) only, `RecOK`
for `toy` with data shard 1 missing (`toy_recOK_xor`).  Nothing here connects them to
`Model.encodeSpec` / `verifySpec`; `C03_local` / `C03_linear` are the raw material.
-/
namespace RSV.Props.C14
open RSV.Model.St RSV.Proofs.Streams

theorem C14_readFull_clean (data : List Nat) (want : Nat) :
    readFull ⟨data, none⟩ want =
      (data.take want,
       (if want ≤ data.length then ReadOutcome.full
        else if data = [] then ReadOutcome.eof else ReadOutcome.unexpectedEOF),
       ⟨data.drop want, none⟩) := readFull_clean data want

theorem C14_readFull_clean_outcome (data : List Nat) (want : Nat) :
    ((readFull ⟨data, none⟩ want).2.1 = .full ↔ want ≤ data.length) ∧
    ((readFull ⟨data, none⟩ want).2.1 = .eof ↔ data = [] ∧ 0 < want) ∧
    ((readFull ⟨data, none⟩ want).2.1 = .unexpectedEOF ↔ data ≠ [] ∧ data.length < want) ∧
    (readFull ⟨data, none⟩ want).2.1 ≠ .error := by
  rw [C14_readFull_clean]
  cases data with
  | nil => by_cases h : want = 0 <;> simp [h] <;> omega
  | cons x xs => by_cases h : want ≤ xs.length + 1 <;> simp [h] <;> omega

theorem C14_readShards_equal (B n : Nat) (hB : 0 < B) (ss : List (List Nat)) (hne : ss ≠ [])
    (hlen : ∀ s ∈ ss, s.length = n) :
    readShards (List.replicate ss.length B) (ss.map fun s => some (cleanRd s)) =
      if n = 0 then .eof (ss.map fun s => some (cleanRd (s.drop B)))
      else .ok (ss.map (List.take B)) (ss.map fun s => some (cleanRd (s.drop B))) := by
  have e : (ss.map fun s => some (cleanRd (s.drop B))) = cl (ss.map (List.drop B)) := by simp [cl]
  rw [e]
  show readShards _ (cl ss) = _
  by_cases hn : n = 0
  · subst hn; rw [if_pos rfl]; exact readShards_cl_eof B hB ss hne hlen
  · rw [if_neg hn]
    exact readShards_cl_ok B (min B n) (by omega) ss (fun s hs => by rw [hlen s hs])

/-- streaming Encode = in-memory Encode of the whole streams, for `C.d` fault-free streams of one
common length `L ≥ 1`, `C.p` fresh writers, block size `B ≥ 1` and a column-local codec (`EncLocal`). -/
theorem C14_encode (C : BlockCodec) (hC : EncLocal C) (hd0 : 0 < C.d) (conc : Bool) (B L : Nat)
    (hB : 1 ≤ B) (hL : 1 ≤ L) (streams : List (List Nat)) (hd : streams.length = C.d)
    (hlen : ∀ s ∈ streams, s.length = L) :
    encode C conc B (streams.map fun s => some (cleanRd s)) (List.replicate C.p (some cleanWr)) =
      ⟨none, (C.encode streams).map fun row => some ⟨row, none, false⟩⟩ := by
  show encode C conc B (cl streams) _ = _
  obtain ⟨s, hs⟩ := List.exists_mem_of_ne_nil _ (ne_nil_of_length hd hd0)
  have hfuel := fuel_cl hs B
  rw [hlen s hs] at hfuel
  rw [encode_eq_loop C conc B (by simpa using hd) (by simp), replicate_cleanWr, length_cl,
    encodeLoop_clean C hC conc hd0 hB _ L hL hfuel streams hd hlen _ (by simp) 0,
    zipWith_nil_left C.p _ (hC.len streams L hd hL hlen)]
  rfl

/-- writer `j` has received exactly row `j` of the in-memory parity of the whole streams -/
theorem C14_encode_writer (C : BlockCodec) (hC : EncLocal C) (hd0 : 0 < C.d) (conc : Bool) (B L : Nat)
    (hB : 1 ≤ B) (hL : 1 ≤ L) (streams : List (List Nat)) (hd : streams.length = C.d)
    (hlen : ∀ s ∈ streams, s.length = L) (j : Nat) (hj : j < C.p) :
    (encode C conc B (streams.map fun s => some (cleanRd s)) (List.replicate C.p (some cleanWr))).err = none ∧
    ∃ h : j < (C.encode streams).length,
      (encode C conc B (streams.map fun s => some (cleanRd s)) (List.replicate C.p (some cleanWr))).writers[j]? =
        some (some ⟨(C.encode streams)[j], none, false⟩) := by
  rw [C14_encode C hC hd0 conc B L hB hL streams hd hlen]
  have hl := hC.len streams L hd hL hlen
  exact ⟨rfl, by omega, by simp [hl, hj]⟩

/-- all streams empty: `ErrShardNoData`, nothing written -/
theorem C14_encode_empty (C : BlockCodec) (hd0 : 0 < C.d) (conc : Bool) (B : Nat) (hB : 1 ≤ B)
    (streams : List (List Nat)) (hd : streams.length = C.d) (hlen : ∀ s ∈ streams, s.length = 0)
    (writers : List (Option Wr)) (hp : writers.length = C.p) :
    encode C conc B (streams.map fun s => some (cleanRd s)) writers = ⟨some .shardNoData, writers⟩ := by
  show encode C conc B (cl streams) _ = _
  rw [encode_eq_loop C conc B (by simpa using hd) hp, length_cl,
    encodeLoop_eof C conc _ B hB streams (ne_nil_of_length hd hd0) hlen]
  rfl


/-- streaming Verify = in-memory Verify of the whole streams, for `C.d + C.p` fault-free streams of
one common length `L ≥ 1`, block size `B ≥ 1` and a column-local codec (`VerLocal`). -/
theorem C14_verify (C : BlockCodec) (hC : VerLocal C) (hpos : 0 < C.d + C.p) (B L : Nat)
    (hB : 1 ≤ B) (hL : 1 ≤ L) (streams : List (List Nat)) (hd : streams.length = C.d + C.p)
    (hlen : ∀ s ∈ streams, s.length = L) :
    verify C B (streams.map fun s => some (cleanRd s)) = (C.verify streams, none) := by
  show verify C B (cl streams) = _
  have hne := ne_nil_of_length hd hpos
  obtain ⟨s, hs⟩ := List.exists_mem_of_ne_nil _ hne
  have hfuel := fuel_cl hs B
  rw [hlen s hs] at hfuel
  rw [verify_eq_loop C B (by simpa using hd), length_cl,
    verifyLoop_clean C hC hB _ L hL hfuel streams hne hd hlen 0]

/-- all streams empty: `ErrShardNoData` -/
theorem C14_verify_empty (C : BlockCodec) (hpos : 0 < C.d + C.p) (B : Nat) (hB : 1 ≤ B)
    (streams : List (List Nat)) (hd : streams.length = C.d + C.p) (hlen : ∀ s ∈ streams, s.length = 0) :
    verify C B (streams.map fun s => some (cleanRd s)) = (false, some .shardNoData) := by
  show verify C B (cl streams) = _
  rw [verify_eq_loop C B (by simpa using hd), length_cl,
    verifyLoop_eof C _ B hB streams (ne_nil_of_length hd hpos) hlen]
  rfl

/-- fresh fault-free fill writers at the wanted indices, nil elsewhere -/
def fillOf (want : List Bool) : List (Option Wr) := want.map fun w => if w then some cleanWr else none

theorem fillOf_eq : ∀ (want : List Bool), fillOf want = wsOf (maskRows want (List.replicate want.length []))
  | [] => rfl
  | w :: want => by
    have ih := fillOf_eq want
    unfold fillOf wsOf maskRows at *
    rw [List.length_cons, List.replicate_succ, List.zipWith_cons_cons, List.map_cons, List.map_cons, ih]
    cases w <;> rfl

theorem wsOf_maskRows : ∀ (want : List Bool) (rows : List (List Nat)),
    wsOf (maskRows want rows) =
      List.zipWith (fun w r => if w then some (⟨r, none, false⟩ : Wr) else none) want rows
  | [], _ => by simp [wsOf, maskRows]
  | _ :: _, [] => by simp [wsOf, maskRows]
  | w :: want, r :: rows => by
    have := wsOf_maskRows want rows
    simp only [wsOf, maskRows] at this
    cases w <;> simp [wsOf, maskRows, this, wrOf]

/-- which in-memory call is made: `ReconstructData` (`dataOnly`) iff no parity index has a fill writer -/
theorem C14_reconstruct_dataOnly (C : BlockCodec) (conc : Bool) (B : Nat) (valid : List (Option Rd))
    (fill : List (Option Wr)) (hv : valid.length = C.d + C.p) (hf : fill.length = C.d + C.p)
    (hdisj : (valid.zip fill).any (fun (v, f) => v.isSome && f.isSome) = false) :
    reconstruct C conc B valid fill =
      reconLoop C conc (!((fill.drop C.d).any Option.isSome)) B
        (((valid.filterMap id).foldl (fun m r => max m r.data.length) 0) / B + 3)
        (List.replicate (C.d + C.p) B) valid fill 0 ∧
    ((!((fill.drop C.d).any Option.isSome)) = true ↔ ∀ w ∈ fill.drop C.d, w = none) := by
  constructor
  · rw [reconstruct_eq_loop C conc B hv hf hdisj, hv]
  · simp only [Bool.not_eq_true', List.any_eq_false]
    constructor
    · intro h w hw
      have := h w hw
      cases w with
      | none => rfl
      | some _ => simp at this
    · intro h w hw
      rw [h w hw]; simp

/-- streaming Reconstruct = the original shards (block size `B ≥ 1`).  `os`: the valid streams
(`none` = missing), at least one, all of length `L ≥ 1`; `want`: the indices with a (fresh, fault-free) fill writer, disjoint from the valid ones;
`RecOK`: in-memory `Reconstruct`/`ReconstructData` (the variant chosen by the model) returns, on every
column window of the present shards, the windows of the original shards `orig` at the wanted indices.
Then there is no error and fill writer `i` has received the whole original shard `orig[i]`. -/
theorem C14_reconstruct (C : BlockCodec) (conc : Bool) (B L : Nat) (hB : 1 ≤ B) (hL : 1 ≤ L)
    (os : List (Option (List Nat))) (want : List Bool) (orig : List (List Nat))
    (hos : os.length = C.d + C.p) (hwant : want.length = C.d + C.p) (horig : orig.length = C.d + C.p)
    (hrows : ∀ r ∈ orig, r.length = L) (hlen : ∀ s, some s ∈ os → s.length = L) (hex : ∃ s, some s ∈ os)
    (hdisj : ((os.map (Option.map cleanRd)).zip (fillOf want)).any (fun (v, f) => v.isSome && f.isSome) = false)
    (hrec : RecOK C (!(((fillOf want).drop C.d).any Option.isSome)) want os orig L) :
    reconstruct C conc B (os.map (Option.map cleanRd)) (fillOf want) =
      ⟨none, List.zipWith (fun w r => if w then some (⟨r, none, false⟩ : Wr) else none) want orig⟩ := by
  rw [(C14_reconstruct_dataOnly C conc B (os.map (Option.map cleanRd)) (fillOf want) (by simpa using hos)
    (by simpa [fillOf] using hwant) hdisj).1]
  show reconLoop C conc _ B (total (rdsOf os) / B + 3) _ (rdsOf os) _ 0 = _
  obtain ⟨s, hs⟩ := hex
  have hfuel := fuel_ok (rds := rdsOf os) (r := cleanRd s) (List.mem_map.2 ⟨some s, hs, rfl⟩) B
  rw [show (cleanRd s).data.length = L from hlen s hs] at hfuel
  have hl : LensOK B (List.replicate (C.d + C.p) B) os := hos ▸ LensOK.replicate B os
  have := reconLoop_clean C conc (!(((fillOf want).drop C.d).any Option.isSome)) B want hB _ L hL hfuel
    _ os hl hlen ⟨s, hs⟩ orig (List.replicate want.length []) (by omega) hrows (by simp) hrec 0
  rwa [← fillOf_eq, zipWith_nil_left want.length orig (by omega), wsOf_maskRows] at this

/-- `Split` of a fault-free source holding exactly `size ≥ 1` bytes onto `d` fresh writers: no error;
the writers receive the consecutive `perShard`-blocks of `data ++ zeros` -/
theorem C14_split (d p : Nat) (hd : 0 < d) (data : List Nat) (hs : 1 ≤ data.length) (ps : Nat)
    (hps : ps = (data.length + d - 1) / d) :
    split d p ⟨data, none⟩ (List.replicate d (some cleanWr)) data.length =
      ⟨none, (blocksOf ps d (data ++ List.replicate ((d + p) * ps - data.length) 0)).map
        fun b => some ⟨b, none, false⟩⟩ := by
  show split d p (cleanRd data) _ _ = _
  rw [replicate_cleanWr, split_clean d p hd data data.length hs (Nat.le_refl _) _ (by simp) ps hps,
    List.take_length, zipWith_nil_left d _ (blocksOf_length ..)]
  rfl

/-- writer `i` gets bytes `[i*ps, (i+1)*ps)` of `data ++ zeros`; the concatenation of all writers is
`data ++ zeros (d*ps - size)` -/
theorem C14_split_blocks (d p : Nat) (hd : 0 < d) (data : List Nat) (ps : Nat)
    (hps : ps = (data.length + d - 1) / d) :
    (∀ i, i < d → (blocksOf ps d (data ++ List.replicate ((d + p) * ps - data.length) 0))[i]? =
        some (((data ++ List.replicate ((d + p) * ps - data.length) 0).drop (i * ps)).take ps)) ∧
    (blocksOf ps d (data ++ List.replicate ((d + p) * ps - data.length) 0)).flatten =
      data ++ List.replicate (d * ps - data.length) 0 :=
  ⟨fun i hi => blocksOf_getElem? ps d _ i hi,
   blocksOf_flatten_pad d p ps data (hps ▸ RSV.Proofs.SplitJoin.le_mul_ceil data.length d hd)⟩

/-- `Join` of the `d` streams written by `Split` (plus any further shards) with `outSize = size`
writes exactly `data` -/
theorem C14_split_join (d p : Nat) (hd : 0 < d) (data : List Nat) (ps : Nat)
    (hps : ps = (data.length + d - 1) / d) (extra : List (Option Rd)) :
    join d cleanWr
      ((blocksOf ps d (data ++ List.replicate ((d + p) * ps - data.length) 0)).map (fun b => some (cleanRd b)) ++ extra)
      data.length = (none, ⟨data, none, false⟩) := by
  have := join_clean d [] (blocksOf ps d (data ++ List.replicate ((d + p) * ps - data.length) 0))
    (blocksOf_length ..) extra data.length
  rw [(C14_split_blocks d p hd data ps hps).2] at this
  simp only [cl, ← cleanWr_eq] at this
  rw [this]
  simp [wrOf]


/-! Concrete runs: the toy codec `toy` (2 data + 1 xor parity), block size 2. -/

example : readFull ⟨[1, 2, 3], none⟩ 2 = ([1, 2], .full, ⟨[3], none⟩) := by decide
example : readFull ⟨[1, 2, 3], none⟩ 5 = ([1, 2, 3], .unexpectedEOF, ⟨[], none⟩) := by decide
example : readFull ⟨[], none⟩ 5 = ([], .eof, ⟨[], none⟩) := by decide

/-- streams of length 5 (blocks 2+2+1), sequential and concurrent -/
example : encode toy false 2 [some (cleanRd [1, 2, 3, 4, 5]), some (cleanRd [6, 7, 8, 9, 10])] [some cleanWr]
    = ⟨none, [some ⟨[7, 5, 11, 13, 15], none, false⟩]⟩ := by decide
example : encode toy true 2 [some (cleanRd [1, 2, 3, 4, 5]), some (cleanRd [6, 7, 8, 9, 10])] [some cleanWr]
    = ⟨none, [some ⟨[7, 5, 11, 13, 15], none, false⟩]⟩ := by decide
example : encode toy false 2 [some (cleanRd [1, 2, 3, 4, 5]), some (cleanRd [6, 7, 8, 9, 10])] [some cleanWr]
    = ⟨none, (toy.encode [[1, 2, 3, 4, 5], [6, 7, 8, 9, 10]]).map fun row => some ⟨row, none, false⟩⟩ :=
  C14_encode toy toy_encLocal (by decide) false 2 5 (by decide) (by decide) [[1, 2, 3, 4, 5], [6, 7, 8, 9, 10]] rfl
    (by decide)
example : encode toy false 2 [some (cleanRd []), some (cleanRd [])] [some cleanWr]
    = ⟨some .shardNoData, [some cleanWr]⟩ := by decide
example : verify toy 2 [some (cleanRd [1, 2, 3, 4, 5]), some (cleanRd [6, 7, 8, 9, 10]), some (cleanRd [7, 5, 11, 13, 15])]
    = (true, none) := by decide
example : verify toy 2 [some (cleanRd [1, 2, 3, 4, 5]), some (cleanRd [6, 7, 8, 9, 10]), some (cleanRd [7, 5, 11, 0, 15])]
    = (false, none) := by decide
example : reconstruct toy false 2 [some (cleanRd [1, 2, 3, 4, 5]), none, some (cleanRd [7, 5, 11, 13, 15])]
      [none, some cleanWr, none]
    = ⟨none, [none, some ⟨[6, 7, 8, 9, 10], none, false⟩, none]⟩ := by decide

example : verify toy 2 [some (cleanRd [1, 2, 3, 4, 5]), some (cleanRd [6, 7, 8, 9, 10]), some (cleanRd [7, 5, 11, 13, 15])]
    = (toy.verify [[1, 2, 3, 4, 5], [6, 7, 8, 9, 10], [7, 5, 11, 13, 15]], none) :=
  C14_verify toy toy_verLocal (by decide) 2 5 (by decide) (by decide)
    [[1, 2, 3, 4, 5], [6, 7, 8, 9, 10], [7, 5, 11, 13, 15]] rfl (by decide)

/-- the `RecOK` hypothesis is satisfiable: data shard 1 missing, rebuilt from shard 0 and the parity -/
theorem toy_recOK : RecOK toy true [false, true, false]
    [some [1, 2, 3, 4, 5], none, some [7, 5, 11, 13, 15]]
    [[1, 2, 3, 4, 5], [6, 7, 8, 9, 10], [7, 5, 11, 13, 15]] 5 :=
  toy_recOK_xor [1, 2, 3, 4, 5] [7, 5, 11, 13, 15] 5

example : reconstruct toy false 2 [some (cleanRd [1, 2, 3, 4, 5]), none, some (cleanRd [7, 5, 11, 13, 15])]
      (fillOf [false, true, false])
    = ⟨none, [none, some ⟨[6, 7, 8, 9, 10], none, false⟩, none]⟩ :=
  C14_reconstruct toy false 2 5 (by decide) (by decide) [some [1, 2, 3, 4, 5], none, some [7, 5, 11, 13, 15]]
    [false, true, false] [[1, 2, 3, 4, 5], [6, 7, 8, 9, 10], [7, 5, 11, 13, 15]] rfl rfl rfl (by decide)
    (by intro s hs; simp at hs; rcases hs with rfl | rfl <;> rfl) ⟨_, List.mem_cons_self ..⟩ (by decide) toy_recOK

example : split 3 2 ⟨[1, 2, 3, 4, 5, 6, 7], none⟩ [some cleanWr, some cleanWr, some cleanWr] 7
    = ⟨none, [some ⟨[1, 2, 3], none, false⟩, some ⟨[4, 5, 6], none, false⟩, some ⟨[7, 0, 0], none, false⟩]⟩ := by decide
example : join 3 cleanWr [some (cleanRd [1, 2, 3]), some (cleanRd [4, 5, 6]), some (cleanRd [7, 0, 0]), none, none] 7
    = (none, ⟨[1, 2, 3, 4, 5, 6, 7], none, false⟩) := by decide

#print axioms C14_readFull_clean
#print axioms C14_readFull_clean_outcome
#print axioms C14_readShards_equal
#print axioms C14_encode
#print axioms C14_encode_writer
#print axioms C14_encode_empty
#print axioms C14_verify
#print axioms C14_verify_empty
#print axioms fillOf_eq
#print axioms wsOf_maskRows
#print axioms C14_reconstruct_dataOnly
#print axioms C14_reconstruct
#print axioms C14_split
#print axioms C14_split_blocks
#print axioms C14_split_join
#print axioms toy_recOK

end RSV.Props.C14
