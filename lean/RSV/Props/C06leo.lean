import RSV.Proofs.LCHBridge.Verify
import RSV.Proofs.LCHBridge.Instances
/-!
# C06 (Leopard) — `Verify` returns true exactly when the parity matches the data

`leoVerify C d p len shards` (`RSV.Model.LeoVerify`) is what `leopardFF8.Verify` / `leopardFF16.Verify` do: re-encode
the data shards `shards[0 … d]` with the Leopard encoder model `encode` and compare the result with the stored parity
shards `shards[d … d + p]`.  `setSym shards i s v` overwrites symbol `s` of shard `i` with `v`.

Schedule-level facts (any table context `C`, no field needed):

* `C06_leo_valid` — `Verify` of `data ++ encode data` is `true`;
* `C06_leo_iff`, `C06_leo_iff_rows` — `Verify (data ++ par) = true` iff `par` is the encoding of `data`;
* `C06_leo_parity_mismatch`, `C06_leo_flip_parity` — one changed symbol of one parity shard makes it `false`;
* `C06_leo_pure` — the result depends on nothing but the first `d + p` shards; `C06_leo_p0` — the excluded point of
  the detection theorems: with `p = 0` it is constantly `true`.

Coding-theoretic facts, generic in the field reading `F : FieldCtx C K` with `SkewOK F`, for every admissible shape
(`0 < p ≤ 2^64`, `d + ceilPow2 p ≤ 2^F.k`), well-formed data with symbols below `2^F.k`:

* `C06_leo_flip_data` — one changed symbol of one data shard (to any other symbol value) makes it `false`; in fact
  (`C06_leo_flip_data_every_parity`) the re-encoded parity differs from the stored one in every parity shard at that
  symbol position: parity symbol `(r, s)` moves by `encMatrix r c * (φ new - φ old)`, the entry is non-zero because the
  generator is MDS, and `φ` is injective;
* `C06_leo_detects_upto_p` — more generally any change of the data that touches, at some symbol position, at least one
  and at most `p` data shards is detected (the code has minimum distance `p + 1`).

Instances: `C06_leo8_*` (`mkCtx P8`, `F8`, `skewOK8`, `d + ceilPow2 p ≤ 256`) and `C06_leo16_*` (`mkCtx P16`, `F16`,
`skewOK16`, `d + ceilPow2 p ≤ 65536`).  No configuration is enumerated.
-/
namespace RSV.Props.C06leo
open RSV.Model.Leo RSV.LCHBridge RSV.Proofs.LeoSched

/-- the encoded shard set verifies -/
theorem C06_leo_valid (C : Ctx) {d p len : ℕ} {data : Array Vec} (hdsz : data.size = d) (hp64 : p ≤ 2 ^ 64) :
    leoVerify C d p len (data ++ encode C d p len data) = true := by
  rw [leoVerify_append C len data _ hdsz (size_encode' C d p len data hp64)]
  exact beq_self_eq_true _

/-- `Verify` is true iff the stored parity is the encoding of the data -/
theorem C06_leo_iff (C : Ctx) {d p len : ℕ} {data par : Array Vec} (hdsz : data.size = d) (hpsz : par.size = p) :
    leoVerify C d p len (data ++ par) = true ↔ par = encode C d p len data := by
  rw [leoVerify_append C len data par hdsz hpsz, beq_iff_eq]
  exact eq_comm

/-- row form: iff every stored parity shard is the re-encoded one -/
theorem C06_leo_iff_rows (C : Ctx) {d p len : ℕ} {data par : Array Vec} (hdsz : data.size = d)
    (hpsz : par.size = p) (hp64 : p ≤ 2 ^ 64) :
    leoVerify C d p len (data ++ par) = true ↔ ∀ r, r < p → par[r]! = (encode C d p len data)[r]! := by
  rw [C06_leo_iff C hdsz hpsz]
  constructor
  · intro h r _; rw [h]
  · intro h
    exact ext! (by rw [hpsz, size_encode' C d p len data hp64]) fun i hi => h i (by omega)

/-- a stored parity set that differs from the encoding in some symbol is rejected -/
theorem C06_leo_parity_mismatch (C : Ctx) {d p len r s : ℕ} {data par' : Array Vec} (hdsz : data.size = d)
    (hpsz : par'.size = p) (h : (par'[r]!)[s]! ≠ ((encode C d p len data)[r]!)[s]!) :
    leoVerify C d p len (data ++ par') = false := by
  rw [leoVerify_append C len data par' hdsz hpsz, beq_eq_false_iff_ne]
  intro he
  exact h (by rw [he])

/-- changing one symbol of one parity shard of a valid shard set (to any other value) is detected -/
theorem C06_leo_flip_parity (C : Ctx) {d p len r s v : ℕ} {data : Array Vec} (hdsz : data.size = d)
    (hwd : WF len data) (hp64 : p ≤ 2 ^ 64) (hr : r < p) (hs : s < len)
    (hv : v ≠ ((encode C d p len data)[r]!)[s]!) :
    leoVerify C d p len (setSym (data ++ encode C d p len data) (d + r) s v) = false := by
  have hsz := size_encode' C d p len data hp64
  have hrow := encode_rows C hp64 hdsz hwd r (by rw [hsz]; exact hr)
  subst hdsz
  rw [setSym_append_right]
  refine C06_leo_parity_mismatch C (r := r) (s := s) rfl (by rw [size_setSym, hsz]) ?_
  rw [sym_setSym_self _ r s v (by rw [hsz]; exact hr) (by rw [hrow]; exact hs)]
  exact hv

/-- `Verify` reads nothing but the first `d + p` shards -/
theorem C06_leo_pure (C : Ctx) {d p len : ℕ} {shards shards' : Array Vec}
    (h : shards.extract 0 (d + p) = shards'.extract 0 (d + p)) :
    leoVerify C d p len shards = leoVerify C d p len shards' := by
  have h1 : ∀ x : Array Vec, x.extract 0 d = (x.extract 0 (d + p)).extract 0 d := by
    intro x; rw [Array.extract_extract]; congr 1; omega
  have h2 : ∀ x : Array Vec, x.extract d (d + p) = (x.extract 0 (d + p)).extract d (d + p) := by
    intro x; rw [Array.extract_extract]; congr 1 <;> omega
  unfold leoVerify
  rw [h1 shards, h2 shards, h, ← h1, ← h2]

/-- the excluded point of the detection theorems: with no parity shards `Verify` is constantly true -/
theorem C06_leo_p0 (C : Ctx) (d len : ℕ) (shards : Array Vec) : leoVerify C d 0 len shards = true := by
  simp [leoVerify, encode]

variable {C : Ctx} {K : Type} [Field K]

/-- one changed data symbol changes the re-encoded parity in every parity shard at that symbol position -/
theorem C06_leo_flip_data_every_parity (F : FieldCtx C K) (hS : SkewOK F) {d p len c s v : ℕ} {data : Array Vec}
    (hp64 : p ≤ 2 ^ 64) (hadm : d + ceilPow2 p ≤ 2 ^ F.k)
    (hdsz : data.size = d) (hwd : WF len data) (hbd : SymsBelow (2 ^ F.k) data)
    (hc : c < d) (hs : s < len) (hv : v < 2 ^ F.k) (hne : v ≠ (data[c]!)[s]!) (r : ℕ) (hr : r < p) :
    ((encode C d p len (setSym data c s v))[r]!)[s]! ≠ ((encode C d p len data)[r]!)[s]! := by
  have hcs : c < data.size := by omega
  refine encode_single_diff hS (by omega) hp64 hadm (by omega) hwd hbd (by rw [size_setSym]; omega)
    (WF_setSym hwd c s v) (symsBelow_setSym hbd c s hv) hs ⟨c, hc⟩ (fun c' hc' => ?_) ?_ ⟨r, hr⟩
  · exact sym_setSym_ne data c c'.val s s v (Or.inl fun e => hc' (Fin.ext e.symm))
  · show ((setSym data c s v)[c]!)[s]! ≠ _
    rw [sym_setSym_self data c s v hcs (by rw [hwd c hcs]; exact hs)]
    exact hne

/-- changing one symbol of one data shard of a valid shard set (to any other symbol value) is detected -/
theorem C06_leo_flip_data (F : FieldCtx C K) (hS : SkewOK F) {d p len c s v : ℕ} {data : Array Vec}
    (hp : 0 < p) (hp64 : p ≤ 2 ^ 64) (hadm : d + ceilPow2 p ≤ 2 ^ F.k)
    (hdsz : data.size = d) (hwd : WF len data) (hbd : SymsBelow (2 ^ F.k) data)
    (hc : c < d) (hs : s < len) (hv : v < 2 ^ F.k) (hne : v ≠ (data[c]!)[s]!) :
    leoVerify C d p len (setSym (data ++ encode C d p len data) c s v) = false := by
  rw [setSym_append_left _ _ c s v (by omega)]
  exact C06_leo_parity_mismatch C (r := 0) (s := s) (by rw [size_setSym]; exact hdsz)
    (size_encode' C d p len data hp64)
    (C06_leo_flip_data_every_parity F hS hp64 hadm hdsz hwd hbd hc hs hv hne 0 hp).symm

/-- the stored parity of `data` against any other data set `data'` that differs from `data`, at some symbol position
`s`, in at least one and at most `p` shards: detected (minimum distance `p + 1`) -/
theorem C06_leo_detects_upto_p (F : FieldCtx C K) (hS : SkewOK F) {d p len s : ℕ} {data data' : Array Vec}
    (hd : 0 < d) (hp64 : p ≤ 2 ^ 64) (hadm : d + ceilPow2 p ≤ 2 ^ F.k)
    (hdsz : data.size = d) (hwd : WF len data) (hbd : SymsBelow (2 ^ F.k) data)
    (hdsz' : data'.size = d) (hwd' : WF len data') (hbd' : SymsBelow (2 ^ F.k) data') (hs : s < len)
    (D : Finset (Fin d)) (hcard : D.card ≤ p)
    (hsame : ∀ c : Fin d, c ∉ D → (data'[c.val]!)[s]! = (data[c.val]!)[s]!)
    (hdiff : ∃ c : Fin d, (data'[c.val]!)[s]! ≠ (data[c.val]!)[s]!) :
    leoVerify C d p len (data' ++ encode C d p len data) = false := by
  obtain ⟨r, hr⟩ := encode_diff_upto_p hS hd hp64 hadm (by omega) hwd hbd (by omega) hwd' hbd' hs D hcard
    hsame hdiff
  exact C06_leo_parity_mismatch C (r := r.val) (s := s) hdsz' (size_encode' C d p len data hp64) hr.symm

theorem C06_leo8_valid {d p len : ℕ} {data : Array Vec} (hdsz : data.size = d) (hp64 : p ≤ 2 ^ 64) :
    leoVerify (mkCtx P8) d p len (data ++ encode (mkCtx P8) d p len data) = true :=
  C06_leo_valid _ hdsz hp64

theorem C06_leo8_flip_parity {d p len r s v : ℕ} {data : Array Vec} (hdsz : data.size = d)
    (hwd : WF len data) (hp64 : p ≤ 2 ^ 64) (hr : r < p) (hs : s < len)
    (hv : v ≠ ((encode (mkCtx P8) d p len data)[r]!)[s]!) :
    leoVerify (mkCtx P8) d p len (setSym (data ++ encode (mkCtx P8) d p len data) (d + r) s v) = false :=
  C06_leo_flip_parity _ hdsz hwd hp64 hr hs hv

theorem C06_leo8_flip_data {d p len c s v : ℕ} {data : Array Vec}
    (hp : 0 < p) (hp64 : p ≤ 2 ^ 64) (hadm : d + ceilPow2 p ≤ 256)
    (hdsz : data.size = d) (hwd : WF len data) (hbd : SymsBelow 256 data)
    (hc : c < d) (hs : s < len) (hv : v < 256) (hne : v ≠ (data[c]!)[s]!) :
    leoVerify (mkCtx P8) d p len (setSym (data ++ encode (mkCtx P8) d p len data) c s v) = false :=
  C06_leo_flip_data F8 skewOK8 hp hp64 hadm hdsz hwd hbd hc hs hv hne

theorem C06_leo8_flip_data_every_parity {d p len c s v : ℕ} {data : Array Vec}
    (hp64 : p ≤ 2 ^ 64) (hadm : d + ceilPow2 p ≤ 256)
    (hdsz : data.size = d) (hwd : WF len data) (hbd : SymsBelow 256 data)
    (hc : c < d) (hs : s < len) (hv : v < 256) (hne : v ≠ (data[c]!)[s]!) (r : ℕ) (hr : r < p) :
    ((encode (mkCtx P8) d p len (setSym data c s v))[r]!)[s]! ≠ ((encode (mkCtx P8) d p len data)[r]!)[s]! :=
  C06_leo_flip_data_every_parity F8 skewOK8 hp64 hadm hdsz hwd hbd hc hs hv hne r hr

theorem C06_leo8_detects_upto_p {d p len s : ℕ} {data data' : Array Vec}
    (hd : 0 < d) (hp64 : p ≤ 2 ^ 64) (hadm : d + ceilPow2 p ≤ 256)
    (hdsz : data.size = d) (hwd : WF len data) (hbd : SymsBelow 256 data)
    (hdsz' : data'.size = d) (hwd' : WF len data') (hbd' : SymsBelow 256 data') (hs : s < len)
    (D : Finset (Fin d)) (hcard : D.card ≤ p)
    (hsame : ∀ c : Fin d, c ∉ D → (data'[c.val]!)[s]! = (data[c.val]!)[s]!)
    (hdiff : ∃ c : Fin d, (data'[c.val]!)[s]! ≠ (data[c.val]!)[s]!) :
    leoVerify (mkCtx P8) d p len (data' ++ encode (mkCtx P8) d p len data) = false :=
  C06_leo_detects_upto_p F8 skewOK8 hd hp64 hadm hdsz hwd hbd hdsz' hwd' hbd' hs D hcard hsame hdiff

theorem C06_leo16_valid {d p len : ℕ} {data : Array Vec} (hdsz : data.size = d) (hp64 : p ≤ 2 ^ 64) :
    leoVerify (mkCtx P16) d p len (data ++ encode (mkCtx P16) d p len data) = true :=
  C06_leo_valid _ hdsz hp64

theorem C06_leo16_flip_parity {d p len r s v : ℕ} {data : Array Vec} (hdsz : data.size = d)
    (hwd : WF len data) (hp64 : p ≤ 2 ^ 64) (hr : r < p) (hs : s < len)
    (hv : v ≠ ((encode (mkCtx P16) d p len data)[r]!)[s]!) :
    leoVerify (mkCtx P16) d p len (setSym (data ++ encode (mkCtx P16) d p len data) (d + r) s v) = false :=
  C06_leo_flip_parity _ hdsz hwd hp64 hr hs hv

theorem C06_leo16_flip_data {d p len c s v : ℕ} {data : Array Vec}
    (hp : 0 < p) (hp64 : p ≤ 2 ^ 64) (hadm : d + ceilPow2 p ≤ 65536)
    (hdsz : data.size = d) (hwd : WF len data) (hbd : SymsBelow 65536 data)
    (hc : c < d) (hs : s < len) (hv : v < 65536) (hne : v ≠ (data[c]!)[s]!) :
    leoVerify (mkCtx P16) d p len (setSym (data ++ encode (mkCtx P16) d p len data) c s v) = false :=
  C06_leo_flip_data F16 skewOK16 hp hp64 hadm hdsz hwd hbd hc hs hv hne

theorem C06_leo16_flip_data_every_parity {d p len c s v : ℕ} {data : Array Vec}
    (hp64 : p ≤ 2 ^ 64) (hadm : d + ceilPow2 p ≤ 65536)
    (hdsz : data.size = d) (hwd : WF len data) (hbd : SymsBelow 65536 data)
    (hc : c < d) (hs : s < len) (hv : v < 65536) (hne : v ≠ (data[c]!)[s]!) (r : ℕ) (hr : r < p) :
    ((encode (mkCtx P16) d p len (setSym data c s v))[r]!)[s]! ≠ ((encode (mkCtx P16) d p len data)[r]!)[s]! :=
  C06_leo_flip_data_every_parity F16 skewOK16 hp64 hadm hdsz hwd hbd hc hs hv hne r hr

theorem C06_leo16_detects_upto_p {d p len s : ℕ} {data data' : Array Vec}
    (hd : 0 < d) (hp64 : p ≤ 2 ^ 64) (hadm : d + ceilPow2 p ≤ 65536)
    (hdsz : data.size = d) (hwd : WF len data) (hbd : SymsBelow 65536 data)
    (hdsz' : data'.size = d) (hwd' : WF len data') (hbd' : SymsBelow 65536 data') (hs : s < len)
    (D : Finset (Fin d)) (hcard : D.card ≤ p)
    (hsame : ∀ c : Fin d, c ∉ D → (data'[c.val]!)[s]! = (data[c.val]!)[s]!)
    (hdiff : ∃ c : Fin d, (data'[c.val]!)[s]! ≠ (data[c.val]!)[s]!) :
    leoVerify (mkCtx P16) d p len (data' ++ encode (mkCtx P16) d p len data) = false :=
  C06_leo_detects_upto_p F16 skewOK16 hd hp64 hadm hdsz hwd hbd hdsz' hwd' hbd' hs D hcard hsame hdiff

set_option maxRecDepth 8192 in
/-- the hypotheses of `C06_leo8_flip_data` / `C06_leo16_flip_data` are satisfiable: a `(10, 4)` shard set of two
zero symbols per shard, symbol 1 of data shard 3 changed to `7` -/
example : ∃ (d p len c s v : ℕ) (data : Array Vec), 0 < p ∧ p ≤ 2 ^ 64 ∧ d + ceilPow2 p ≤ 256 ∧
    data.size = d ∧ WF len data ∧ SymsBelow 256 data ∧ c < d ∧ s < len ∧ v < 256 ∧ v ≠ (data[c]!)[s]! :=
  ⟨10, 4, 2, 3, 1, 7, Array.replicate 10 (zeroVec 2), by decide, by decide,
    by rw [ceilPow2_eq]; decide, by simp, WF_replicate 10 2, symsBelow_replicate (by decide) 10 2,
    by decide, by decide, by decide, by decide⟩

end RSV.Props.C06leo

#print axioms RSV.Props.C06leo.C06_leo_valid
#print axioms RSV.Props.C06leo.C06_leo_iff
#print axioms RSV.Props.C06leo.C06_leo_iff_rows
#print axioms RSV.Props.C06leo.C06_leo_parity_mismatch
#print axioms RSV.Props.C06leo.C06_leo_flip_parity
#print axioms RSV.Props.C06leo.C06_leo_pure
#print axioms RSV.Props.C06leo.C06_leo_p0
#print axioms RSV.Props.C06leo.C06_leo_flip_data_every_parity
#print axioms RSV.Props.C06leo.C06_leo_flip_data
#print axioms RSV.Props.C06leo.C06_leo_detects_upto_p
#print axioms RSV.Props.C06leo.C06_leo8_valid
#print axioms RSV.Props.C06leo.C06_leo8_flip_parity
#print axioms RSV.Props.C06leo.C06_leo8_flip_data
#print axioms RSV.Props.C06leo.C06_leo8_flip_data_every_parity
#print axioms RSV.Props.C06leo.C06_leo8_detects_upto_p
#print axioms RSV.Props.C06leo.C06_leo16_valid
#print axioms RSV.Props.C06leo.C06_leo16_flip_parity
#print axioms RSV.Props.C06leo.C06_leo16_flip_data
#print axioms RSV.Props.C06leo.C06_leo16_flip_data_every_parity
#print axioms RSV.Props.C06leo.C06_leo16_detects_upto_p
