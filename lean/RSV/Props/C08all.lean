import RSV.Props.C08
import RSV.Props.C08asm
import RSV.Props.C08asmLeo
/-! C08 umbrella: the per-lane recipes, counts, slot layout and the regenerated kernel switch (`RSV.Props.C08`), the
soundness of the checker for the Leopard, xor and hand-written kernels (`RSV.Props.C08asmLeo`), and the
reflective checker for the text of the generated amd64 matrix kernels with its soundness theorem (`RSV.Props.C08asm`:
an accepted kernel, run by the byte-level instruction semantics on any environment meeting the calling contract,
terminates without a fault and leaves in every output exactly the GF(2^8) matrix product of the inputs on
`[start, start + count)`, everything else unchanged). -/
