import RSV.Proofs.Streams
/-!
# C15 — faults and unequal streams are reported, never accepted

Model: `RSV.Model.St`. Readers: `⟨data, some k⟩` fails after delivering `k` more bytes; writers: `⟨got, some k, short⟩` accepts
`k` more bytes, then fails (`short = true`: `io.ErrShortWrite`).
Stream `Split` / `Join` return reader / writer errors unwrapped (`rawRead` / `rawWrite _`): this is a
recorded known finding; the theorems state the exact model outcome.
-/
namespace RSV.Props.C15
open RSV.Model.St RSV.Proofs.Streams

theorem C15_readFull_fault (data : List Nat) (k want : Nat) (hk : k < want) (hd : k ≤ data.length) :
    readFull ⟨data, some k⟩ want = (data.take k, ReadOutcome.error, ⟨data.drop k, some 0⟩) :=
  readFull_fault data k want hk hd

/-- `readShards`: reader `i` faulty with `k < min B remaining`, all lower-index readers fault-free (or
nil) with one common remaining length (so that no `ErrShardSize` precedes): `StreamReadError{Stream: i}`.
`pre` = the contents of the lower-index readers, `rs` = the higher-index readers (arbitrary). -/
theorem C15_read_error (B n : Nat) (pre : List (Option (List Nat))) (hpre : ∀ s, some s ∈ pre → s.length = n)
    (data : List Nat) (k : Nat) (hk : k < B) (hk' : k ≤ data.length) (rs : List (Option Rd)) :
    readShards (List.replicate (pre.length + 1 + rs.length) B)
      (pre.map (Option.map cleanRd) ++ some ⟨data, some k⟩ :: rs) = .err (.read pre.length) := by
  rw [replicate_split]
  exact readShards_clean_then_fault B n (LensOK.replicate B pre) hpre B _
    (by rw [readFull_fault data k B hk hk']) _ rs

/-- the same when the lower-index readers are arbitrary readers that deliver full blocks -/
theorem C15_read_error_full (B : Nat) (rp : List (Option Rd))
    (hfull : ∀ r ∈ rp, ∀ r', r = some r' → (readFull r' B).2.1 = .full)
    (data : List Nat) (k : Nat) (hk : k < B) (hk' : k ≤ data.length) (rs : List (Option Rd)) :
    readShards (List.replicate (rp.length + 1 + rs.length) B) (rp ++ some ⟨data, some k⟩ :: rs) =
      .err (.read rp.length) := by
  rw [replicate_split]
  exact readShards_full_then_fault B rp (fun r hr => hfull _ hr r rfl) B _
    (by rw [readFull_fault data k B hk hk']) _ rs

/-- one-block consequence: `Encode` returns `StreamReadError{Stream: i}`, nothing is written -/
theorem C15_read_error_encode (C : BlockCodec) (conc : Bool) (B n : Nat) (pre : List (Option (List Nat)))
    (hpre : ∀ s, some s ∈ pre → s.length = n)
    (data : List Nat) (k : Nat) (hk : k < B) (hk' : k ≤ data.length) (rs : List (Option Rd))
    (hd : pre.length + 1 + rs.length = C.d) (writers : List (Option Wr)) (hp : writers.length = C.p) :
    encode C conc B (pre.map (Option.map cleanRd) ++ some ⟨data, some k⟩ :: rs) writers =
      ⟨some (.read pre.length), writers⟩ := by
  have hl := length_append_cons (pre.map (Option.map cleanRd)) rs (⟨data, some k⟩ : Rd)
  rw [List.length_map] at hl
  rw [encode_eq_loop C conc B (hl.trans hd) hp, hl]
  simp only [encodeLoop, C15_read_error B n pre hpre data k hk hk' rs]

theorem C15_read_error_verify (C : BlockCodec) (B n : Nat) (pre : List (Option (List Nat)))
    (hpre : ∀ s, some s ∈ pre → s.length = n)
    (data : List Nat) (k : Nat) (hk : k < B) (hk' : k ≤ data.length) (rs : List (Option Rd))
    (hd : pre.length + 1 + rs.length = C.d + C.p) :
    verify C B (pre.map (Option.map cleanRd) ++ some ⟨data, some k⟩ :: rs) = (false, some (.read pre.length)) := by
  have hl := length_append_cons (pre.map (Option.map cleanRd)) rs (⟨data, some k⟩ : Rd)
  rw [List.length_map] at hl
  rw [verify_eq_loop C B (hl.trans hd), hl]
  simp only [verifyLoop, C15_read_error B n pre hpre data k hk hk' rs]

/-- one-block consequence for `Reconstruct`: `StreamReadError{Stream: i}`, nothing is written -/
theorem C15_read_error_reconstruct (C : BlockCodec) (conc : Bool) (B n : Nat) (pre : List (Option (List Nat)))
    (hpre : ∀ s, some s ∈ pre → s.length = n)
    (data : List Nat) (k : Nat) (hk : k < B) (hk' : k ≤ data.length) (rs : List (Option Rd))
    (hd : pre.length + 1 + rs.length = C.d + C.p) (fill : List (Option Wr)) (hf : fill.length = C.d + C.p)
    (hdisj : ((pre.map (Option.map cleanRd) ++ some ⟨data, some k⟩ :: rs).zip fill).any
      (fun (v, f) => v.isSome && f.isSome) = false) :
    reconstruct C conc B (pre.map (Option.map cleanRd) ++ some ⟨data, some k⟩ :: rs) fill =
      ⟨some (.read pre.length), fill⟩ := by
  have hl := length_append_cons (pre.map (Option.map cleanRd)) rs (⟨data, some k⟩ : Rd)
  rw [List.length_map] at hl
  rw [reconstruct_eq_loop C conc B (hl.trans hd) hf hdisj, hl]
  simp only [reconLoop, C15_read_error B n pre hpre data k hk hk' rs]

/-- whatever the number of streams and writers (`pre` as in `C15_read_error`): `Encode` never succeeds,
`Verify` never says `(true, none)` -/
theorem C15_read_error_never_ok (C : BlockCodec) (conc : Bool) (B n : Nat) (pre : List (Option (List Nat)))
    (hpre : ∀ s, some s ∈ pre → s.length = n)
    (data : List Nat) (k : Nat) (hk : k < B) (hk' : k ≤ data.length) (rs : List (Option Rd))
    (writers : List (Option Wr)) :
    (encode C conc B (pre.map (Option.map cleanRd) ++ some ⟨data, some k⟩ :: rs) writers).err ≠ none ∧
    verify C B (pre.map (Option.map cleanRd) ++ some ⟨data, some k⟩ :: rs) ≠ (true, none) := by
  have hl := length_append_cons (pre.map (Option.map cleanRd)) rs (⟨data, some k⟩ : Rd)
  rw [List.length_map] at hl
  constructor
  · rcases encode_cases C conc B (pre.map (Option.map cleanRd) ++ some ⟨data, some k⟩ :: rs) writers with
      ⟨hd, hp⟩ | h
    · rw [C15_read_error_encode C conc B n pre hpre data k hk hk' rs (hl.symm.trans hd) writers hp]
      simp
    · rw [h]; simp
  · rcases verify_cases C B (pre.map (Option.map cleanRd) ++ some ⟨data, some k⟩ :: rs) with hd | h
    · rw [C15_read_error_verify C B n pre hpre data k hk hk' rs (hl.symm.trans hd)]
      simp
    · rw [h]; simp

/-- the fault may lie in any block: `d` streams of one length `n`, reader `i` faulty at position `k < n`,
fault-free parity writers (having accepted `gs`), `C.encode` yields `C.p` rows: `Encode` ends with
`StreamReadError{Stream: i}` -/
theorem C15_read_error_encode_any (C : BlockCodec) (hC : EncLocal C) (conc : Bool) (B n k : Nat) (hB : 1 ≤ B)
    (hk : k < n) (pre post : List (List Nat)) (data : List Nat) (hd : pre.length + 1 + post.length = C.d)
    (hpre : ∀ s ∈ pre, s.length = n) (hpost : ∀ s ∈ post, s.length = n) (hdata : data.length = n)
    (gs : List (List Nat)) (hp : gs.length = C.p) :
    (encode C conc B ((pre.map fun s => some (cleanRd s)) ++ some ⟨data, some k⟩ :: post.map fun s => some (cleanRd s))
      (gs.map fun g => some (wrOf g))).err = some (.read pre.length) := by
  show (encode C conc B (cl pre ++ some ⟨data, some k⟩ :: cl post) (pw gs)).err = _
  have hl := length_append_cons (cl pre) (cl post) (some (⟨data, some k⟩ : Rd))
  rw [length_cl, length_cl] at hl
  have hfuel := fuel_ok (rds := cl pre ++ some ⟨data, some k⟩ :: cl post) (r := ⟨data, some k⟩) (by simp) B
  have hdiv := Nat.div_le_div_right (c := B) (show k ≤ data.length by omega)
  rw [encode_eq_loop C conc B (hl.trans hd) (by simpa using hp), hl]
  exact encodeLoop_fault C hC conc _ B n k hB hk (by simp only at hfuel; omega) pre post data hd hpre hpost
    hdata gs hp 0

/-- `Verify` with a reader fault anywhere: the verdict is `false` — never `(true, none)` -/
theorem C15_read_error_verify_any (C : BlockCodec) (B n k : Nat) (hB : 1 ≤ B)
    (hk : k < n) (pre post : List (List Nat)) (data : List Nat)
    (hpre : ∀ s ∈ pre, s.length = n) (hpost : ∀ s ∈ post, s.length = n) (hdata : data.length = n) :
    (verify C B ((pre.map fun s => some (cleanRd s)) ++ some ⟨data, some k⟩ :: post.map fun s => some (cleanRd s))).1
      = false := by
  show (verify C B (cl pre ++ some ⟨data, some k⟩ :: cl post)).1 = false
  rcases verify_cases C B (cl pre ++ some ⟨data, some k⟩ :: cl post) with hd | h
  · have hl := length_append_cons (cl pre) (cl post) (some (⟨data, some k⟩ : Rd))
    rw [length_cl, length_cl] at hl
    rw [verify_eq_loop C B hd, hl]
    exact verifyLoop_fault C _ B n k hB hk pre post data hpre hpost hdata 0
  · rw [h]

/-- sequential `writeShards`: fault-free (or nil) writers, then writer `j` whose limit `k` is below the
length of its block: `StreamWriteError{Stream: j}` (`short` = `io.ErrShortWrite`); writer `j` keeps the
`k` bytes it accepted, the later writers receive nothing -/
theorem C15_write_error_seq (pre : List (Option (List Nat))) (bpre : List (List Nat)) (hpre : pre.length = bpre.length)
    (g : List Nat) (k : Nat) (short : Bool) (b : List Nat) (hk : k < b.length)
    (rest : List (Option Wr)) (bpost : List (List Nat)) :
    writeShards false (pre.map (Option.map wrOf) ++ some ⟨g, some k, short⟩ :: rest) (bpre ++ b :: bpost) 0 [] =
      ((List.zipWith (fun og b => og.map (· ++ b)) pre bpre).map (Option.map wrOf) ++
          some ⟨g ++ b.take k, some 0, short⟩ :: rest,
       some (.write pre.length short)) :=
  writeShards_seq_limit pre bpre hpre g k short b hk rest bpost

/-- concurrent `writeShards`: every other (fault-free) writer still receives its block -/
theorem C15_write_error_conc (pre : List (Option (List Nat))) (bpre : List (List Nat)) (hpre : pre.length = bpre.length)
    (g : List Nat) (k : Nat) (short : Bool) (b : List Nat) (hk : k < b.length)
    (post : List (Option (List Nat))) (bpost : List (List Nat)) (hpost : post.length = bpost.length) :
    writeShards true (pre.map (Option.map wrOf) ++ some ⟨g, some k, short⟩ :: post.map (Option.map wrOf))
        (bpre ++ b :: bpost) 0 [] =
      ((List.zipWith (fun og b => og.map (· ++ b)) pre bpre).map (Option.map wrOf) ++
          some ⟨g ++ b.take k, some 0, short⟩ ::
          (List.zipWith (fun og b => og.map (· ++ b)) post bpost).map (Option.map wrOf),
       some (.write pre.length short)) :=
  writeShards_conc_limit pre bpre hpre g k short b hk post bpost hpost

/-- `io.ErrShortWrite` is the case `short = true` -/
theorem C15_short_write (conc : Bool) (pre : List (Option (List Nat))) (bpre : List (List Nat))
    (hpre : pre.length = bpre.length) (g : List Nat) (k : Nat) (b : List Nat) (hk : k < b.length)
    (post : List (Option (List Nat))) (bpost : List (List Nat)) (hpost : post.length = bpost.length) :
    (writeShards conc (pre.map (Option.map wrOf) ++ some ⟨g, some k, true⟩ :: post.map (Option.map wrOf))
        (bpre ++ b :: bpost) 0 []).2 = some (.write pre.length true) := by
  cases conc
  · exact congrArg Prod.snd (writeShards_seq_limit pre bpre hpre g k true b hk _ bpost)
  · exact congrArg Prod.snd (writeShards_conc_limit pre bpre hpre g k true b hk post bpost hpost)

/-- the encode loop returns the writer's error (not success): equal-length fault-free streams, parity
writer `j` (all lower ones fault-free) with a limit below the block length -/
theorem C15_write_error_encodeLoop (C : BlockCodec) (conc : Bool) (fuel B n : Nat) (hn : 0 < n)
    (ss : List (List Nat)) (hne : ss ≠ []) (hlen : ∀ s ∈ ss, s.length = n)
    (pre : List (Option (List Nat))) (g : List Nat) (k : Nat) (short : Bool) (post : List (Option (List Nat)))
    (hpar : (C.encode (ss.map (List.take B))).length = pre.length + 1 + post.length)
    (hrow : ∀ r ∈ C.encode (ss.map (List.take B)), r.length = min B n) (hk : k < min B n) (read : Nat) :
    (encodeLoop C conc (fuel + 1) (List.replicate ss.length B) (ss.map fun s => some (cleanRd s))
      (pre.map (Option.map wrOf) ++ some ⟨g, some k, short⟩ :: post.map (Option.map wrOf)) read).err =
      some (.write pre.length short) := by
  show (encodeLoop C conc (fuel + 1) _ (cl ss) (wsOf pre ++ some ⟨g, some k, short⟩ :: wsOf post) read).err = _
  have hm : 0 < min B n := by have := hn; omega
  obtain ⟨bpre, b, bpost, hsplit, hl1, hl2⟩ : ∃ bpre b bpost, C.encode (ss.map (List.take B)) = bpre ++ b :: bpost ∧
      pre.length = bpre.length ∧ post.length = bpost.length := by
    have hlt : pre.length < (C.encode (ss.map (List.take B))).length := by omega
    refine ⟨(C.encode (ss.map (List.take B))).take pre.length, (C.encode (ss.map (List.take B)))[pre.length],
      (C.encode (ss.map (List.take B))).drop (pre.length + 1), ?_, ?_, ?_⟩
    · rw [List.getElem_cons_drop, List.take_append_drop]
    · simp; omega
    · simp; omega
  have hb : k < b.length := by
    rw [hrow b (by rw [hsplit]; simp)]; exact hk
  rw [encodeLoop_succ C conc fuel _ read (readShards_cl_ok B (min B n) hm ss fun s hs => by rw [hlen s hs]) hm
    (map_take_ne_nil hne) (length_take_of_all hlen), hsplit]
  cases conc
  · rw [writeShards_seq_limit pre bpre hl1 g k short b hb (wsOf post) bpost]
  · rw [writeShards_conc_limit pre bpre hl1 g k short b hb post bpost hl2]

/-- key lemma: two fault-free streams that would deliver blocks of different lengths (one a full block
and one not — also when the shorter one ends exactly on the block boundary, delivering 0 bytes —, or two
different partial blocks): `ErrShardSize` -/
theorem C15_readShards_unequal (B : Nat) (ss : List (List Nat))
    (h : ∃ s ∈ ss, ∃ s' ∈ ss, min B s.length ≠ min B s'.length) :
    readShards (List.replicate ss.length B) (ss.map fun s => some (cleanRd s)) = .err .shardSize := by
  show readShards _ (cl ss) = _
  obtain ⟨s, hs, s', hs', hne⟩ := h
  rcases readShards_cl_inv B ss with h | ⟨_, h0⟩ | ⟨_, hfull | ⟨m, _, hm⟩⟩
  · exact h
  · rw [h0 s hs, h0 s' hs'] at hne; exact absurd rfl hne
  · have := hfull s hs; have := hfull s' hs'; omega
  · have := (hm s hs).1; have := (hm s' hs').1; omega

/-- so `readShards` returns `.ok` / `.eof` only if all `min B remaining` are equal -/
theorem C15_readShards_ok_equal (B : Nat) (ss : List (List Nat))
    (h : readShards (List.replicate ss.length B) (ss.map fun s => some (cleanRd s)) ≠ .err .shardSize) :
    ∀ s ∈ ss, ∀ s' ∈ ss, min B s.length = min B s'.length := by
  intro s hs s' hs'
  apply Decidable.by_contra
  intro hne
  exact h (C15_readShards_unequal B ss ⟨s, hs, s', hs', hne⟩)

/-- `Encode` on fault-free streams succeeds only if all streams have the same length — whatever the
block size, the codec and the writers, and wherever the shorter stream ends -/
theorem C15_unequal (C : BlockCodec) (conc : Bool) (B : Nat) (streams : List (List Nat))
    (writers : List (Option Wr)) :
    (encode C conc B (streams.map fun s => some (cleanRd s)) writers).err = none →
    ∀ s ∈ streams, ∀ s' ∈ streams, s.length = s'.length := by
  show (encode C conc B (cl streams) writers).err = none → _
  intro h
  rcases encode_cases C conc B (cl streams) writers with ⟨hd, hp⟩ | he
  · rw [encode_eq_loop C conc B hd hp, length_cl] at h
    exact encodeLoop_none_equal C conc _ B streams writers 0 h
  · rw [he] at h; cases h

theorem C15_unequal_verify (C : BlockCodec) (B : Nat) (streams : List (List Nat)) :
    verify C B (streams.map fun s => some (cleanRd s)) = (true, none) →
    ∀ s ∈ streams, ∀ s' ∈ streams, s.length = s'.length := by
  show verify C B (cl streams) = (true, none) → _
  intro h
  rcases verify_cases C B (cl streams) with hd | he
  · rw [verify_eq_loop C B hd, length_cl] at h
    exact verifyLoop_true_equal C _ B streams 0 h
  · rw [he] at h; cases h


/-- the source ends before `size` bytes: `ErrShortData` -/
theorem C15_split_short (d p : Nat) (data : List Nat) (size : Nat) (hlt : data.length < size)
    (gs : List (List Nat)) (hg : gs.length = d) :
    (split d p ⟨data, none⟩ (gs.map fun g => some (wrOf g)) size).err = some .shortData := by
  show (split d p (cleanRd data) (pw gs) size).err = _
  have hoc := readFull_clean_ne_error data size
  rw [readFull_clean] at hoc
  rw [split_eq_go (by omega) (by simpa using hg) isSome_of_mem_pw rfl (readFull_clean data size),
    split_go_short _ _ _ _ (by rw [List.length_take]; omega), if_neg hoc]

/-- the source holds more than `size` bytes: nothing beyond position `size` reaches a writer — the
writers receive the `perShard`-blocks of `data.take size ++ zeros`, whose concatenation is
`data.take size ++ zeros (d*ps - size)` -/
theorem C15_split_surplus (d p : Nat) (hd : 0 < d) (data : List Nat) (size : Nat) (hs : 0 < size)
    (hlen : size ≤ data.length) (ps : Nat) (hps : ps = (size + d - 1) / d) :
    split d p ⟨data, none⟩ (List.replicate d (some cleanWr)) size =
      ⟨none, (blocksOf ps d (data.take size ++ List.replicate ((d + p) * ps - size) 0)).map
        fun b => some ⟨b, none, false⟩⟩ ∧
    (blocksOf ps d (data.take size ++ List.replicate ((d + p) * ps - size) 0)).flatten =
      data.take size ++ List.replicate (d * ps - size) 0 := by
  constructor
  · show split d p (cleanRd data) _ _ = _
    rw [replicate_cleanWr, split_clean d p hd data size hs hlen _ (by simp) ps hps,
      zipWith_nil_left d _ (blocksOf_length ..)]
    rfl
  · have hl : (data.take size).length = size := by rw [List.length_take]; omega
    have := blocksOf_flatten_pad d p ps (data.take size) (by rw [hl, hps]; exact RSV.Proofs.SplitJoin.le_mul_ceil size d hd)
    rwa [hl] at this

/-- `Join`: the first `d` fault-free streams hold fewer than `outSize` bytes: everything is copied,
then `ErrShortData` -/
theorem C15_join_short (d : Nat) (g : List Nat) (ss : List (List Nat)) (hd : ss.length = d)
    (extra : List (Option Rd)) (outSize : Nat) (hlt : ss.flatten.length < outSize) :
    join d (wrOf g) ((ss.map fun s => some (cleanRd s)) ++ extra) outSize =
      (some .shortData, wrOf (g ++ ss.flatten)) := by
  have := join_clean d g ss hd extra outSize
  simp only [cl] at this
  rw [this, List.take_of_length_le (by omega), if_pos hlt]

/-- a nil shard among the first `d`: `StreamReadError{ErrShardNoData, Stream: i}`, nothing written -/
theorem C15_join_nil (d : Nat) (dst : Wr) (pre : List Rd) (rest : List (Option Rd)) (outSize : Nat)
    (hi : pre.length < d) (hd : d ≤ pre.length + 1 + rest.length) :
    join d dst (pre.map some ++ none :: rest) outSize = (some (.readNoData pre.length), dst) := by
  have h1 : ¬ (pre.map some ++ none :: rest).length < d := by simp; omega
  have h2 : (pre.map some ++ none :: rest).take d = pre.map some ++ none :: rest.take (d - pre.length - 1) := by
    rw [List.take_append]
    have : d - (pre.map some).length = (d - pre.length - 1) + 1 := by simp; omega
    rw [this, List.take_succ_cons, List.take_of_length_le (by simp; omega)]
  have h3 : (pre.map some ++ none :: rest.take (d - pre.length - 1)).findIdx? Option.isNone = some pre.length := by
    rw [List.findIdx?_append, findIdx?_map_some]
    simp [List.findIdx?_cons]
  simp only [join, h1, if_false, h2, h3]

theorem C15_join_too_few (d : Nat) (dst : Wr) (shards : List (Option Rd)) (outSize : Nat)
    (h : shards.length < d) : join d dst shards outSize = (some .tooFewShards, dst) := by
  simp [join, h]

/-- `Split`, reader fault before `size` bytes: the reader's own error comes back unwrapped
(`rawRead`; known finding: not a `StreamReadError`) — never success -/
theorem C15_never_ok_split_read (d p : Nat) (data : List Nat) (k size : Nat) (hk : k < size)
    (hk' : k ≤ data.length) (gs : List (List Nat)) (hg : gs.length = d) :
    (split d p ⟨data, some k⟩ (gs.map fun g => some (wrOf g)) size).err = some .rawRead := by
  show (split d p ⟨data, some k⟩ (pw gs) size).err = _
  rw [split_eq_go (by omega) (by simpa using hg) isSome_of_mem_pw rfl (readFull_fault data k size hk hk'),
    split_go_short _ _ _ _ (by rw [List.length_take]; omega)]
  rfl

/-- `Split`, writer `j` (lower ones fault-free, no nil writer) accepts fewer than `perShard` bytes:
the writer's own error / `io.ErrShortWrite` comes back unwrapped (`rawWrite`) -/
theorem C15_never_ok_split_write (d p : Nat) (data : List Nat) (size : Nat) (hs : 0 < size)
    (hlen : size ≤ data.length) (pre : List (List Nat)) (g : List Nat) (k : Nat) (short : Bool) (post : List Wr)
    (hd : pre.length + 1 + post.length = d) (hk : k < (size + d - 1) / d) :
    (split d p ⟨data, none⟩ ((pre.map fun g => some (wrOf g)) ++ some ⟨g, some k, short⟩ :: post.map some) size).err =
      some (.rawWrite short) := by
  show (split d p (cleanRd data) (pw pre ++ some ⟨g, some k, short⟩ :: post.map some) size).err = _
  subst hd
  have hceil := RSV.Proofs.SplitJoin.le_mul_ceil size (pre.length + 1 + post.length) (by omega)
  generalize hps : (size + (pre.length + 1 + post.length) - 1) / (pre.length + 1 + post.length) = ps at hk hceil
  have hl := length_append_cons (pw pre) (post.map some) (some (⟨g, some k, short⟩ : Wr))
  rw [length_pw, List.length_map] at hl
  have htake : (data.take size).length = size := by rw [List.length_take]; omega
  have hav := chunk_avail pre.length post.length p ps size (Nat.mul_comm _ _ ▸ hceil)
  -- the writers before `j` get full chunks; the chunk of writer `j` is longer than `k`
  rw [split_eq_go (by omega) hl (isSome_of_mem_mix isSome_of_mem_pw isSome_of_mem_map_some) hps.symm
      (readFull_clean data size), if_pos hlen, if_neg (by simp),
    split_go_prefix _ _ _ _ pre _ _ _ _ (by
      rw [List.length_append, htake, List.length_replicate]; exact Nat.le_trans (Nat.le_add_right _ _) hav),
    split_go_cons_limit]
  rw [List.length_take, List.length_drop, List.length_append, htake, List.length_replicate]
  clear hl htake hceil hps hlen hs
  omega

/-- `Join`, reader `i` (lower ones fault-free, all `d` present) faults before `outSize` bytes are
gathered: what was read is written, the reader's own error comes back unwrapped (`rawRead`) -/
theorem C15_never_ok_join_read (d : Nat) (g : List Nat) (pre : List (List Nat)) (data : List Nat) (k : Nat)
    (post : List Rd) (extra : List (Option Rd)) (outSize : Nat)
    (hd : pre.length + 1 + post.length = d) (hk : pre.flatten.length + k < outSize) (hk' : k ≤ data.length) :
    join d (wrOf g) ((pre.map fun s => some (cleanRd s)) ++ some ⟨data, some k⟩ :: (post.map some ++ extra)) outSize =
      (some .rawRead, wrOf (g ++ pre.flatten ++ data.take k)) := by
  show join d (wrOf g) (cl pre ++ some ⟨data, some k⟩ :: (post.map some ++ extra)) outSize = _
  have hl := length_append_cons (cl pre) (post.map some) (some (⟨data, some k⟩ : Rd))
  rw [length_cl, List.length_map, hd] at hl
  have h2 : (cl pre ++ some (⟨data, some k⟩ : Rd) :: (post.map some ++ extra)).take d =
      cl pre ++ some ⟨data, some k⟩ :: post.map some := by
    rw [← hl, ← List.take_left (l₁ := cl pre ++ some (⟨data, some k⟩ : Rd) :: post.map some) (l₂ := extra)]
    simp
  rw [join_eq (bytes := pre.flatten ++ data.take k) (faulted := true) (by simp; omega)
      (by rw [h2]; exact isSome_of_mem_mix isSome_of_mem_cl isSome_of_mem_map_some)
      (by rw [h2, gather_prefix pre _ [] outSize (by omega), gather_cons_fault data k _ _ _ (by omega) hk',
        List.nil_append]),
    writeTo_wrOf]
  simp

/-- `Join`, the destination accepts fewer bytes than must be written: `rawWrite` -/
theorem C15_never_ok_join_write (d : Nat) (g : List Nat) (k : Nat) (short : Bool) (ss : List (List Nat))
    (hd : ss.length = d) (extra : List (Option Rd)) (outSize : Nat)
    (hk : k < min outSize ss.flatten.length) :
    join d ⟨g, some k, short⟩ ((ss.map fun s => some (cleanRd s)) ++ extra) outSize =
      (some (.rawWrite short), ⟨g ++ (ss.flatten.take outSize).take k, some 0, short⟩) := by
  show join d _ (cl ss ++ extra) outSize = _
  rw [join_cl d _ ss hd, writeTo_limit g k short _ (by rw [List.length_take]; exact hk)]


/-! Concrete runs: the toy codec `toy` (2 data + 1 xor parity), block size 2. -/

example : (encode toy false 2 [some (cleanRd [1, 2, 3, 4, 5]), some ⟨[6, 7, 8, 9, 10], some 3⟩] [some (wrOf [])]).err
    = some (.read 1) :=
  C15_read_error_encode_any toy toy_encLocal false 2 5 3 (by decide) (by decide) [[1, 2, 3, 4, 5]] [] [6, 7, 8, 9, 10]
    rfl (by decide) (by decide) rfl [[]] rfl
example : encode toy false 2 [some (cleanRd [1, 2, 3, 4, 5]), some ⟨[6, 7, 8, 9, 10], some 3⟩] [some cleanWr]
    = ⟨some (.read 1), [some ⟨[7, 5], none, false⟩]⟩ := by decide
example : verify toy 2 [some (cleanRd [1, 2, 3, 4, 5]), some ⟨[6, 7, 8, 9, 10], some 3⟩, some (cleanRd [7, 5, 11, 13, 15])]
    = (false, some (.read 1)) := by decide
example : encode toy false 2 [some (cleanRd [1, 2, 3, 4, 5]), some (cleanRd [6, 7, 8, 9, 10])] [some ⟨[], some 3, true⟩]
    = ⟨some (.write 0 true), [some ⟨[7, 5, 11], some 0, true⟩]⟩ := by decide
example : encode toy true 2 [some (cleanRd [1, 2, 3, 4, 5]), some (cleanRd [6, 7, 8, 9, 10])] [some ⟨[], some 3, false⟩]
    = ⟨some (.write 0 false), [some ⟨[7, 5, 11], some 0, false⟩]⟩ := by decide
example : writeShards false [some (wrOf []), some ⟨[], some 1, true⟩, some (wrOf [])] [[1, 2], [3, 4], [5, 6]] 0 []
    = ([some (wrOf [1, 2]), some ⟨[3], some 0, true⟩, some (wrOf [])], some (.write 1 true)) := by decide
example : writeShards true [some (wrOf []), some ⟨[], some 1, true⟩, some (wrOf [])] [[1, 2], [3, 4], [5, 6]] 0 []
    = ([some (wrOf [1, 2]), some ⟨[3], some 0, true⟩, some (wrOf [5, 6])], some (.write 1 true)) := by decide
/-- the shorter stream ends exactly on a block boundary (4 = 2·2) next to a longer one -/
example : encode toy true 2 [some (cleanRd [1, 2, 3, 4]), some (cleanRd [6, 7, 8, 9, 10])] [some cleanWr]
    = ⟨some .shardSize, [some ⟨[7, 5, 11, 13], none, false⟩]⟩ := by decide
/-- the shorter stream ends inside a block -/
example : encode toy false 2 [some (cleanRd [1, 2, 3, 4, 5]), some (cleanRd [6, 7, 8])] [some cleanWr]
    = ⟨some .shardSize, [some ⟨[7, 5], none, false⟩]⟩ := by decide
example : encode toy false 2 [some (cleanRd [1, 2, 3, 4, 5]), some (cleanRd [])] [some cleanWr]
    = ⟨some .shardSize, [some cleanWr]⟩ := by decide
example : verify toy 2 [some (cleanRd [1, 2, 3, 4]), some (cleanRd [6, 7, 8, 9]), some (cleanRd [7, 5, 11, 13, 15])]
    = (false, some .shardSize) := by decide
example : split 2 1 ⟨[1, 2, 3], none⟩ [some cleanWr, some cleanWr] 5
    = ⟨some .shortData, [some ⟨[1, 2, 3], none, false⟩, some ⟨[0, 0, 0], none, false⟩]⟩ := by decide
example : split 2 1 ⟨[1, 2, 3, 4, 5, 6, 7], none⟩ [some cleanWr, some cleanWr] 5
    = ⟨none, [some ⟨[1, 2, 3], none, false⟩, some ⟨[4, 5, 0], none, false⟩]⟩ := by decide
example : join 2 cleanWr [some (cleanRd [1, 2, 3]), some (cleanRd [4, 5, 0])] 7
    = (some .shortData, ⟨[1, 2, 3, 4, 5, 0], none, false⟩) := by decide
example : join 2 cleanWr [some (cleanRd [1, 2, 3]), none, some (cleanRd [4, 5, 0])] 5
    = (some (.readNoData 1), cleanWr) := by decide
example : join 3 cleanWr [some (cleanRd [1, 2, 3]), some (cleanRd [4, 5, 0])] 5
    = (some .tooFewShards, cleanWr) := by decide
example : split 2 1 ⟨[1, 2, 3, 4, 5], some 4⟩ [some cleanWr, some cleanWr] 5
    = ⟨some .rawRead, [some ⟨[1, 2, 3], none, false⟩, some ⟨[4], none, false⟩]⟩ := by decide
example : split 2 1 ⟨[1, 2, 3, 4, 5], none⟩ [some cleanWr, some ⟨[], some 1, true⟩] 5
    = ⟨some (.rawWrite true), [some ⟨[1, 2, 3], none, false⟩, some ⟨[4], some 0, true⟩]⟩ := by decide
example : join 2 cleanWr [some (cleanRd [1, 2, 3]), some ⟨[4, 5, 0], some 1⟩] 5
    = (some .rawRead, ⟨[1, 2, 3, 4], none, false⟩) := by decide
example : join 2 ⟨[], some 4, false⟩ [some (cleanRd [1, 2, 3]), some (cleanRd [4, 5, 0])] 5
    = (some (.rawWrite false), ⟨[1, 2, 3, 4], some 0, false⟩) := by decide

#print axioms C15_readFull_fault
#print axioms C15_read_error
#print axioms C15_read_error_full
#print axioms C15_read_error_encode
#print axioms C15_read_error_verify
#print axioms C15_read_error_reconstruct
#print axioms C15_read_error_never_ok
#print axioms C15_read_error_encode_any
#print axioms C15_read_error_verify_any
#print axioms C15_write_error_seq
#print axioms C15_write_error_conc
#print axioms C15_short_write
#print axioms C15_write_error_encodeLoop
#print axioms C15_readShards_unequal
#print axioms C15_readShards_ok_equal
#print axioms C15_unequal
#print axioms C15_unequal_verify
#print axioms C15_split_short
#print axioms C15_split_surplus
#print axioms C15_join_short
#print axioms C15_join_nil
#print axioms C15_join_too_few
#print axioms C15_never_ok_split_read
#print axioms C15_never_ok_split_write
#print axioms C15_never_ok_join_read
#print axioms C15_never_ok_join_write

end RSV.Props.C15
