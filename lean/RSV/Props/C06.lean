import RSV.Proofs.Columns

/-!
# C06 — `Verify` returns true exactly when the parity matches the data

`verifySpec A data par` is the L0 reading of `reedSolomon.Verify` (`A` = parity rows of the
generator).  Any changed parity byte is detected.  The old parity verifies against changed data
iff the change is in the kernel of `A` at every byte position (`verifySpec_encodeSpec_iff`); so a
changed data byte is detected provided its column of `A` has a non-zero entry, which holds for
every column of an MDS generator with at least one parity row.  The excluded points are stated:
`C06_p0` (no parity shards: constantly true) and `C06_zero_column_undetected` (zero column:
changes of that data shard are invisible).
-/

namespace RSV.Props.C06
open RSV.Model RSV.CodeTheory

variable {F : Type} [Field F] [DecidableEq F] {d p len : ℕ}

theorem C06_iff (A : Mat F p d) (data : Fin d → Shard F len) (par : Fin p → Shard F len) :
    verifySpec A data par = true ↔ ∀ r, par r = encodeSpec A data r :=
  verifySpec_eq_true_iff A data par

theorem C06_encoded (A : Mat F p d) (data : Fin d → Shard F len) :
    verifySpec A data (encodeSpec A data) = true :=
  (C06_iff A data _).mpr fun _ => rfl

/-- changing any byte of any parity shard is detected -/
theorem C06_flip_parity (A : Mat F p d) (data : Fin d → Shard F len) (par' : Fin p → Shard F len)
    (r : Fin p) (k : Fin len) (h : (par' r)[k] ≠ (encodeSpec A data r)[k]) :
    verifySpec A data par' = false :=
  (verifySpec_eq_false_iff A data par').mpr ⟨r, fun he => h (by rw [he])⟩

example : ∃ (A : Mat F 1 1) (data : Fin 1 → Shard F 1) (par' : Fin 1 → Shard F 1) (r : Fin 1)
    (k : Fin 1), (par' r)[k] ≠ (encodeSpec A data r)[k] :=
  ⟨Mat.ofFn fun _ _ => 1, fun _ => Vector.replicate 1 0, fun _ => Vector.replicate 1 1, 0, 0, by
    rw [encodeSpec_getElem]; simp⟩

/-- changing byte `k` of data shard `c` is detected provided column `c` of `A` has a non-zero
entry -/
theorem C06_flip_data (A : Mat F p d) (data data' : Fin d → Shard F len) (c : Fin d) (k : Fin len)
    (hsame : ∀ c' k', (c' ≠ c ∨ k' ≠ k) → (data' c')[k'] = (data c')[k'])
    (hdiff : (data' c)[k] ≠ (data c)[k]) (r : Fin p) (hr : A.get r c ≠ 0) :
    verifySpec A data' (encodeSpec A data) = false := by
  rw [← Bool.not_eq_true, verifySpec_encodeSpec_iff]
  intro h
  -- at `(r, k)` only the summand of shard `c` is left
  have := h r k
  rw [Finset.sum_eq_single c (fun b _ hb => by rw [hsame b k (Or.inl hb), sub_self, mul_zero])
    (fun h => absurd (Finset.mem_univ c) h)] at this
  exact mul_ne_zero hr (sub_ne_zero.mpr hdiff) this

/-- non-vacuity of `C06_flip_data`: the hypotheses are satisfiable (one all-ones parity row,
one data shard of one byte changed from `0` to `1`) -/
example : ∃ (A : Mat F 1 1) (data data' : Fin 1 → Shard F 1) (c : Fin 1) (k : Fin 1) (r : Fin 1),
    (∀ c' k', (c' ≠ c ∨ k' ≠ k) → (data' c')[k'] = (data c')[k']) ∧
    (data' c)[k] ≠ (data c)[k] ∧ A.get r c ≠ 0 :=
  ⟨Mat.ofFn fun _ _ => 1, fun _ => Vector.replicate 1 0, fun _ => Vector.replicate 1 1, 0, 0, 0,
    by intro c' k' h; rcases h with h | h <;> exact absurd (Subsingleton.elim _ _) h,
    by simp, by simp⟩

omit [DecidableEq F] in
theorem C06_mds_entry_ne_zero (A : Mat F p d) (hA : MDS (fun r c => A.get r c)) (r : Fin p)
    (c : Fin d) : A.get r c ≠ 0 :=
  MDS_entry_ne_zero hA r c

omit [DecidableEq F] in
/-- every MDS generator with `p ≥ 1` has no zero column (in fact no zero entry) — so
`C06_flip_data` applies to every byte -/
theorem C06_mds_column_ne_zero (A : Mat F p d) (hA : MDS (fun r c => A.get r c)) (hp : 0 < p)
    (c : Fin d) : ∃ r, A.get r c ≠ 0 :=
  ⟨⟨0, hp⟩, C06_mds_entry_ne_zero A hA _ c⟩

/-- non-vacuity: MDS generators with `p ≥ 1` exist (the XOR-parity row) -/
example : ∃ A : Mat F 1 1, MDS (fun r c => A.get r c) ∧ 0 < 1 :=
  ⟨Mat.ofFn fun _ _ => 1, by
    simpa using ones_mds (F := F) (d := 1) (fun _ => 0) (fun a b _ => Subsingleton.elim a b),
    Nat.one_pos⟩

/-- for an MDS generator with at least one parity shard, every single-byte change of the data is
detected by `Verify` against the old parity -/
theorem C06_mds_flip_data (A : Mat F p d) (hA : MDS (fun r c => A.get r c)) (hp : 0 < p)
    (data data' : Fin d → Shard F len) (c : Fin d) (k : Fin len)
    (hsame : ∀ c' k', (c' ≠ c ∨ k' ≠ k) → (data' c')[k'] = (data c')[k'])
    (hdiff : (data' c)[k] ≠ (data c)[k]) :
    verifySpec A data' (encodeSpec A data) = false :=
  let ⟨r, hr⟩ := C06_mds_column_ne_zero A hA hp c
  C06_flip_data A data data' c k hsame hdiff r hr

/-- excluded point: with `p = 0` Verify is constantly true -/
theorem C06_p0 (A : Mat F 0 d) (data : Fin d → Shard F len) (par : Fin 0 → Shard F len) :
    verifySpec A data par = true :=
  (C06_iff A data par).mpr fun r => r.elim0

/-- excluded point: a zero column means a change in that data shard is not detected -/
theorem C06_zero_column_undetected (A : Mat F p d) (c : Fin d) (hz : ∀ r, A.get r c = 0)
    (data data' : Fin d → Shard F len) (hsame : ∀ c', c' ≠ c → data' c' = data c') :
    verifySpec A data' (encodeSpec A data) = true := by
  refine (verifySpec_encodeSpec_iff A data data').mpr fun r k => Finset.sum_eq_zero fun c' _ => ?_
  by_cases h : c' = c
  · rw [h, hz r, zero_mul]
  · rw [hsame c' h, sub_self, mul_zero]

/-- non-vacuity of `C06_zero_column_undetected`: a zero column, and a data set that really
differs in that shard -/
example : ∃ (A : Mat F 1 1) (c : Fin 1) (data data' : Fin 1 → Shard F 1),
    (∀ r, A.get r c = 0) ∧ (∀ c', c' ≠ c → data' c' = data c') ∧ data' c ≠ data c :=
  ⟨Mat.ofFn fun _ _ => 0, 0, fun _ => Vector.replicate 1 0, fun _ => Vector.replicate 1 1,
    by simp, fun c' h => absurd (Subsingleton.elim _ _) h, by
      intro h
      have := congrArg (fun v : Shard F 1 => v[0]) h
      simp at this⟩

end RSV.Props.C06

#print axioms RSV.Props.C06.C06_iff
#print axioms RSV.Props.C06.C06_encoded
#print axioms RSV.Props.C06.C06_flip_parity
#print axioms RSV.Props.C06.C06_flip_data
#print axioms RSV.Props.C06.C06_mds_entry_ne_zero
#print axioms RSV.Props.C06.C06_mds_column_ne_zero
#print axioms RSV.Props.C06.C06_mds_flip_data
#print axioms RSV.Props.C06.C06_p0
#print axioms RSV.Props.C06.C06_zero_column_undetected
