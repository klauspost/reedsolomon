import RSV.Proofs.Memo
import Mathlib.Algebra.Field.Rat

/-!
# C10 — the inversion cache never changes an answer (matrix codec)

Model: `RSV.Model.Memo` — the inversion tree of `inversion_tree.go` (`Node`, `Tree.get`,
`Tree.insert`, `newTree`), the cache key (`cacheKey`: the missing indices met before `d` present
ones), one cached call `reconStep` and a history of calls `runHistory` on one encoder.
Specification: the cache-free `RSV.Model.reconstruct` (what a fresh encoder computes).

With at least `d` shards present the key determines the `d` survivor rows, hence the sub-matrix
(`subMat_of_key`); so "every entry is the inverse `invert` would compute" (`Sound`) is an invariant
of every call, and a sound cache never changes an answer.

The trie and key lemmas up to `subMat_of_key` restate those of `RSV/Proofs/Memo.lean` (namespace
`RSV.Model.Memo`) under the names the property is quoted by; the proofs are there.
-/

namespace RSV.Props.C10
open RSV.Model RSV.Model.Memo

section Trie
variable {V : Type}

/-- the shape of the keys: strictly increasing, every element at least the running `parent` -/
abbrev StrictInc : List ℕ → ℕ → Prop := RSV.Model.Memo.StrictInc

theorem strictInc_iff (k : List ℕ) (parent : ℕ) :
    StrictInc k parent ↔ k.Pairwise (· < ·) ∧ ∀ x ∈ k, parent ≤ x :=
  RSV.Model.Memo.strictInc_iff k parent

/-- what was inserted under a non-empty key is found under that key.  (True for every non-empty
key; `hinc` is not used.) -/
theorem get_insert_same (k : List ℕ) (hk : k ≠ []) (n : Node V) (parent : ℕ)
    (_hinc : StrictInc k parent) (v : V) :
    Node.get k (Node.insert k n parent v) parent = some v :=
  Node.get_insert_same k hk n parent v

set_option linter.unusedVariables false in
/-- an insertion does not disturb any other key.  Here `StrictInc` is needed: with `parent = 5`
the keys `[3]` and `[4]` both address child `0` because of the truncated subtraction.
(`hk`, `hk'` are not used: under the empty key nothing is stored and nothing is found.) -/
theorem get_insert_other (k k' : List ℕ) (hk : k ≠ []) (hk' : k' ≠ []) (n : Node V) (parent : ℕ)
    (hinc : StrictInc k parent) (hinc' : StrictInc k' parent) (hne : k ≠ k') (v : V) :
    Node.get k' (Node.insert k n parent v) parent = Node.get k' n parent :=
  Node.get_insert_other k k' n parent hinc hinc' hne v

example : Node.get [4] (Node.insert [3] (Node.empty : Node ℕ) 5 7) 5 = some 7 ∧
    Node.get [4] (Node.empty : Node ℕ) 5 = none := ⟨rfl, rfl⟩

/-- the laws of `GetInvertedMatrix` / `InsertInvertedMatrix` -/
theorem tree_get_insert :
    -- cache enabled: an inserted non-empty key is found
    (∀ (t : Memo.Tree V) (k : List ℕ) (v : V), k ≠ [] →
      Memo.Tree.get (Memo.Tree.insert (some t) k v) k = some v) ∧
    -- enabled or not: other strictly increasing keys (the empty one included) are not disturbed
    (∀ (t : Option (Memo.Tree V)) (k k' : List ℕ) (v : V), StrictInc k 0 → StrictInc k' 0 → k ≠ k' →
      Memo.Tree.get (Memo.Tree.insert t k v) k' = Memo.Tree.get t k') ∧
    -- a disabled cache always misses and stays disabled
    (∀ (k : List ℕ), Memo.Tree.get (none : Option (Memo.Tree V)) k = none) ∧
    (∀ (k : List ℕ) (v : V), Memo.Tree.insert (none : Option (Memo.Tree V)) k v = none) ∧
    -- the empty key returns the root value; inserting under it changes nothing
    (∀ (t : Memo.Tree V), Memo.Tree.get (some t) [] = t.root.val) ∧
    (∀ (t : Option (Memo.Tree V)) (v : V), Memo.Tree.insert t [] v = t) :=
  ⟨fun t k v hk => Memo.Tree.get_insert_same t k hk v,
   fun t k k' v h h' hne => Memo.Tree.get_insert_other t k k' h h' hne v,
   fun _ => rfl, fun _ _ => rfl, fun _ => rfl, fun t v => Memo.Tree.insert_nil t v⟩

example :
    let t : Option (Memo.Tree ℕ) := Memo.Tree.insert (Memo.Tree.insert (some ⟨Node.mk (some 0) fun _ => Node.empty⟩) [1, 3] 13) [1] 1
    Memo.Tree.get t [1, 3] = some 13 ∧ Memo.Tree.get t [1] = some 1 ∧ Memo.Tree.get t [] = some 0 ∧
      Memo.Tree.get t [3] = none ∧ Memo.Tree.get t [1, 2] = none := by
  decide

end Trie

section Key
variable {n : ℕ}

/-- two presence patterns with at least `d` present shards each and the same cache key select the
same `d` rows -/
theorem key_determines_valid (present present' : Fin n → Bool) (d : ℕ)
    (h : d ≤ countTrue present) (h' : d ≤ countTrue present')
    (hk : cacheKey present d = cacheKey present' d) :
    firstPresent present d = firstPresent present' d :=
  Memo.key_determines_valid present present' d h h' hk

/-- explicitly, with at least `d` shards present: the survivor rows are the first `d` indices
outside the key -/
theorem valid_of_key (present : Fin n → Bool) (d : ℕ) (h : d ≤ countTrue present) :
    firstPresent present d =
      ((List.finRange n).filter fun i => !(cacheKey present d).contains i.val).take d :=
  Memo.firstPresent_eq_validOfKey present d h

theorem cacheKey_strictInc (present : Fin n → Bool) (d : ℕ) : StrictInc (cacheKey present d) 0 :=
  Memo.cacheKey_strictInc present d

/-- with at least `d` shards present, the key is empty exactly when the first `d` shards are present -/
theorem cacheKey_eq_nil_iff (present : Fin n → Bool) (d : ℕ) (h : d ≤ countTrue present) :
    cacheKey present d = [] ↔ ∀ i : Fin n, i.val < d → present i = true :=
  Memo.cacheKey_eq_nil_iff present d h

end Key

section Main
variable {F : Type} [Field F] [DecidableEq F] {d p len : ℕ}

omit [DecidableEq F] in
/-- the sub-matrix inverted by `reconstruct` is a function of the key (at least `d` shards present) -/
theorem subMat_of_key (A : Mat F p d) (present present' : Fin (d + p) → Bool)
    (h : d ≤ countTrue present) (h' : d ≤ countTrue present')
    (hk : cacheKey present d = cacheKey present' d) : subMat A present = subMat A present' :=
  subMat_congr_key A present present' h h' hk

/-- cache soundness: every entry reachable under the key of some presence pattern with at least
`d` present shards is the inverse `invert` would compute for that pattern -/
def Sound (A : Mat F p d) (t : Option (Memo.Tree (Mat F d d))) : Prop :=
  ∀ (present : Fin (d + p) → Bool), d ≤ countTrue present →
    ∀ dec, Memo.Tree.get t (cacheKey present d) = some dec → invert (subMat A present) = some dec

/-- a fresh encoder: the only entry is the identity under the empty key, and the empty key
selects the first `d` rows of `[I; A]` -/
theorem sound_new (A : Mat F p d) : Sound A (some (newTree d)) := by
  intro present hd dec hget
  obtain ⟨hk, rfl⟩ := newTree_get hget
  rw [subMat_eq_subOfKey A present hd, hk]
  exact invert_subOfKey_nil A

/-- `WithInversionCache(false)` -/
theorem sound_disabled (A : Mat F p d) : Sound A none := by
  intro present _ dec hget
  cases hget

/-- a sound cache never changes the answer of a call -/
theorem reconStep_result (A : Mat F p d) (t : Option (Memo.Tree (Mat F d d))) (hs : Sound A t)
    (sh : Fin (d + p) → Option (Shard F len)) (mode : ReconMode) :
    (reconStep A t sh mode).1 = reconstruct A sh mode := by
  cases hget : Memo.Tree.get t (cacheKey (fun i => (sh i).isSome) d) with
  | none => exact reconStep_miss_fst A t sh mode hget
  | some dec =>
    rw [reconStep_hit A t sh mode dec hget]
    exact reconstructWith_congr (fun _ => some dec) invert A sh mode
      (fun hd => (hs _ hd dec hget).symm)

/-- every call keeps the cache sound -/
theorem reconStep_sound (A : Mat F p d) (t : Option (Memo.Tree (Mat F d d))) (hs : Sound A t)
    (sh : Fin (d + p) → Option (Shard F len)) (mode : ReconMode) :
    Sound A (reconStep A t sh mode).2 := by
  cases hget : Memo.Tree.get t (cacheKey (fun i => (sh i).isSome) d) with
  | some dec => rw [reconStep_hit A t sh mode dec hget]; exact hs
  | none =>
    rcases reconStep_miss_snd A t sh mode hget with h | ⟨hd, dec, hinv, h⟩
    · rw [h]; exact hs
    · rw [h]
      intro present' hd' dec' hget'
      rcases Memo.Tree.get_insert_cases t _ _ (Memo.cacheKey_strictInc _ d)
        (Memo.cacheKey_strictInc present' d) dec dec' hget' with ⟨hk, -, hdec⟩ | hold
      · rw [subMat_congr_key A present' _ hd' hd hk, hdec]
        exact hinv
      · exact hs present' hd' dec' hold

theorem runHistory_sound (A : Mat F p d) (t : Option (Memo.Tree (Mat F d d))) (hs : Sound A t)
    (hist : List ((Fin (d + p) → Option (Shard F len)) × ReconMode)) :
    Sound A (runHistory A t hist).2 := by
  induction hist generalizing t with
  | nil => exact hs
  | cons c rest ih =>
    obtain ⟨sh, mode⟩ := c
    exact ih _ (reconStep_sound A t hs sh mode)

/-- C10 (matrix codec). For every finite history of Reconstruct / ReconstructData /
ReconstructSome calls with arbitrary shard sets and modes on one encoder whose cache is sound
(enabled or disabled), every answer equals what a cache-free encoder returns. -/
theorem C10_matrix (A : Mat F p d) (t : Option (Memo.Tree (Mat F d d))) (hs : Sound A t)
    (hist : List ((Fin (d + p) → Option (Shard F len)) × ReconMode)) :
    (runHistory A t hist).1 = hist.map (fun (sh, mode) => reconstruct A sh mode) := by
  induction hist generalizing t with
  | nil => rfl
  | cons c rest ih =>
    obtain ⟨sh, mode⟩ := c
    show (reconStep A t sh mode).1 :: (runHistory A (reconStep A t sh mode).2 rest).1 = _
    rw [reconStep_result A t hs sh mode, ih _ (reconStep_sound A t hs sh mode)]
    rfl

/-- C10 for a fresh encoder, cache enabled (the default) or disabled -/
theorem C10_fresh (A : Mat F p d)
    (hist : List ((Fin (d + p) → Option (Shard F len)) × ReconMode)) :
    (runHistory A (some (newTree d)) hist).1 = hist.map (fun (sh, mode) => reconstruct A sh mode) ∧
    (runHistory A none hist).1 = hist.map (fun (sh, mode) => reconstruct A sh mode) :=
  ⟨C10_matrix A _ (sound_new A) hist, C10_matrix A _ (sound_disabled A) hist⟩

/-- the answer to a call does not depend on the calls made before it -/
theorem C10_history_independent (A : Mat F p d)
    (hist hist' : List ((Fin (d + p) → Option (Shard F len)) × ReconMode))
    (sh : Fin (d + p) → Option (Shard F len)) (mode : ReconMode) :
    (reconStep A (runHistory A (some (newTree d)) hist).2 sh mode).1 =
      (reconStep A (runHistory A (some (newTree d)) hist').2 sh mode).1 := by
  rw [reconStep_result A _ (runHistory_sound A _ (sound_new A) hist),
    reconStep_result A _ (runHistory_sound A _ (sound_new A) hist')]

end Main

section Example

def exA : Mat ℚ 1 2 := Mat.ofFn fun _ _ => 1

def exShards : Fin (2 + 1) → Option (Shard ℚ 1) := fun i =>
  if i.val = 0 then none else some (Vector.replicate 1 (i.val : ℚ))

/-- the key of the example call is `[0]`; after the call the tree holds an entry under `[0]`,
i.e. the second identical call is answered from the cache — and gives the same answer -/
example : cacheKey (fun i => (exShards i).isSome) 2 = [0] := by decide

example : (Memo.Tree.get (reconStep exA (some (newTree 2)) exShards .all).2 [0]).isSome = true := by
  decide +kernel

example :
    (runHistory exA (some (newTree 2)) [(exShards, .all), (exShards, .all), (exShards, .dataOnly)]).1 =
      [reconstruct exA exShards .all, reconstruct exA exShards .all, reconstruct exA exShards .dataOnly] :=
  (C10_fresh exA _).1

end Example

end RSV.Props.C10

#print axioms RSV.Props.C10.strictInc_iff
#print axioms RSV.Props.C10.get_insert_same
#print axioms RSV.Props.C10.get_insert_other
#print axioms RSV.Props.C10.tree_get_insert
#print axioms RSV.Props.C10.key_determines_valid
#print axioms RSV.Props.C10.valid_of_key
#print axioms RSV.Props.C10.cacheKey_strictInc
#print axioms RSV.Props.C10.cacheKey_eq_nil_iff
#print axioms RSV.Props.C10.subMat_of_key
#print axioms RSV.Props.C10.sound_new
#print axioms RSV.Props.C10.sound_disabled
#print axioms RSV.Props.C10.reconStep_result
#print axioms RSV.Props.C10.reconStep_sound
#print axioms RSV.Props.C10.runHistory_sound
#print axioms RSV.Props.C10.C10_matrix
#print axioms RSV.Props.C10.C10_fresh
#print axioms RSV.Props.C10.C10_history_independent
