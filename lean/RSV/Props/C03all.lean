import RSV.Props.C03
import RSV.Props.C17matrix
import RSV.Props.C17buildMatrix
/-! C03 umbrella: the encoding theorems (`RSV.Props.C03`, about the generators of `RSV.Model.Builders`) and the theorems that the
package's generator builders, as regenerated from the Go source, build exactly those matrices
(`RSV.Props.C17matrix`, `RSV.Props.C17buildMatrix`) -/
