import RSV.Proofs.GenInvert
/-!
# C17 (matrix code) — `matrix.Invert`, regenerated from the Go source, equals the model's Gaussian elimination

`RSV.Gen.matrix_Invert` is the statement-by-statement translation of `matrix.go: (matrix) Invert` (through
`IsSquare`, `identityMatrix`, `Augment`, `gaussianElimination` with `SwapRows`, `SubMatrix`, `newMatrix`, and the
regenerated `galMultiply` / `galOneOver`), regenerated from the current Go source on every run.
`RSV.Model.invert` is the hand-written elimination the inversion theorems (`invert_sound`, `invert_complete`, …)
are about.  For EVERY non-empty square byte matrix (`n < 2^62` rows: beyond that `size * 2` wraps around in Go's
`int`) the Go code returns exactly the model's inverse, listed as bytes, with a `nil` error — or
`(nil, errSingular)` exactly when the model returns `none`.  It never panics and returns no other error.
The Go code's operational shortcuts (pivot search that tests the diagonal entry first and `break`s at the first
non-zero entry below, scaling skipped when the pivot is `1`, row updates skipped when the factor is `0`) are proved
to compute the same matrices as the model's unconditional steps.
-/
namespace RSV.Props.C17invert
open RSV.Model

/-- `matrix.Invert` = `Model.invert`, both outcomes, every size `0 < n < 2^62` -/
theorem C17m_Invert (n : Nat) (hn : 0 < n) (hn62 : n < 2 ^ 62) (a : Array (Array Nat)) (hsz : a.size = n)
    (hrow : ∀ i, i < n → (a[i]!).size = n) (hb : ∀ i j, i < n → j < n → (a[i]!)[j]! < 256) :
    Gen.matrix_Invert a =
      match Model.invert (matOfRows a n) with
      | some B => some (rowsOfMat B, none)
      | none => some (#[], some "errSingular") :=
  GenInvert.matrix_Invert_eq_model n hn hn62 a hsz hrow hb

/-- when the Go code returns `(inv, nil)`, `inv` lists the entries of a two-sided inverse of the input
(Mathlib's matrix product over the field `GF256`) — `invert_sound` transported to the Go code -/
theorem C17m_Invert_inverse (n : Nat) (hn : 0 < n) (hn62 : n < 2 ^ 62) (a : Array (Array Nat)) (hsz : a.size = n)
    (hrow : ∀ i, i < n → (a[i]!).size = n) (hb : ∀ i j, i < n → j < n → (a[i]!)[j]! < 256)
    (inv : Array (Array Nat)) (h : Gen.matrix_Invert a = some (inv, none)) :
    ∃ B : Mat GF256 n n, Model.invert (matOfRows a n) = some B ∧ inv = rowsOfMat B ∧
      B.toMatrix * (matOfRows a n).toMatrix = 1 ∧ (matOfRows a n).toMatrix * B.toMatrix = 1 :=
  GenInvert.matrix_Invert_ok hn hn62 a hsz hrow hb inv h

/-- the Go code returns `errSingular` exactly on the non-invertible matrices -/
theorem C17m_Invert_singular_iff (n : Nat) (hn : 0 < n) (hn62 : n < 2 ^ 62) (a : Array (Array Nat))
    (hsz : a.size = n) (hrow : ∀ i, i < n → (a[i]!).size = n) (hb : ∀ i j, i < n → j < n → (a[i]!)[j]! < 256) :
    Gen.matrix_Invert a = some (#[], some "errSingular") ↔ ¬ IsUnit (matOfRows a n).toMatrix :=
  GenInvert.matrix_Invert_singular_iff hn hn62 a hsz hrow hb

/-- the executable comparison `genInvertAgrees` (the one the driver runs) can only answer `true` on a non-empty
square byte matrix -/
theorem C17m_genInvertAgrees (rows : List (List Nat)) (h : squareBytes rows = true) (hlen : rows.length < 2 ^ 62) :
    genInvertAgrees rows = true :=
  GenInvert.genInvertAgrees_true rows h hlen

/-! non-vacuity: the theorem instantiated on a 3×3 matrix that needs a row swap, and on a singular one -/
abbrev m3 : Array (Array Nat) := #[#[0, 2, 3], #[0, 0, 7], #[5, 1, 1]]
abbrev s3 : Array (Array Nat) := #[#[1, 2, 3], #[2, 4, 6], #[5, 1, 1]]

example : ∃ B, Model.invert (matOfRows m3 3) = some B ∧ Gen.matrix_Invert m3 = some (rowsOfMat B, none) := by
  have h := C17m_Invert 3 (by decide) (by decide) m3 (by decide) (by decide)
    (fun i j hi hj => (by decide : ∀ i, i < 3 → ∀ j, j < 3 → (m3[i]!)[j]! < 256) i hi j hj)
  cases hi : Model.invert (matOfRows m3 3) with
  | none => exact absurd hi (by decide +kernel)
  | some B => rw [hi] at h; exact ⟨B, rfl, h⟩
example : Gen.matrix_Invert m3 = some (#[#[221, 64, 167], #[142, 231, 0], #[0, 186, 0]], none) := by
  decide +kernel

example : Gen.matrix_Invert s3 = some (#[], some "errSingular") := by
  have h := C17m_Invert 3 (by decide) (by decide) s3 (by decide) (by decide)
    (fun i j hi hj => (by decide : ∀ i, i < 3 → ∀ j, j < 3 → (s3[i]!)[j]! < 256) i hi j hj)
  rw [show Model.invert (matOfRows s3 3) = none by decide +kernel] at h
  exact h

end RSV.Props.C17invert

#print axioms RSV.Props.C17invert.C17m_Invert
#print axioms RSV.Props.C17invert.C17m_Invert_inverse
#print axioms RSV.Props.C17invert.C17m_Invert_singular_iff
#print axioms RSV.Props.C17invert.C17m_genInvertAgrees
