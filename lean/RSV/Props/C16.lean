import RSV.Proofs.ApiShape
/-!
# C16 — the public API is total

Properties of the shape-level model `RSV.Model.Api` of the argument checking of the public API:
no argument tuple reaches the outcome `panic`, the documented errors are returned for the
documented conditions, `New` never panics for any pair of 64-bit integers and every encoder it
returns is usable.

The model evaluates, after the argument checks, the slice expressions of the kernels the checked
arguments are handed to (`codeOob`, `leoEncodeOob`, `rsReconOob`, `leoReconOob`, `updateOob`, the
windows of `EncodeIdx`); one of them out of range is the outcome `panic`.  So every totality theorem
says that the argument checks are SUFFICIENT for the slicing.  `Checks.*` are the checks
alone; `encode_eq_checks`, `verify_eq_checks`, `reconstruct_eq_checks`, `encodeIdx_eq_checks` show
that the kernels never change the answer; the `C16_*` theorems are about the model itself.
HYPOTHESIS of the totality theorems of `Encode` / `Verify` / `Reconstruct*`: `k = .rs8 → 0 < d`
(the matrix kernels read `inputs[0]`; every encoder `New` returns has `0 < d`, `C16_new_usable`;
examples below show it cannot be dropped).  `reconstructSomeOld` (the control logic before fix
7b8525f) reaches `panic` on the historical input of defect D1.

`Update`: the model evaluates the slice expressions of the update kernels (`updateOob`), so
`C16_update_total` says that the argument checks of `Update` are sufficient for that slicing.  It
carries ONE HYPOTHESIS ON THE SHAPES, `∀ x ∈ nw, x.wf` (a nil slice has length 0 — true of every Go
value, not enforced by the record `Sh`); it is needed because `Update` tests `!= nil` on the new
shards where its kernels test `len == 0`, and an `example` below shows that it cannot be dropped.
`updateOld` (the checks before fix bd2a6b4) reaches `panic` on the input found by the
correspondence check.
-/
namespace RSV.Props.C16
open RSV.Model.Api

abbrev present (s : List Sh) (i : Nat) : Bool := (s.getD i ⟨true, 0, 0⟩).len ≠ 0
abbrev countPresent (s : List Sh) (n : Nat) : Nat := ((List.range n).filter (present s)).length
abbrev missingRequired (s : List Sh) (n : Nat) (l : List Bool) : Nat :=
  ((List.range n).filter fun i => !present s i && i < l.length && l.getD i false).length

/-- `present s` is the model's `presentAt s`, which the definitions below use; statements count
with `countPresent` / `missingRequired`, and `rfl` passes between the two -/
theorem present_eq_presentAt (s : List Sh) : present s = presentAt s := rfl

theorem countPresent_mono (s : List Sh) (d p : Nat) : countPresent s d ≤ countPresent s (d + p) :=
  ((List.range_sublist.mpr (Nat.le_add_right d p)).filter _).length_le

namespace Checks

/-- `Encode` / `Verify` (same checks) -/
def encode (k : Kind) (d p : Nat) (s : List Sh) : Outcome :=
  if s.length ≠ d + p then .err .tooFewShards
  else match checkShards s false with
    | some e => .err e
    | none => if leoK k && shardSize s % 64 ≠ 0 then .err .invalidShardSize else .ok
/-- `Reconstruct*` of the matrix codec for a decoded mode (`rsDataOnly`, `rsRequired`).  The
`required` mask is indexed at every missing shard position `i < d+p` in the counting loop (guarded
by `i < len(required)` since 7b8525f) and at every data position in the decode loop. -/
def reconRs (d p : Nat) (s : List Sh) (dataOnly : Bool) (required : Option (List Bool)) : Outcome :=
  if s.length ≠ d + p || (match required with | some l => l.length < d | none => false) then .err .tooFewShards
  else match checkShards s true with
    | some e => .err e
    | none =>
      let numberPresent := ((List.range (d + p)).filter (presentAt s)).length
      let dataPresent := ((List.range d).filter (presentAt s)).length
      -- counting loop: required[i] is read only when i < len(required)
      let missingRequired := match required with
        | none => 0
        | some l => ((List.range (d + p)).filter fun i => !presentAt s i && i < l.length && l.getD i false).length
      if numberPresent = d + p || (dataOnly && dataPresent = d) || (required.isSome && missingRequired = 0) then .ok
      else if numberPresent < d then .err .tooFewShards
      else
        -- decode loop: `required[iShard]` for iShard < d — in range because len(required) ≥ d
        let decodeIdxOk := match required with
          | none => true
          | some l => (List.range d).all fun i => (idx? l i).isSome
        -- parity loop (not dataOnly): `required[iShard]` for d ≤ iShard < d+p — len(required) = d+p there
        let parityIdxOk := dataOnly || (match required with
          | none => true
          | some l => (List.range p).all fun j => (idx? l (d + j)).isSome)
        if decodeIdxOk && parityIdxOk then .ok else .panic

/-- `Reconstruct*` of Leopard: the mask only selects `recoverAll` -/
def reconLeo (d p : Nat) (s : List Sh) (recoverAll : Bool) : Outcome :=
  if s.length ≠ d + p then .err .tooFewShards
  else match checkShards s true with
    | some e => .err e
    | none =>
      let numberPresent := ((List.range (d + p)).filter (presentAt s)).length
      let dataPresent := ((List.range d).filter (presentAt s)).length
      if numberPresent = d + p || (!recoverAll && dataPresent = d) then .ok
      else if numberPresent < d then .err .tooFewShards
      else if shardSize s % 64 ≠ 0 then .err .invalidShardSize
      else .ok

def reconstruct (k : Kind) (d p : Nat) (s : List Sh) (m : RMode) : Outcome :=
  match k with
  | .rs8 => reconRs d p s (rsDataOnly d p (rsFlag m) (rsRequired m)) (rsRequired m)
  | _ => reconLeo d p s (leoRecoverAll d p m)

/-- `EncodeIdx(dataShard, idx, parity)`; `idx` is any integer -/
def encodeIdx (k : Kind) (d p : Nat) (dataLen : Nat) (idx : Int) (parity : List Sh) : Outcome :=
  if leoK k then .err .notSupported
  else if parity.length ≠ p then .err .tooFewShards
  else if parity.length = 0 then .ok
  else if idx < 0 || idx ≥ d then .err .invShardNum
  else match checkShards parity false with
    | some e => .err e
    | none =>
      match idx? parity 0 with
      | none => .panic
      | some p0 => if p0.len ≠ dataLen then .err .shardSize else .ok

end Checks

theorem Checks.encode_ne_panic (k : Kind) (d p : Nat) (s : List Sh) :
    Checks.encode k d p s ≠ .panic := by
  unfold encode
  refine ite_ne nofun fun _ => ?_
  cases checkShards s false with
  | some e => nofun
  | none => exact ite_ne nofun fun _ => nofun

theorem Checks.encode_wrong_count (k : Kind) (d p : Nat) (s : List Sh) (h : s.length ≠ d + p) :
    Checks.encode k d p s = .err .tooFewShards := if_pos h

theorem Checks.encode_check (k : Kind) (d p : Nat) (s : List Sh) (e : E) (hl : s.length = d + p)
    (hc : checkShards s false = some e) : Checks.encode k d p s = .err e := by
  simp only [encode, hl, hc, ne_eq, not_true_eq_false, if_false]

theorem Checks.encode_of_all (k : Kind) (d p : Nat) (s : List Sh) (n : Nat)
    (hl : s.length = d + p) (hne : s ≠ []) (hn : n ≠ 0) (hall : ∀ x ∈ s, x.len = n) :
    Checks.encode k d p s = if leoK k && n % 64 ≠ 0 then .err .invalidShardSize else .ok := by
  simp only [encode, hl, checkShards_of_all s n false hne hn hall, shardSize_of_all s n hne hall,
    ne_eq, not_true_eq_false, if_false]

/-- Once count, mask length and shapes have passed, the checks of the matrix codec never index the
mask out of range: it has at least `d` entries, and `d + p` whenever the parity loop runs. -/
theorem Checks.reconRs_eq (d p : Nat) (s : List Sh) (dataOnly : Bool) (required : Option (List Bool))
    (hl : s.length = d + p) (hc : checkShards s true = none)
    (hshort : ∀ l, required = some l → d ≤ l.length)
    (hinv : ∀ l, required = some l → dataOnly = false → l.length = d + p) :
    Checks.reconRs d p s dataOnly required =
      if countPresent s (d + p) = d + p ∨ (dataOnly = true ∧ countPresent s d = d) ∨
          (∃ l, required = some l ∧ missingRequired s (d + p) l = 0) then .ok
      else if countPresent s (d + p) < d then .err .tooFewShards else .ok := by
  cases required with
  | none =>
    simp only [reconRs, hl, hc, ne_eq, not_true_eq_false, decide_false, Bool.or_false,
      Bool.false_eq_true, if_false, Option.isSome_none, Bool.false_and, Bool.and_true,
      Bool.or_true, if_true, Bool.or_eq_true, Bool.and_eq_true, decide_eq_true_eq,
      reduceCtorEq, false_and, exists_false, or_false]
    rfl
  | some l =>
    have h1 := all_range_idx0 l d (hshort l rfl)
    have h2 : (dataOnly || (List.range p).all fun j => (idx? l (d + j)).isSome) = true := by
      cases dataOnly with
      | true => rfl
      | false => exact all_range_idx l p d (by rw [hinv l rfl rfl]; omega)
    have h3 : ¬ l.length < d := Nat.not_lt.mpr (hshort l rfl)
    simp only [reconRs, hl, hc, h1, h2, h3, ne_eq, not_true_eq_false, decide_false, Bool.or_false,
      Bool.false_eq_true, if_false, Option.isSome_some, Bool.true_and, Bool.and_true,
      if_true, Bool.or_eq_true, Bool.and_eq_true, decide_eq_true_eq,
      Option.some.injEq, exists_eq_left', or_assoc]
    rfl

theorem Checks.reconRs_wrong_count (d p : Nat) (s : List Sh) (dataOnly : Bool) (required : Option (List Bool))
    (h : s.length ≠ d + p) : Checks.reconRs d p s dataOnly required = .err .tooFewShards := by
  simp only [reconRs, h, ne_eq, not_false_eq_true, decide_true, Bool.true_or, if_true]

theorem Checks.reconRs_short_mask (d p : Nat) (s : List Sh) (dataOnly : Bool) (l : List Bool)
    (h : l.length < d) : Checks.reconRs d p s dataOnly (some l) = .err .tooFewShards := by
  simp only [reconRs, h, decide_true, Bool.or_true, if_true]

theorem Checks.reconRs_check (d p : Nat) (s : List Sh) (dataOnly : Bool) (required : Option (List Bool))
    (e : E) (hl : s.length = d + p) (hshort : ∀ l, required = some l → d ≤ l.length)
    (hc : checkShards s true = some e) : Checks.reconRs d p s dataOnly required = .err e := by
  cases required with
  | none => simp only [reconRs, hl, hc, ne_eq, not_true_eq_false, decide_false, Bool.or_false,
      Bool.false_eq_true, if_false]
  | some l =>
    have h3 : ¬ l.length < d := Nat.not_lt.mpr (hshort l rfl)
    simp only [reconRs, hl, hc, h3, ne_eq, not_true_eq_false, decide_false, Bool.or_false,
      Bool.false_eq_true, if_false]

theorem Checks.reconRs_ne_panic (d p : Nat) (s : List Sh) (dataOnly : Bool) (required : Option (List Bool))
    (hinv : ∀ l, required = some l → dataOnly = false → l.length = d + p) :
    Checks.reconRs d p s dataOnly required ≠ .panic := by
  by_cases hl : s.length = d + p
  · by_cases hshort : ∀ l, required = some l → d ≤ l.length
    · cases hc : checkShards s true with
      | some e => rw [reconRs_check d p s _ _ e hl hshort hc]; nofun
      | none =>
        rw [reconRs_eq d p s _ _ hl hc hshort hinv]
        exact ite_ne nofun fun _ => ite_ne nofun fun _ => nofun
    · cases required with
      | none => exact absurd nofun hshort
      | some l =>
        rw [reconRs_short_mask d p s _ l
          (Nat.lt_of_not_le fun h => hshort fun l' h' => by cases h'; exact h)]
        nofun
  · rw [reconRs_wrong_count d p s _ _ hl]; nofun

theorem Checks.reconLeo_eq (d p : Nat) (s : List Sh) (recoverAll : Bool)
    (hl : s.length = d + p) (hc : checkShards s true = none) :
    Checks.reconLeo d p s recoverAll =
      if countPresent s (d + p) = d + p ∨ (recoverAll = false ∧ countPresent s d = d) then .ok
      else if countPresent s (d + p) < d then .err .tooFewShards
      else if shardSize s % 64 ≠ 0 then .err .invalidShardSize else .ok := by
  simp only [reconLeo, hl, hc, ne_eq, not_true_eq_false, if_false, Bool.or_eq_true,
    Bool.and_eq_true, decide_eq_true_eq, Bool.not_eq_true']
  rfl

theorem Checks.reconLeo_wrong_count (d p : Nat) (s : List Sh) (recoverAll : Bool) (h : s.length ≠ d + p) :
    Checks.reconLeo d p s recoverAll = .err .tooFewShards := if_pos h

theorem Checks.reconLeo_check (d p : Nat) (s : List Sh) (recoverAll : Bool) (e : E)
    (hl : s.length = d + p) (hc : checkShards s true = some e) :
    Checks.reconLeo d p s recoverAll = .err e := by
  simp only [reconLeo, hl, hc, ne_eq, not_true_eq_false, if_false]

theorem Checks.reconLeo_ne_panic (d p : Nat) (s : List Sh) (recoverAll : Bool) :
    Checks.reconLeo d p s recoverAll ≠ .panic := by
  by_cases hl : s.length = d + p
  · cases hc : checkShards s true with
    | some e => rw [reconLeo_check d p s _ e hl hc]; nofun
    | none =>
      rw [reconLeo_eq d p s _ hl hc]
      exact ite_ne nofun fun _ => ite_ne nofun fun _ => ite_ne nofun fun _ => nofun
  · rw [reconLeo_wrong_count d p s _ hl]; nofun

theorem Checks.reconstruct_leo (k : Kind) (hk : k ≠ .rs8) (d p : Nat) (s : List Sh) (m : RMode) :
    Checks.reconstruct k d p s m = Checks.reconLeo d p s (leoRecoverAll d p m) := by
  cases k with
  | rs8 => exact absurd rfl hk
  | _ => rfl

theorem Checks.reconstruct_ne_panic (k : Kind) (d p : Nat) (s : List Sh) (m : RMode) :
    Checks.reconstruct k d p s m ≠ .panic := by
  cases k with
  | rs8 => exact reconRs_ne_panic d p s _ _ fun l h h' => rsDataOnly_inv d p _ _ l h h'
  | _ => exact reconLeo_ne_panic d p s _

theorem Checks.encodeIdx_ne_panic (k : Kind) (d p dataLen : Nat) (idx : Int) (parity : List Sh) :
    Checks.encodeIdx k d p dataLen idx parity ≠ .panic := by
  unfold encodeIdx
  refine ite_ne nofun fun _ => ite_ne nofun fun _ => ite_ne nofun fun hne => ite_ne nofun fun _ => ?_
  cases checkShards parity false with
  | some e => nofun
  | none =>
    obtain ⟨a, ha, _⟩ := idx?_zero parity fun h => hne (by rw [h]; rfl)
    simp only [ha]
    exact ite_ne nofun fun _ => nofun

/-- the three documented errors of `EncodeIdx`, for the checks alone (`encodeIdx` here is
`Checks.encodeIdx`, as in every theorem named `Checks.*`) -/
theorem Checks.C16_encodeIdx_errors (k : Kind) (d p dataLen : Nat) (idx : Int) (parity : List Sh) :
    (k ≠ .rs8 → encodeIdx k d p dataLen idx parity = .err .notSupported) ∧
    (k = .rs8 → parity.length ≠ p → encodeIdx k d p dataLen idx parity = .err .tooFewShards) ∧
    (k = .rs8 → parity.length = p → p ≠ 0 → (idx < 0 ∨ (d : Int) ≤ idx) →
      encodeIdx k d p dataLen idx parity = .err .invShardNum) := by
  refine ⟨fun hk => ?_, fun hk h => ?_, fun hk hl hp h => ?_⟩
  · simp [encodeIdx, leoK, hk]
  · simp [encodeIdx, leoK, hk, h]
  · subst hk hl
    simp only [encodeIdx, leoK]
    simp [hp]
    omega

private theorem accepted (s : List Sh) (hc : checkShards s false = none) :
    s ≠ [] ∧ shardSize s ≠ 0 ∧ ∀ x ∈ s, x.len = shardSize s := by
  have hsz := checkShards_size_ne_zero s false hc
  obtain ⟨z, hz, _⟩ := shardSize_mem s hsz
  exact ⟨List.ne_nil_of_mem hz, hsz, checkShards_false_all s hc⟩

/-- `Encode`: the windows of `codeSomeShards` / the Leopard chunks fit every shard -/
theorem encode_eq_checks (k : Kind) (d p : Nat) (s : List Sh)
    (hd : Checks.encode k d p s = .ok → k = .rs8 → 0 < d) :
    encode k d p s = Checks.encode k d p s := by
  by_cases hl : s.length = d + p
  · cases hc : checkShards s false with
    | some e => simp only [encode, Checks.encode, hl, hc]
    | none =>
      obtain ⟨hne, hsz, hall⟩ := accepted s hc
      cases k with
      | rs8 =>
        have hd' : 0 < d := hd (by simp [Checks.encode, hl, hc, leoK]) rfl
        obtain ⟨a, ha, has⟩ := idx?_zero s hne
        have hcode : codeOob ((s.take d).map (·.len)) (((s.drop d).take p).map (·.len)) a.len
            = false := by
          rw [hall a has]
          refine codeOob_take s d _ _ hd' hne hall fun l hl' => ?_
          obtain ⟨x, hx, rfl⟩ := List.mem_map.mp hl'
          exact hall x (List.mem_of_mem_drop (List.mem_of_mem_take hx))
        have h1 : (decide (d + p < d) || decide (d + p - d < p)) = false := by
          simp only [Bool.or_eq_false_iff, decide_eq_false_iff_not]; omega
        simp only [encode, Checks.encode, hl, hc, leoK, ha, hcode, h1]
        rfl
      | _ =>
        have hleo : leoEncodeOob s = false :=
          List.any_eq_false.mpr fun x hx => by simp [hall x hx]
        simp [encode, Checks.encode, hl, hc, leoK, hleo]
  · simp only [encode, Checks.encode, hl, ne_eq, not_false_eq_true, if_true]

/-- Leopard `Verify` hands `Encode` the data shards and `p` new buffers of `len(shards[0])` bytes -/
private theorem verify_leo (k : Kind) (hk : k ≠ .rs8) (d p : Nat) (s : List Sh) (a : Sh) (ha : a ∈ s)
    (hl : s.length = d + p) (hc : checkShards s false = none) :
    encode k d p (s.take d ++ List.replicate p ⟨false, a.len, a.len⟩) = Checks.encode k d p s := by
  obtain ⟨hne, hsz, hall⟩ := accepted s hc
  have hlen : (s.take d ++ List.replicate p (⟨false, a.len, a.len⟩ : Sh)).length = d + p := by
    rw [List.length_append, List.length_take, List.length_replicate]; omega
  have hne' : s.take d ++ List.replicate p (⟨false, a.len, a.len⟩ : Sh) ≠ [] := fun h => by
    have hpos := List.length_pos_iff.mpr hne
    rw [h, List.length_nil] at hlen
    omega
  have hall' : ∀ x ∈ s.take d ++ List.replicate p (⟨false, a.len, a.len⟩ : Sh),
      x.len = shardSize s := fun x hx => by
    rcases List.mem_append.mp hx with hx | hx
    · exact hall x (List.mem_of_mem_take hx)
    · rw [List.eq_of_mem_replicate hx]; exact hall a ha
  rw [encode_eq_checks k d p _ (fun _ h => absurd h hk),
    Checks.encode_of_all k d p _ _ hlen hne' hsz hall',
    Checks.encode_of_all k d p s _ hl hne hsz hall]

/-- `Verify`: the parity is recomputed into new buffers; the windows fit the data shards -/
theorem verify_eq_checks (k : Kind) (d p : Nat) (s : List Sh)
    (hd : Checks.encode k d p s = .ok → k = .rs8 → 0 < d) :
    verify k d p s = Checks.encode k d p s := by
  by_cases hl : s.length = d + p
  · cases hc : checkShards s false with
    | some e => simp only [verify, Checks.encode, hl, hc]
    | none =>
      obtain ⟨hne, hsz, hall⟩ := accepted s hc
      obtain ⟨a, ha, has⟩ := idx?_zero s hne
      cases k with
      | rs8 =>
        have hd' : 0 < d := hd (by simp [Checks.encode, hl, hc, leoK]) rfl
        have hcode : codeOob ((s.take d).map (·.len)) (List.replicate p a.len) a.len = false := by
          rw [hall a has]
          exact codeOob_take s d _ _ hd' hne hall fun l hl' => List.eq_of_mem_replicate hl'
        have h1 : (decide (d + p < d) || decide (d + p - d < p)) = false := by
          simp only [Bool.or_eq_false_iff, decide_eq_false_iff_not]; omega
        simp only [verify, Checks.encode, hl, hc, leoK, ha, hcode, h1]
        rfl
      | _ =>
        simp only [verify, hl, hc, leoK, ha]
        rw [if_neg (fun h => h rfl), if_pos (by decide), if_neg (by omega)]
        exact verify_leo _ (by decide) d p s a has hl hc
  · simp only [verify, Checks.encode, hl, ne_eq, not_false_eq_true, if_true]

/-- The script of `recon_ladder`, its one caller: split the five guards of the left side.  Four
leaves are `rfl` and `(!true) = true` is absurd.  On the leaf where every guard passed (`h0`, `hA`,
`hB`, `hI`) the right side is `.ok`, so `hd` gives `0 < d`, and `rsReconOob_false` applies: `hc` for
the shapes, `hB` for `d ≤` the number present, `rsDataOnly` for the length of the mask. -/
local macro "recon_leaf_rs8" hd:ident hc:ident : tactic => `(tactic|
  (split
   · rfl
   · split
     · rename_i h; simp at h
     · split
       · rfl
       · split
         · rfl
         · split
           · rename_i h0 _ hA hB hI
             have hd' := $hd (by rw [if_neg h0, if_neg hA, if_neg hB, if_pos hI]) trivial
             rw [if_neg]
             rw [Bool.not_eq_true]
             apply rsReconOob_false
             · exact hd'
             · exact $hc
             · exact Nat.le_of_not_lt hB
             · intro l' hl' hdo
               cases hl' <;> simpa using hdo
           · rfl))

/-- The guards of the matrix codec's `reconstruct` as the model and the checks share them, with
those that do not matter for the coding passes left abstract (`c0`: count and mask length, `cA`:
nothing to do, `cI`: the mask indices); `(!true) = true` is the guard on the shard indices, known
to be in range.  The sides differ only below the last guard, where the model asks `rsReconOob`:
there the checks answer `.ok`, so `hd` gives `0 < d` and `rsReconOob_false` applies.  (`hd` has
the premise `True` because `recon_leaf_rs8` hands it two arguments.) -/
private theorem recon_ladder (d p : Nat) (s : List Sh) (b : Bool) (required : Option (List Bool))
    (c0 cA cI : Prop) [Decidable c0] [Decidable cA] [Decidable cI]
    (hc : checkShards s true = none)
    (hd : (if c0 then Outcome.err .tooFewShards else if cA then .ok
        else if ((List.range (d + p)).filter (presentAt s)).length < d then .err .tooFewShards
        else if cI then .ok else .panic) = .ok → True → 0 < d) :
    (if c0 then Outcome.err .tooFewShards else if (!true) = true then .panic else if cA then .ok
      else if ((List.range (d + p)).filter (presentAt s)).length < d then .err .tooFewShards
      else if cI then
        (if rsReconOob d p s (rsDataOnly d p b required) required = true then .panic else .ok)
      else .panic) =
    if c0 then .err .tooFewShards else if cA then .ok
      else if ((List.range (d + p)).filter (presentAt s)).length < d then .err .tooFewShards
      else if cI then .ok else .panic := by
  recon_leaf_rs8 hd hc

theorem reconRs_eq_checks (d p : Nat) (s : List Sh) (b : Bool) (required : Option (List Bool))
    (hd : Checks.reconRs d p s (rsDataOnly d p b required) required = .ok → 0 < d) :
    Model.Api.reconRs d p s (rsDataOnly d p b required) required =
      Checks.reconRs d p s (rsDataOnly d p b required) required := by
  by_cases hl : s.length = d + p
  · cases hc : checkShards s true with
    | some e => simp only [reconRs, Checks.reconRs, hl, hc]; rfl
    | none =>
      have hidx : ((List.range (d + p)).all fun i => (idx? s i).isSome) = true :=
        all_range_idx0 s (d + p) (by omega)
      have hd : _ → True → 0 < d := fun h _ => hd h
      simp only [reconRs, Checks.reconRs, hl, hc, hidx] at hd ⊢
      exact recon_ladder d p s b required _ _ _ hc hd
  · rw [Checks.reconRs_wrong_count d p s _ _ hl]
    simp only [reconRs, hl, ne_eq, not_false_eq_true, decide_true, Bool.true_or, if_true]

theorem reconLeo_eq_checks (d p : Nat) (s : List Sh) (recoverAll : Bool) :
    Model.Api.reconLeo d p s recoverAll = Checks.reconLeo d p s recoverAll := by
  by_cases hl : s.length = d + p
  · cases hc : checkShards s true with
    | some e => simp only [reconLeo, Checks.reconLeo, hl, hc]
    | none =>
      simp only [reconLeo, Checks.reconLeo, hl, hc, all_range_idx0 s (d + p) (Nat.le_of_eq hl.symm),
        leoReconOob_false d p s _ hc, Bool.not_true, Bool.false_eq_true, if_false]
  · simp only [reconLeo, Checks.reconLeo, hl, ne_eq, not_false_eq_true, if_true]

/-- `Reconstruct*`: both coding passes of the matrix codec (`rsReconOob`) and the Leopard decoder
(`leoReconOob`) stay in range -/
theorem reconstruct_eq_checks (k : Kind) (d p : Nat) (s : List Sh) (m : RMode)
    (hd : Checks.reconstruct k d p s m = .ok → k = .rs8 → 0 < d) :
    reconstruct k d p s m = Checks.reconstruct k d p s m := by
  cases k with
  | rs8 => rw [reconstruct_rs8]; exact reconRs_eq_checks d p s _ _ fun h => hd h rfl
  | _ => exact (reconstruct_leo _ (by decide) d p s m).trans (reconLeo_eq_checks d p s _)

/-- `EncodeIdx`: the coefficient index and the windows of `dataShard` and of every parity shard stay
in range — for every argument tuple, any integer `idx` -/
theorem encodeIdx_eq_checks (k : Kind) (d p dataLen : Nat) (idx : Int) (parity : List Sh) :
    encodeIdx k d p dataLen idx parity = Checks.encodeIdx k d p dataLen idx parity := by
  unfold encodeIdx Checks.encodeIdx
  refine ite_congr_else fun _ => ite_congr_else fun _ => ite_congr_else fun hne =>
    ite_congr_else fun hidx => ?_
  cases hc : checkShards parity false with
  | some e => rfl
  | none =>
    obtain ⟨p0, h0, hp0⟩ := idx?_zero parity fun h => hne (by rw [h]; rfl)
    simp only [h0]
    refine ite_congr_else fun hlen => ?_
    have hall := checkShards_false_all parity hc
    have hany : (parity.any fun x => decide (x.len < dataLen)) = false :=
      List.any_eq_false.mpr fun x hx => by
        have h1 := hall x hx
        have h2 := hall p0 hp0
        simp only [decide_eq_true_eq]; omega
    simp only [Bool.or_eq_true, decide_eq_true_eq, not_or] at hidx
    rw [if_neg (by simp only [Bool.or_eq_true, decide_eq_true_eq]; omega), hany]
    rfl

/-- `Verify` answers like `Encode` (the driver's `ver` request is answered by `encode`) -/
theorem C16_verify_eq_encode (k : Kind) (d p : Nat) (s : List Sh) (hd : k = .rs8 → 0 < d) :
    verify k d p s = encode k d p s := by
  rw [verify_eq_checks k d p s (fun _ => hd), encode_eq_checks k d p s (fun _ => hd)]

private theorem encode_of_checks_err (k : Kind) (d p : Nat) (s : List Sh) (e : E)
    (h : Checks.encode k d p s = .err e) : encode k d p s = .err e := by
  rw [encode_eq_checks k d p s (by rw [h]; nofun), h]

private theorem reconstruct_of_checks_err (k : Kind) (d p : Nat) (s : List Sh) (m : RMode) (e : E)
    (h : Checks.reconstruct k d p s m = .err e) : reconstruct k d p s m = .err e := by
  rw [reconstruct_eq_checks k d p s m (by rw [h]; nofun), h]

/-- No argument tuple makes `Encode` panic — neither the argument checks nor the kernels
(`codeSomeShards` windows, Leopard chunks): the checks are sufficient for the slicing. -/
theorem C16_encode_total (k : Kind) (d p : Nat) (s : List Sh) (hd : k = .rs8 → 0 < d) :
    encode k d p s ≠ .panic := by
  rw [encode_eq_checks k d p s (fun _ => hd)]
  exact Checks.encode_ne_panic k d p s

/-- no argument tuple makes `Verify` panic -/
theorem C16_verify_total (k : Kind) (d p : Nat) (s : List Sh) (hd : k = .rs8 → 0 < d) :
    verify k d p s ≠ .panic := by
  rw [verify_eq_checks k d p s (fun _ => hd)]
  exact Checks.encode_ne_panic k d p s

/-- No argument tuple makes `Reconstruct` / `ReconstructData` / `ReconstructSome` panic, including
masks of any length and nil masks — neither the indexing of the mask nor the two coding passes of
the matrix codec (`rsReconOob`: the second pass reads ALL data shards, so every missing one must
have been regenerated whenever a parity shard is an output — the logic of fix 7b8525f) nor the
Leopard decoder (`leoReconOob`). -/
theorem C16_reconstruct_total (k : Kind) (d p : Nat) (s : List Sh) (m : RMode)
    (hd : k = .rs8 → 0 < d) : reconstruct k d p s m ≠ .panic := by
  rw [reconstruct_eq_checks k d p s m (fun _ => hd)]
  exact Checks.reconstruct_ne_panic k d p s m

/-- no argument tuple (any integer `idx`) makes `EncodeIdx` panic — neither `parity[0]`, nor the
coefficient `r.parity[iRow][idx]`, nor the windows of `dataShard` and of the parity shards -/
theorem C16_encodeIdx_total (k : Kind) (d p dataLen : Nat) (idx : Int) (parity : List Sh) :
    encodeIdx k d p dataLen idx parity ≠ .panic := by
  rw [encodeIdx_eq_checks]
  exact Checks.encodeIdx_ne_panic k d p dataLen idx parity

/-- No argument tuple makes `Update` panic — neither the indexing of the argument checks nor the
slicing of the update kernels (`updateOob`).

HYPOTHESIS `hwf`: every new shard is a shape some Go slice can have, in the one respect the record
`Sh` does not enforce: a nil slice has length 0 (`Sh.wf`, a decidable predicate).  No assumption on
`s`, none on capacities.  The hypothesis cannot be dropped (see the `example` with an ill-formed
shape in the non-vacuity section). -/
theorem C16_update_total (k : Kind) (d p : Nat) (s nw : List Sh) (hwf : ∀ x ∈ nw, x.wf = true) :
    update k d p s nw ≠ .panic := by
  cases k with
  | rs8 =>
    by_cases hl : s.length = d + p
    · by_cases hn : nw.length = d
      · cases hcs : checkShards s true with
        | some e => simp [update, leoK, hl, hn, hcs]
        | none =>
          cases hcn : checkShards nw true with
          | some e => simp [update, leoK, hl, hn, hcs, hcn]
          | none =>
            by_cases hsz : shardSize nw = shardSize s
            · rw [update_rs8_eq d p s nw hl hn hcs hcn hsz]
              refine ite_ne nofun fun hb1 => ite_ne nofun fun hb2 => ?_
              rw [updateOob_false d s nw hwf hcs hcn hsz (Bool.eq_false_iff.mpr hb1)
                (Bool.eq_false_iff.mpr hb2)]
              nofun
            · simp [update, leoK, hl, hn, hcs, hcn, hsz]
      · simp [update, leoK, hl, hn]
    · simp [update, leoK, hl]
  | _ => simp [update, leoK]

/-- the same, read the other way: the model of `Update` reaches `panic` only on a list of new shards
that contains a shape no Go slice has (flagged nil, length not 0) -/
theorem C16_update_panic_illformed (k : Kind) (d p : Nat) (s nw : List Sh)
    (h : update k d p s nw = .panic) : ∃ x ∈ nw, x.isNil = true ∧ x.len ≠ 0 := by
  apply Decidable.byContradiction
  intro hno
  apply C16_update_total k d p s nw _ h
  intro x hx
  simp only [Sh.wf, Bool.or_eq_true, Bool.not_eq_true', beq_iff_eq]
  cases hnil : x.isNil with
  | false => exact .inl rfl
  | true =>
    right
    apply Decidable.byContradiction
    intro hl
    exact hno ⟨x, hx, hnil, hl⟩

/-- `Split` never panics -/
theorem C16_split_total (k : Kind) (d p len : Nat) : split k d p len ≠ .panic := by
  unfold split; split <;> simp

/-- `Join` never panics, for any integer `outSize` -/
theorem C16_join_total (k : Kind) (d p : Nat) (s : List Sh) (outSize : Int) :
    join k d p s outSize ≠ .panic := by
  unfold join
  split
  · simp
  · split
    · simp
    · simp only []
      split
      · simp
      · split <;> simp

theorem C16_encode_wrong_count (k : Kind) (d p : Nat) (s : List Sh) (h : s.length ≠ d + p) :
    encode k d p s = .err .tooFewShards :=
  encode_of_checks_err k d p s _ (Checks.encode_wrong_count k d p s h)

theorem C16_encode_no_data (k : Kind) (d p : Nat) (s : List Sh) (hl : s.length = d + p)
    (h : ∀ x ∈ s, x.len = 0) : encode k d p s = .err .shardNoData :=
  encode_of_checks_err k d p s _ (Checks.encode_check k d p s _ hl
    ((checkShards_eq_noData_iff s false).mpr ((shardSize_eq_zero_iff s).mpr h)))

/-- two shards of different length, one of them non-empty: `ErrShardSize`.  This includes the case
`y.len = 0` (an empty or nil shard next to a non-empty one): nil is not allowed in `Encode`. -/
theorem C16_encode_unequal (k : Kind) (d p : Nat) (s : List Sh) (hl : s.length = d + p)
    (x y : Sh) (hxs : x ∈ s) (hys : y ∈ s) (hx : x.len ≠ 0) (hy : y.len ≠ x.len) :
    encode k d p s = .err .shardSize := by
  refine encode_of_checks_err k d p s _ (Checks.encode_check k d p s _ hl ?_)
  -- neither of the other two answers of `checkShards` is possible
  rcases checkShards_cases s false with h | h | h
  · have := checkShards_false_all s h
    exact absurd ((this y hys).trans (this x hxs).symm) hy
  · exact absurd ((shardSize_eq_zero_iff s).mp ((checkShards_eq_noData_iff s false).mp h) x hxs) hx
  · exact h

/-- Leopard needs shards that are a multiple of 64 bytes -/
theorem C16_encode_leo_multiple (k : Kind) (hk : k ≠ .rs8) (d p : Nat) (s : List Sh)
    (hl : s.length = d + p) (hpos : 0 < d + p) (n : Nat) (hn : n ≠ 0) (hall : ∀ x ∈ s, x.len = n)
    (h64 : n % 64 ≠ 0) : encode k d p s = .err .invalidShardSize := by
  have hne : s ≠ [] := List.length_pos_iff.mp (hl ▸ hpos)
  refine encode_of_checks_err k d p s _ ?_
  rw [Checks.encode_of_all k d p s n hl hne hn hall]
  cases k with
  | rs8 => exact absurd rfl hk
  | _ => simp [leoK, h64]

/-- the accepted calls: the right number of shards, all of the same non-zero length (a multiple
of 64 for Leopard) -/
theorem C16_encode_ok (k : Kind) (d p : Nat) (s : List Sh) (hd : k = .rs8 → 0 < d)
    (hl : s.length = d + p) (hpos : 0 < d + p) (n : Nat) (hn : n ≠ 0) (hall : ∀ x ∈ s, x.len = n)
    (h64 : k = .rs8 ∨ n % 64 = 0) : encode k d p s = .ok := by
  have hne : s ≠ [] := List.length_pos_iff.mp (hl ▸ hpos)
  rw [encode_eq_checks k d p s (fun _ => hd), Checks.encode_of_all k d p s n hl hne hn hall]
  rcases h64 with rfl | h
  · rfl
  · simp [h]

/-- conversely `Encode` accepts nothing else -/
theorem C16_encode_ok_iff (k : Kind) (d p : Nat) (s : List Sh) (hd : k = .rs8 → 0 < d) :
    encode k d p s = .ok ↔
      s.length = d + p ∧ shardSize s ≠ 0 ∧ (∀ x ∈ s, x.len = shardSize s) ∧
        (k = .rs8 ∨ shardSize s % 64 = 0) := by
  refine ⟨fun h => ?_, fun ⟨hl, hz, hall, h64⟩ => ?_⟩
  · rw [encode_eq_checks k d p s (fun _ => hd)] at h
    by_cases hl : s.length = d + p
    · cases hc : checkShards s false with
      | some e => rw [Checks.encode_check k d p s e hl hc] at h; cases h
      | none =>
        obtain ⟨hne, hsz, hall⟩ := accepted s hc
        refine ⟨hl, hsz, hall, ?_⟩
        rw [Checks.encode_of_all k d p s _ hl hne hsz hall] at h
        cases k with
        | rs8 => exact .inl rfl
        | _ => right; simpa [leoK] using h
    · rw [Checks.encode_wrong_count k d p s hl] at h; cases h
  · obtain ⟨z, hz', _⟩ := shardSize_mem s hz
    exact C16_encode_ok k d p s hd hl (hl ▸ List.length_pos_of_mem hz') _ hz hall h64

theorem C16_reconstruct_wrong_count (k : Kind) (d p : Nat) (s : List Sh) (m : RMode)
    (h : s.length ≠ d + p) : reconstruct k d p s m = .err .tooFewShards := by
  refine reconstruct_of_checks_err k d p s m _ ?_
  cases k with
  | rs8 => exact Checks.reconRs_wrong_count d p s _ _ h
  | _ => exact Checks.reconLeo_wrong_count d p s _ h

/-- matrix codec: a `required` mask shorter than the number of data shards is rejected (7b8525f) -/
theorem C16_reconstruct_short_mask (d p : Nat) (s : List Sh) (l : List Bool) (h : l.length < d) :
    reconstruct .rs8 d p s (.some (some l)) = .err .tooFewShards :=
  reconstruct_of_checks_err _ d p s _ _ (Checks.reconRs_short_mask d p s _ l h)

/-- the shard-shape errors of `checkShards(shards, nilok = true)` are passed on -/
theorem C16_reconstruct_check (k : Kind) (d p : Nat) (s : List Sh) (m : RMode) (e : E)
    (hl : s.length = d + p) (hm : ∀ l, m = .some (some l) → d ≤ l.length)
    (hc : checkShards s true = some e) : reconstruct k d p s m = .err e := by
  refine reconstruct_of_checks_err k d p s m _ ?_
  cases k with
  | rs8 =>
    exact Checks.reconRs_check d p s _ _ e hl (fun l h => hm l ((rsRequired_eq_some m l).mp h)) hc
  | _ => exact Checks.reconLeo_check d p s _ e hl hc

/-- fewer than `d` shards present and the call is not a no-op: `ErrTooFewShards`.  With fewer than
`d` shards present the only possible no-op is a `ReconstructSome` mask (matrix codec) that asks for
none of the missing shards; that case is excluded by `hm`. -/
theorem C16_reconstruct_too_few (k : Kind) (d p : Nat) (s : List Sh) (m : RMode)
    (hl : s.length = d + p) (hc : checkShards s true = none)
    (hm : ∀ l, k = .rs8 → m = .some (some l) → d ≤ l.length ∧ missingRequired s (d + p) l ≠ 0)
    (h : countPresent s (d + p) < d) : reconstruct k d p s m = .err .tooFewShards := by
  have hle := countPresent_mono s d p
  refine reconstruct_of_checks_err k d p s m _ ?_
  -- with fewer than `d` shards present neither "all present" nor "all data present" holds
  have hleo : ∀ r, Checks.reconLeo d p s r = .err .tooFewShards := fun r => by
    rw [Checks.reconLeo_eq d p s r hl hc, if_neg (by omega), if_pos h]
  cases k with
  | rs8 =>
    have hm' := fun l h => hm l rfl ((rsRequired_eq_some m l).mp h)
    show Checks.reconRs _ _ _ _ _ = _
    rw [Checks.reconRs_eq d p s _ _ hl hc (fun l h => (hm' l h).1)
      (fun l h h' => rsDataOnly_inv d p _ _ l h h'), if_neg, if_pos h]
    rintro (h1 | h1 | ⟨l, hl', h1⟩)
    · omega
    · omega
    · exact (hm' l hl').2 h1
  | _ => exact hleo _

/-- matrix codec, the accepted calls: right count, consistent shapes, a mask (if any) of at least
`d` entries, at least `d` shards present -/
theorem C16_reconstruct_ok_rs8 (d p : Nat) (s : List Sh) (m : RMode) (hd : 0 < d)
    (hl : s.length = d + p) (hc : checkShards s true = none)
    (hm : ∀ l, m = .some (some l) → d ≤ l.length)
    (h : d ≤ countPresent s (d + p)) : reconstruct .rs8 d p s m = .ok := by
  rw [reconstruct_eq_checks .rs8 d p s m (fun _ _ => hd)]
  show Checks.reconRs _ _ _ _ _ = _
  rw [Checks.reconRs_eq d p s _ _ hl hc (fun l h => hm l ((rsRequired_eq_some m l).mp h))
    (fun l h h' => rsDataOnly_inv d p _ _ l h h')]
  exact ite_eq (fun _ => rfl) fun _ => if_neg (by omega)

/-- Leopard, the accepted calls -/
theorem C16_reconstruct_ok_leo (k : Kind) (hk : k ≠ .rs8) (d p : Nat) (s : List Sh) (m : RMode)
    (hl : s.length = d + p) (hc : checkShards s true = none) (h64 : shardSize s % 64 = 0)
    (h : d ≤ countPresent s (d + p)) : reconstruct k d p s m = .ok := by
  rw [reconstruct_eq_checks k d p s m (fun _ h' => absurd h' hk), Checks.reconstruct_leo k hk,
    Checks.reconLeo_eq d p s _ hl hc]
  exact ite_eq (fun _ => rfl) fun _ => by rw [if_neg (by omega), if_neg (by omega)]

/-- the three documented errors of `EncodeIdx` -/
theorem C16_encodeIdx_errors (k : Kind) (d p dataLen : Nat) (idx : Int) (parity : List Sh) :
    (k ≠ .rs8 → encodeIdx k d p dataLen idx parity = .err .notSupported) ∧
    (k = .rs8 → parity.length ≠ p → encodeIdx k d p dataLen idx parity = .err .tooFewShards) ∧
    (k = .rs8 → parity.length = p → p ≠ 0 → (idx < 0 ∨ (d : Int) ≤ idx) →
      encodeIdx k d p dataLen idx parity = .err .invShardNum) := by
  rw [encodeIdx_eq_checks]
  exact Checks.C16_encodeIdx_errors k d p dataLen idx parity

/-- the accepted calls of `EncodeIdx`: `p` parity shards of the length of the data shard (not 0),
`0 ≤ idx < d` -/
theorem C16_encodeIdx_ok (d p dataLen : Nat) (idx : Int) (parity : List Sh)
    (hl : parity.length = p) (hp : p ≠ 0) (hi : 0 ≤ idx ∧ idx < d) (hn : dataLen ≠ 0)
    (hall : ∀ x ∈ parity, x.len = dataLen) : encodeIdx .rs8 d p dataLen idx parity = .ok := by
  have hne : parity ≠ [] := by intro h; rw [h] at hl; simp at hl; omega
  have hc := checkShards_of_all parity dataLen false hne hn hall
  cases parity with
  | nil => exact absurd rfl hne
  | cons a t =>
    have ha := hall a List.mem_cons_self
    have hany : ((a :: t).any fun x => decide (x.len < dataLen)) = false := by
      rw [List.any_eq_false]
      intro x hx
      simp [hall x hx]
    have h1 : ¬ (idx < 0 ∨ (d : Int) ≤ idx) := by omega
    have h2 : ¬ (idx < 0 ∨ (d : Int) < idx + 1) := by omega
    simp only [encodeIdx, leoK, hl, hc, idx?, List.getElem?_cons_zero, ha, hany]
    simp [h1, h2]

/-- a new shard that is not nil over an old shard without data — nil OR zero-length — is
`ErrInvalidInput` (fix bd2a6b4; a zero-length old shard used to reach the kernels) -/
theorem C16_update_empty_old (d p : Nat) (s nw : List Sh)
    (hl : s.length = d + p) (hn : nw.length = d)
    (hcs : checkShards s true = none) (hcn : checkShards nw true = none)
    (hsz : shardSize nw = shardSize s)
    (i : Nat) (hi : i < d) (a b : Sh) (ha : nw[i]? = some a) (hb : s[i]? = some b)
    (hna : a.isNil = false) (hb0 : b.len = 0) : update .rs8 d p s nw = .err .invalidInput := by
  have hbad : updateMissingOld d s nw = true :=
    List.any_eq_true.mpr ⟨i, List.mem_range.mpr hi, by simp [idx?, ha, hb, hna, hb0]⟩
  rw [update_rs8_eq d p s nw hl hn hcs hcn hsz, if_pos hbad]

/-- a parity shard without data — nil OR zero-length — is `ErrInvalidInput` (fix bd2a6b4) -/
theorem C16_update_empty_parity (d p : Nat) (s nw : List Sh)
    (hl : s.length = d + p) (hn : nw.length = d)
    (hcs : checkShards s true = none) (hcn : checkShards nw true = none)
    (hsz : shardSize nw = shardSize s)
    (o : Sh) (ho : o ∈ s.drop d) (ho0 : o.len = 0) : update .rs8 d p s nw = .err .invalidInput := by
  have hpar : ((s.drop d).any (·.len == 0)) = true :=
    List.any_eq_true.mpr ⟨o, ho, by simp [ho0]⟩
  rw [update_rs8_eq d p s nw hl hn hcs hcn hsz, if_pos hpar]
  exact ite_eq (fun _ => rfl) fun _ => rfl

/-- the accepted calls of `Update`: right counts, consistent shapes of one common size, every new
shard that is not nil has an old shard with data, every parity shard has data.  (The bounds
condition `updateOob` takes nothing away from them.) -/
theorem C16_update_ok (d p : Nat) (s nw : List Sh) (hwf : ∀ x ∈ nw, x.wf = true)
    (hl : s.length = d + p) (hn : nw.length = d)
    (hcs : checkShards s true = none) (hcn : checkShards nw true = none)
    (hsz : shardSize nw = shardSize s)
    (hold : ∀ i a b, i < d → nw[i]? = some a → s[i]? = some b → a.isNil = false → b.len ≠ 0)
    (hpar : ∀ o ∈ s.drop d, o.len ≠ 0) : update .rs8 d p s nw = .ok := by
  have hb1 : updateMissingOld d s nw = false := by
    refine List.any_eq_false.mpr fun i hi => ?_
    have hi' : i < d := List.mem_range.mp hi
    split
    · rename_i a b ha hb
      cases hna : a.isNil with
      | true => simp
      | false => simp [hold i a b hi' ha hb hna]
    · simp
  have hb2 : ((s.drop d).any (·.len == 0)) = false :=
    List.any_eq_false.mpr fun o ho => by simp [hpar o ho]
  rw [update_rs8_eq d p s nw hl hn hcs hcn hsz, hb1, hb2,
    updateOob_false d s nw hwf hcs hcn hsz hb1 hb2]
  rfl

/-- unsupported codec, wrong counts, and new shards of another size than the old (fix 0ba1869) -/
theorem C16_update_errors (k : Kind) (d p : Nat) (s nw : List Sh) :
    (k ≠ .rs8 → update k d p s nw = .err .notSupported) ∧
    (k = .rs8 → (s.length ≠ d + p ∨ nw.length ≠ d) → update k d p s nw = .err .tooFewShards) ∧
    (k = .rs8 → s.length = d + p → nw.length = d → checkShards s true = none →
      checkShards nw true = none → shardSize nw ≠ shardSize s →
      update k d p s nw = .err .shardSize) := by
  refine ⟨fun hk => ?_, fun hk h => ?_, fun hk hl hn hcs hcn h => ?_⟩
  · simp [update, leoK, hk]
  · rcases h with h | h <;> simp [update, leoK, hk, h]
  · simp [update, leoK, hk, hl, hn, hcs, hcn, h]

/-- too few shards; a negative `outSize` is `ErrShortData`, not a `make` panic (fix 33b1873) -/
theorem C16_join_errors (k : Kind) (d p : Nat) (s : List Sh) (outSize : Int) :
    (s.length < d → join k d p s outSize = .err .tooFewShards) ∧
    (d ≤ s.length → outSize < 0 → join k d p s outSize = .err .shortData) := by
  refine ⟨fun h => ?_, fun hl h => ?_⟩
  · simp [join, h]
  · simp [join, Nat.not_lt.mpr hl, h]

theorem C16_split_empty (k : Kind) (d p : Nat) : split k d p 0 = .err .shortData := rfl

theorem C16_split_ok (k : Kind) (d p len : Nat) (h : len ≠ 0) : split k d p len = .ok := by
  simp [split, h]

theorem wrap64_range (x : Int) : -2 ^ 63 ≤ wrap64 x ∧ wrap64 x < 2 ^ 63 := by
  unfold wrap64
  simp only
  split <;> omega

/-- `New` never panics — for every pair of integers (a fortiori every pair of 64-bit integers) and
every option: no branch of the constructor computes an index or a length that can fail (a
wrapped-around non-positive `totalShards` is rejected before `make([][]byte, totalShards)`,
fix a37e7db). -/
theorem C16_new_total_int (d p : Int) (leo : Leo) (fam : Fam) : new d p leo fam ≠ .panic := by
  rw [new_eq]
  refine ite_ne (newFF_ne_panic _ _ _ _) fun _ => ite_ne (newFF_ne_panic _ _ _ _) fun _ =>
    ite_ne nofun fun _ => ite_ne nofun fun _ => ite_ne nofun fun _ => ?_
  cases fam with
  | custom rows cols => exact ite_ne nofun fun _ => nofun
  | _ => nofun

theorem C16_new_total (d p : Int) (_hd : -2 ^ 63 ≤ d ∧ d < 2 ^ 63) (_hp : -2 ^ 63 ≤ p ∧ p < 2 ^ 63)
    (leo : Leo) (fam : Fam) : new d p leo fam ≠ .panic :=
  C16_new_total_int d p leo fam

theorem C16_newStream_total_int (d p : Int) (leo : Leo) (fam : Fam) :
    newStream d p leo fam ≠ .panic := by
  have := C16_new_total_int d p leo fam
  unfold newStream
  split
  · simp
  · split <;> simp_all

theorem C16_newStream_total (d p : Int) (_hd : -2 ^ 63 ≤ d ∧ d < 2 ^ 63)
    (_hp : -2 ^ 63 ≤ p ∧ p < 2 ^ 63) (leo : Leo) (fam : Fam) : newStream d p leo fam ≠ .panic :=
  C16_newStream_total_int d p leo fam

/-- never a Leopard encoder behind a stream: the type assertion in `NewStream` cannot fail -/
theorem C16_newStream_kind (d p : Int) (leo : Leo) (fam : Fam) (k : Kind)
    (h : newStream d p leo fam = .enc k) : k = .rs8 := by
  unfold newStream at h
  split at h
  · simp at h
  · split at h
    · simp at h; exact h.symm
    · simp at h
    · rename_i o h1 h2
      cases k with
      | rs8 => rfl
      | _ => exact absurd h (h2 _)

/-- every encoder `New` returns is usable: `1 ≤ d`, `0 ≤ p`, `d + p ≤ 256` for the matrix codec,
and for Leopard `1 ≤ p` and `d + ceilPow2 p` within the field order (FFT indices in range) -/
theorem C16_new_usable (d p : Int) (hd : -2 ^ 63 ≤ d ∧ d < 2 ^ 63) (hp : -2 ^ 63 ≤ p ∧ p < 2 ^ 63)
    (leo : Leo) (fam : Fam) (k : Kind) (h : new d p leo fam = .enc k) :
    0 ≤ d ∧ 0 ≤ p ∧ usable k d.toNat p.toNat = true := by
  rcases new_enc_inv64 d p hd hp leo fam k h with
    ⟨rfl, a, b, _, c, _⟩ | ⟨rfl, a, b, _, c, _⟩ | ⟨rfl, a, b, c, _⟩ <;>
  · refine ⟨by omega, by omega, ?_⟩
    simp only [usable, Bool.and_eq_true, decide_eq_true_eq]
    omega

/-- the sum of the two counts overflows 64 bits (the wrapped total is negative): always an error,
never a panic and never an encoder — `ErrMaxShardNum` from the Leopard constructors when an option
forces Leopard, otherwise the matrix constructor's error (invalid row size / fix a37e7db) -/
theorem C16_new_overflow (d p : Int) (hd : 0 < d ∧ d < 2 ^ 63) (hp : 0 < p ∧ p < 2 ^ 63)
    (leo : Leo) (fam : Fam) (h : 2 ^ 63 ≤ d + p) :
    new d p leo fam = if leo = .asNeeded then .err .other else .err .maxShardNum := by
  have hw := wrap64_cases (d + p) (by omega) (by omega)
  have hneg : wrap64 (d + p) < 0 := by omega
  -- one of the two counts is beyond any field order
  have hbig : ∀ order : Nat, (order : Int) ≤ 65536 → ∀ k, newFF order k d p = .err .maxShardNum :=
    fun order ho k => newFF_max order k d p hd.1 hp.1 (by omega)
  rw [new_eq]
  cases leo with
  | gf16 => rw [if_pos (.inl ⟨rfl, hp.1⟩), hbig 65536 (by omega)]; rfl
  | always =>
    rw [if_neg (fun h => h.elim (fun h => nomatch h.1) fun h => by omega), if_pos ⟨rfl, hp.1⟩,
      hbig 256 (by omega)]
    rfl
  | asNeeded =>
    rw [if_neg (fun h => h.elim (fun h => nomatch h.1) fun h => by omega), if_neg (fun h => nomatch h.1),
      if_neg (by omega), if_neg (by omega), if_pos (by omega)]
    rfl

/-- more than 256 shards in total (no overflow): the GF(2^16) Leopard constructor decides,
whatever the options -/
theorem C16_new_big (d p : Int) (leo : Leo) (fam : Fam)
    (h : 256 < d + p) (h63 : d + p < 2 ^ 63) : new d p leo fam = newFF 65536 .leo16 d p := by
  rw [new_eq, if_pos (.inr (by rw [wrap64_id (d + p) (by omega) h63]; exact h))]

/-- when the matrix codec is returned (the converse is `C16_new_rs8_ok`): `1 ≤ d`, `0 ≤ p`, `d + p ≤ 256`
(and Leopard was not forced by an option) -/
theorem C16_new_enc_rs8 (d p : Int) (hd : -2 ^ 63 ≤ d ∧ d < 2 ^ 63) (hp : -2 ^ 63 ≤ p ∧ p < 2 ^ 63)
    (leo : Leo) (fam : Fam) (h : new d p leo fam = .enc .rs8) :
    1 ≤ d ∧ 0 ≤ p ∧ d + p ≤ 256 ∧ (p = 0 ∨ leo = .asNeeded) := by
  rcases new_enc_inv64 d p hd hp leo fam _ h with ⟨hk, _⟩ | ⟨hk, _⟩ | ⟨_, a, b, c, f⟩
  · cases hk
  · cases hk
  · exact ⟨a, b, c, f⟩

/-- a Leopard GF(2^8) encoder only with `WithLeopardGF(true)`, a GF(2^16) one only with
`WithLeopardGF16(true)` or more than 256 shards -/
theorem C16_new_enc_leo (d p : Int) (hd : -2 ^ 63 ≤ d ∧ d < 2 ^ 63) (hp : -2 ^ 63 ≤ p ∧ p < 2 ^ 63)
    (leo : Leo) (fam : Fam) :
    (new d p leo fam = .enc .leo8 → leo = .always ∧ 1 ≤ d ∧ 1 ≤ p ∧ d + p ≤ 256) ∧
    (new d p leo fam = .enc .leo16 → (leo = .gf16 ∨ 256 < d + p) ∧ 1 ≤ d ∧ 1 ≤ p ∧ d + p ≤ 65536) := by
  constructor <;> intro h
  · rcases new_enc_inv64 d p hd hp leo fam _ h with ⟨hk, _⟩ | ⟨_, a, b, c, _, e⟩ | ⟨hk, _⟩
    · cases hk
    · exact ⟨e, a, b, c⟩
    · cases hk
  · rcases new_enc_inv64 d p hd hp leo fam _ h with ⟨_, a, b, c, _, e⟩ | ⟨hk, _⟩ | ⟨hk, _⟩
    · exact ⟨e, a, b, c⟩
    · cases hk
    · cases hk

/-- the accepted calls of the default constructor: `1 ≤ d`, `0 ≤ p`, `d + p ≤ 256`, any built-in
matrix family -/
theorem C16_new_rs8_ok (d p : Int) (hd : 1 ≤ d) (hp : 0 ≤ p) (h : d + p ≤ 256) (fam : Fam)
    (hf : ∀ r c, fam ≠ .custom r c) : new d p .asNeeded fam = .enc .rs8 := by
  have hw := wrap64_id (d + p) (by omega) (by omega)
  rw [new_eq, hw, if_neg (fun h => h.elim (fun h => nomatch h.1) fun h => by omega),
    if_neg (fun h => nomatch h.1), if_neg (by omega)]
  refine ite_eq (fun _ => rfl) fun _ => ?_
  rw [if_neg (by omega)]
  cases fam with
  | custom r c => exact absurd rfl (hf r c)
  | _ => rfl

/-- `WithCustomMatrix`: at least `p` rows (extra rows are ignored, fix 40188d9) of at least `d`
columns -/
theorem C16_new_custom (d p : Int) (hd : 1 ≤ d) (hp : 1 ≤ p) (h : d + p ≤ 256) (rows cols : Nat) :
    new d p .asNeeded (.custom rows cols) =
      if (rows : Int) < p ∨ (cols : Int) < d then .err .other else .enc .rs8 := by
  have hw := wrap64_id (d + p) (by omega) (by omega)
  rw [new_eq, hw, if_neg (fun h => h.elim (fun h => nomatch h.1) fun h => by omega),
    if_neg (fun h => nomatch h.1), if_neg (by omega), if_neg (by omega), if_neg (by omega)]

/-- the documented results of `New`, collected -/
theorem C16_new_documented (d p : Int) (hd : -2 ^ 63 ≤ d ∧ d < 2 ^ 63) (hp : -2 ^ 63 ≤ p ∧ p < 2 ^ 63)
    (leo : Leo) (fam : Fam) :
    (d ≤ 0 → new d p leo fam = .err .invShardNum) ∧
    (p < 0 → new d p leo fam = .err .invShardNum) ∧
    (0 < d → 0 < p → 2 ^ 63 ≤ d + p →
      new d p leo fam = if leo = .asNeeded then .err .other else .err .maxShardNum) ∧
    (0 < d → 0 < p → 256 < d + p → d + p < 2 ^ 63 → 65536 < d + (ceilPow2 p.toNat : Int) →
      new d p leo fam = .err .maxShardNum) ∧
    (0 < d → 0 < p → 256 < d + p → p ≤ 65536 → d + (ceilPow2 p.toNat : Int) ≤ 65536 →
      new d p leo fam = .enc .leo16) ∧
    (256 < d → p = 0 → new d p leo fam = .err .invShardNum) ∧
    (new d p leo fam = .enc .rs8 → 1 ≤ d ∧ 0 ≤ p ∧ d + p ≤ 256 ∧ (p = 0 ∨ leo = .asNeeded)) ∧
    (1 ≤ d → 0 ≤ p → d + p ≤ 256 → leo = .asNeeded → (∀ r c, fam ≠ .custom r c) →
      new d p leo fam = .enc .rs8) := by
  refine ⟨fun a => new_invShardNum d p leo fam (.inl a), fun a => new_invShardNum d p leo fam (.inr a),
    fun a b c => C16_new_overflow d p ⟨a, hd.2⟩ ⟨b, hp.2⟩ leo fam c, ?_, ?_, ?_,
    C16_new_enc_rs8 d p hd hp leo fam, ?_⟩
  · -- `d + ceilPow2 p` beyond 65536 (fix 674193f)
    intro a b c e f
    rw [C16_new_big d p leo fam c e]
    exact newFF_max _ _ _ _ a b (.inr (.inr f))
  · intro a b c hpo e
    have hc : 0 ≤ (ceilPow2 p.toNat : Int) := Int.natCast_nonneg _
    have hle := le_ceilPow2 p.toNat (by omega)
    rw [C16_new_big d p leo fam c (by omega), newFF_eq, if_neg (by omega), if_neg (by omega)]
  · -- Leopard rejects `parityShards = 0`
    intro a b
    subst b
    rw [C16_new_big d 0 leo fam (by omega) (by omega)]
    exact newFF_inv _ _ _ _ (.inr (Int.le_refl 0))
  · intro a b c e f; subst e; exact C16_new_rs8_ok d p a b c fam f

/-- more than 256 shards in total: `ErrMaxShardNum` (streams have no Leopard backend) -/
theorem C16_newStream_max (d p : Int) (leo : Leo) (fam : Fam) (h : 256 < wrap64 (d + p)) :
    newStream d p leo fam = .err .maxShardNum := by
  simp [newStream, h]

/-- an option that selects Leopard: `ErrNotSupported` instead of a failing type assertion
(fix d4cd075) -/
theorem C16_newStream_not_supported (d p : Int) (leo : Leo) (fam : Fam) (k : Kind)
    (h : new d p leo fam = .enc k) (hk : k ≠ .rs8) (hs : wrap64 (d + p) ≤ 256) :
    newStream d p leo fam = .err .notSupported := by
  have : ¬ wrap64 (d + p) > 256 := by omega
  cases k with
  | rs8 => exact absurd rfl hk
  | _ => simp [newStream, this, h]

/-- otherwise `NewStream` answers like `New` -/
theorem C16_newStream_eq_new (d p : Int) (leo : Leo) (fam : Fam) (hs : wrap64 (d + p) ≤ 256)
    (h : ∀ k, new d p leo fam = .enc k → k = .rs8) : newStream d p leo fam = new d p leo fam := by
  have : ¬ wrap64 (d + p) > 256 := by omega
  unfold newStream
  rw [if_neg this]
  split
  · rename_i h1; exact h1.symm
  · rename_i k h1 h2; exact absurd (h k h2) h1
  · rfl

/-! ### non-vacuity -/

example : new 4 2 .asNeeded .default = .enc .rs8 := by decide
example : new 200 56 .always .default = .err .maxShardNum := by decide
example : new 100 28 .always .default = .enc .leo8 := by decide
example : new 200 100 .always .default = .enc .leo16 := by decide
example : new 40000 20000 .asNeeded .default = .err .maxShardNum := by decide
example : new 30000 20000 .asNeeded .default = .enc .leo16 := by decide
example : new 300 0 .asNeeded .default = .err .invShardNum := by decide
example : new 0 2 .asNeeded .default = .err .invShardNum := by decide
example : new 4 (-1) .asNeeded .default = .err .invShardNum := by decide
example : new (2 ^ 63 - 1) 1 .asNeeded (.custom 2 3) = .err .other := by decide
example : new (2 ^ 63 - 1) 1 .asNeeded .default = .err .other := by decide
example : new (2 ^ 63 - 1) 1 .always (.custom 2 3) = .err .maxShardNum := by decide
example : new (2 ^ 63 - 1) (2 ^ 63 - 1) .gf16 .cauchy = .err .maxShardNum := by decide
example : new (-2 ^ 63) (-2 ^ 63) .always .default = .err .invShardNum := by decide
example : new 4 2 .asNeeded (.custom 1 4) = .err .other := by decide
example : new 4 2 .asNeeded (.custom 5 4) = .enc .rs8 := by decide
example : newStream 4 2 .always .default = .err .notSupported := by decide
example : newStream 4 2 .asNeeded .default = .enc .rs8 := by decide
example : newStream 200 100 .asNeeded .default = .err .maxShardNum := by decide
example : usable .leo16 30000 20000 = true ∧ usable .leo16 40000 20000 = false := by decide
example : join .rs8 4 2 (List.replicate 4 ⟨false, 10, 10⟩) (-1) = .err .shortData := by decide
example : join .rs8 4 2 (List.replicate 4 ⟨false, 10, 10⟩) 40 = .ok := by decide
example : join .rs8 4 2 (List.replicate 4 ⟨false, 10, 10⟩) 41 = .err .shortData := by decide
example : join .rs8 4 2 (List.replicate 3 ⟨false, 10, 10⟩) 5 = .err .tooFewShards := by decide
example : encode .rs8 4 2 (List.replicate 6 ⟨false, 10, 10⟩) = .ok := by decide
example : encode .leo8 4 2 (List.replicate 6 ⟨false, 10, 10⟩) = .err .invalidShardSize := by decide
example : encode .rs8 4 2 (⟨true, 0, 0⟩ :: List.replicate 5 ⟨false, 10, 10⟩) = .err .shardSize := by
  decide
example : encode .rs8 4 2 (List.replicate 6 ⟨true, 0, 0⟩) = .err .shardNoData := by decide
example : reconstruct .rs8 2 1 [⟨false, 8, 8⟩, ⟨true, 0, 0⟩, ⟨false, 8, 8⟩] (.some (some [true])) =
    .err .tooFewShards := by decide
example : reconstruct .rs8 2 1 [⟨false, 8, 8⟩, ⟨true, 0, 0⟩, ⟨false, 8, 8⟩]
    (.some (some [false, true])) = .ok := by decide
example : reconstruct .rs8 2 1 [⟨false, 8, 8⟩, ⟨true, 0, 0⟩, ⟨false, 8, 8⟩] (.some none) = .ok := by
  decide
example : reconstruct .rs8 2 1 [⟨false, 8, 8⟩, ⟨true, 0, 0⟩, ⟨true, 0, 0⟩] .all =
    .err .tooFewShards := by decide
example : reconstruct .rs8 2 1 [⟨false, 8, 8⟩, ⟨true, 0, 0⟩, ⟨true, 0, 0⟩]
    (.some (some [true, false, false])) = .ok := by decide
example : encodeIdx .rs8 4 2 10 (-1) (List.replicate 2 ⟨false, 10, 10⟩) = .err .invShardNum := by
  decide
example : encodeIdx .rs8 4 2 10 4 (List.replicate 2 ⟨false, 10, 10⟩) = .err .invShardNum := by decide
example : encodeIdx .rs8 4 2 10 3 (List.replicate 2 ⟨false, 10, 10⟩) = .ok := by decide
example : update .rs8 2 1 (List.replicate 3 ⟨false, 8, 8⟩) (List.replicate 2 ⟨false, 4, 4⟩) =
    .err .shardSize := by decide
example : update .rs8 2 1 (List.replicate 3 ⟨false, 8, 8⟩) [⟨true, 0, 0⟩, ⟨false, 8, 8⟩] = .ok := by
  decide

/-! #### the kernels' slice expressions are live conditions

`hd` of the totality theorems cannot be dropped: for the (non-existent) matrix encoder with no data
shards the model does reach `panic` — `codeSomeShards` reads `len(inputs[0])`. -/
example : encode .rs8 0 1 [⟨false, 10, 10⟩] = .panic := by decide
example : verify .rs8 0 1 [⟨false, 10, 10⟩] = .panic := by decide
example : reconstruct .rs8 0 2 [⟨false, 10, 10⟩, ⟨true, 0, 0⟩] .all = .panic := by decide
example : verify .rs8 4 2 (List.replicate 6 ⟨false, 10, 10⟩) = .ok := by decide
example : verify .leo8 4 2 (List.replicate 6 ⟨false, 64, 64⟩) = .ok := by decide
example : verify .leo8 4 2 (List.replicate 6 ⟨false, 10, 10⟩) = .err .invalidShardSize := by decide
example : reconstruct .leo8 2 2 [⟨false, 64, 64⟩, ⟨false, 0, 64⟩, ⟨true, 0, 0⟩, ⟨false, 64, 64⟩] .all = .ok := by
  decide
example : codeOob [10, 0, 10] [10] 10 = true ∧ codeOob [10, 10, 10] [10] 10 = false ∧
    codeOob [10, 0, 10] [] 10 = false := by decide

/-! #### `ReconstructSome` and a requested parity shard (defect D1, fix 7b8525f)

Before the fix the first coding pass regenerated only the REQUESTED missing data shards, and the
second pass then recomputed a requested parity shard from `shards[:d]` — with a hole in it.  The
historical input: 4+3 shards, shards 1 and 5 missing, `required` = a full-length mask asking for
shard 5 only.  (The pre-fix counting loop also indexed `required[i]` without the guard
`i < len(required)`; a mask of `d` entries with a missing parity shard was an index out of range.) -/

/-- `ReconstructSome(shards, required)` of the matrix codec with the control logic BEFORE fix 7b8525f
and the same two coding passes (`rsPass1Oob`, `rsPass2Oob`) -/
def reconstructSomeOld (d p : Nat) (s : List Sh) (l : List Bool) : Outcome :=
  let dataOnly : Bool := l.length ≠ d + p
  if s.length ≠ d + p || l.length < d then .err .tooFewShards
  else match checkShards s true with
    | some e => .err e
    | none =>
      let numberPresent := ((List.range (d + p)).filter (presentAt s)).length
      let dataPresent := ((List.range d).filter (presentAt s)).length
      -- counting loop: `required[i]` at every missing position, unguarded
      let countIdxOk := (List.range (d + p)).all fun i => presentAt s i || (idx? l i).isSome
      let missingRequired := ((List.range (d + p)).filter fun i => !presentAt s i && l.getD i false).length
      if !countIdxOk then .panic
      else if numberPresent = d + p || (dataOnly && dataPresent = d) || missingRequired = 0 then .ok
      else if numberPresent < d then .err .tooFewShards
      else
        -- first pass: `len(shards[i]) == 0 && (required == nil || required[i])` — no `parityRequired`
        let regen (i : Nat) : Bool := !presentAt s i && l.getD i false
        if rsPass1Oob d p s regen || (!dataOnly && rsPass2Oob d p s (some l) regen) then .panic else .ok

private abbrev r10 : Sh := ⟨false, 10, 10⟩
private abbrev rN : Sh := ⟨true, 0, 0⟩

/-- the defect, in Lean: the old control logic reaches an out-of-range slice on the historical
input (data shard 1 is still empty when parity shard 5 is computed from all data shards) -/
example : reconstructSomeOld 4 3 [r10, rN, r10, r10, r10, rN, r10]
    [false, false, false, false, false, true, false] = .panic := by decide
/-- the other half of the defect: a mask of `d` entries, a missing parity shard -/
example : reconstructSomeOld 4 3 [r10, rN, r10, r10, r10, rN, r10] [false, true, false, false] = .panic := by
  decide
/-- after the fix: both calls are answered, shard 1 is regenerated first -/
example : reconstruct .rs8 4 3 [r10, rN, r10, r10, r10, rN, r10]
    (.some (some [false, false, false, false, false, true, false])) = .ok := by decide
example : reconstruct .rs8 4 3 [r10, rN, r10, r10, r10, rN, r10]
    (.some (some [false, true, false, false])) = .ok := by decide
example : rsRegen 4 3 [r10, rN, r10, r10, r10, rN, r10] false
    (some [false, false, false, false, false, true, false]) 1 = true := by decide
-- where the old and the new logic agree: the requested data shard only
example : reconstructSomeOld 4 3 [r10, rN, r10, r10, r10, rN, r10]
    [false, true, false, false, false, false, false] = .ok := by decide

/-! #### `Update` and zero-length shards (fix bd2a6b4)

The correspondence check found that the Go `Update` panicked ("slice bounds out of range [:10] with
capacity 0") on `shards = [10, e, 10, 10 | 10, 10]`, `newDatashards = [n, 10, 10, 10]` (`e` = empty,
not nil; `n` = nil) where a model without the kernels' slicing answers `ok`.  With the repaired checks both the code and
the model answer `ErrInvalidInput` — the driver requests `upd 10,e,10,10,10,10 n,10,10,10` and
`upd 10,10,10,10,e,10 10,n,n,n`. -/

private abbrev sh10 : Sh := ⟨false, 10, 10⟩
private abbrev shE : Sh := ⟨false, 0, 0⟩
private abbrev shN : Sh := ⟨true, 0, 0⟩

example : update .rs8 4 2 [sh10, shE, sh10, sh10, sh10, sh10] [shN, sh10, sh10, sh10] =
    .err .invalidInput := by decide
example : update .rs8 4 2 [sh10, sh10, sh10, sh10, shE, sh10] [sh10, shN, shN, shN] =
    .err .invalidInput := by decide
-- an empty old shard under a nil (unchanged) new shard is accepted: nothing is sliced there
example : update .rs8 4 2 [sh10, shE, sh10, sh10, sh10, sh10] [sh10, shN, sh10, sh10] = .ok := by
  decide

/-- `Update` with the argument checks BEFORE fix bd2a6b4 (`shards[i] == nil`, `p == nil`) and the
same bounds condition `updateOob` for the kernels -/
def updateOld (k : Kind) (d p : Nat) (s nw : List Sh) : Outcome :=
  if leoK k then .err .notSupported
  else if s.length ≠ d + p then .err .tooFewShards
  else if nw.length ≠ d then .err .tooFewShards
  else match checkShards s true with
    | some e => .err e
    | none => match checkShards nw true with
      | some e => .err e
      | none =>
        if shardSize nw ≠ shardSize s then .err .shardSize
        else
          let bad1 := (List.range d).any fun i =>
            match idx? nw i, idx? s i with
            | some a, some b => !a.isNil && b.isNil
            | _, _ => false
          let idxOk := (List.range d).all fun i => (idx? nw i).isSome && (idx? s i).isSome
          if !idxOk then .panic
          else if bad1 then .err .invalidInput
          else if (s.drop d).any (·.isNil) then .err .invalidInput
          else if updateOob d s nw then .panic
          else .ok

/-- the defect, in Lean: the old checks let the two inputs through to an out-of-range slice — the
`panic` branch of the model is live and `C16_update_total` is a statement about the checks -/
example : updateOld .rs8 4 2 [sh10, shE, sh10, sh10, sh10, sh10] [shN, sh10, sh10, sh10] = .panic := by
  decide
example : updateOld .rs8 4 2 [sh10, sh10, sh10, sh10, shE, sh10] [sh10, shN, shN, shN] = .panic := by
  decide
-- on shapes without zero-length non-nil entries the old and the new checks agree
example : updateOld .rs8 4 2 [sh10, shN, sh10, sh10, sh10, sh10] [shN, sh10, sh10, sh10] =
    .err .invalidInput := by decide

/-- the hypothesis `hwf` of `C16_update_total` cannot be dropped: a shape flagged nil with length 10
(no Go slice has it) passes the `!= nil` test of the argument check and is then sliced -/
example : update .rs8 1 1 [shE, sh10] [⟨true, 10, 10⟩] = .panic := by decide

end RSV.Props.C16
#print axioms RSV.Model.Api.shardSize_eq_zero_iff
#print axioms RSV.Model.Api.checkShards_eq_none_iff
#print axioms RSV.Model.Api.shardSize_mem
#print axioms RSV.Model.Api.shardSize_of_all
#print axioms RSV.Model.Api.checkShards_of_all
#print axioms RSV.Model.Api.checkShards_len
#print axioms RSV.Model.Api.codeOob_false
#print axioms RSV.Model.Api.rsReconOob_false
#print axioms RSV.Model.Api.leoReconOob_false
#print axioms RSV.Props.C16.encode_eq_checks
#print axioms RSV.Props.C16.verify_eq_checks
#print axioms RSV.Props.C16.reconstruct_eq_checks
#print axioms RSV.Props.C16.encodeIdx_eq_checks
#print axioms RSV.Props.C16.C16_verify_eq_encode
#print axioms RSV.Props.C16.C16_encode_total
#print axioms RSV.Props.C16.C16_verify_total
#print axioms RSV.Props.C16.C16_reconstruct_total
#print axioms RSV.Props.C16.C16_encodeIdx_total
#print axioms RSV.Model.Api.updateOob_false
#print axioms RSV.Props.C16.C16_update_total
#print axioms RSV.Props.C16.C16_update_panic_illformed
#print axioms RSV.Props.C16.C16_split_total
#print axioms RSV.Props.C16.C16_join_total
#print axioms RSV.Props.C16.C16_encode_wrong_count
#print axioms RSV.Props.C16.C16_encode_no_data
#print axioms RSV.Props.C16.C16_encode_unequal
#print axioms RSV.Props.C16.C16_encode_leo_multiple
#print axioms RSV.Props.C16.C16_encode_ok
#print axioms RSV.Props.C16.C16_encode_ok_iff
#print axioms RSV.Props.C16.countPresent_mono
#print axioms RSV.Props.C16.C16_reconstruct_wrong_count
#print axioms RSV.Props.C16.C16_reconstruct_short_mask
#print axioms RSV.Props.C16.C16_reconstruct_check
#print axioms RSV.Props.C16.C16_reconstruct_too_few
#print axioms RSV.Props.C16.C16_reconstruct_ok_rs8
#print axioms RSV.Props.C16.C16_reconstruct_ok_leo
#print axioms RSV.Props.C16.C16_encodeIdx_errors
#print axioms RSV.Props.C16.C16_encodeIdx_ok
#print axioms RSV.Props.C16.C16_update_empty_old
#print axioms RSV.Props.C16.C16_update_empty_parity
#print axioms RSV.Props.C16.C16_update_ok
#print axioms RSV.Props.C16.C16_update_errors
#print axioms RSV.Props.C16.C16_join_errors
#print axioms RSV.Props.C16.C16_split_empty
#print axioms RSV.Props.C16.C16_split_ok
#print axioms RSV.Model.Api.le_ceilPow2
#print axioms RSV.Model.Api.wrap64_cases
#print axioms RSV.Model.Api.wrap64_id
#print axioms RSV.Props.C16.wrap64_range
#print axioms RSV.Model.Api.newFF_ne_panic
#print axioms RSV.Props.C16.C16_new_total_int
#print axioms RSV.Props.C16.C16_new_total
#print axioms RSV.Props.C16.C16_newStream_total_int
#print axioms RSV.Props.C16.C16_newStream_total
#print axioms RSV.Props.C16.C16_newStream_kind
#print axioms RSV.Model.Api.newFF_enc
#print axioms RSV.Model.Api.new_enc_inv
#print axioms RSV.Model.Api.new_enc_inv64
#print axioms RSV.Props.C16.C16_new_usable
#print axioms RSV.Model.Api.newFF_inv
#print axioms RSV.Model.Api.newFF_max
#print axioms RSV.Props.C16.C16_new_overflow
#print axioms RSV.Props.C16.C16_new_big
#print axioms RSV.Props.C16.C16_new_enc_rs8
#print axioms RSV.Props.C16.C16_new_enc_leo
#print axioms RSV.Props.C16.C16_new_rs8_ok
#print axioms RSV.Props.C16.C16_new_custom
#print axioms RSV.Props.C16.C16_new_documented
#print axioms RSV.Props.C16.C16_newStream_max
#print axioms RSV.Props.C16.C16_newStream_not_supported
#print axioms RSV.Props.C16.C16_newStream_eq_new
