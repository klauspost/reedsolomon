import RSV.Proofs.LeoSched
/-!
# C04 — Leopard Encode: structural properties of the schedule interpreter

Model: `RSV.Model.Leo` (`RSV/Model/Leopard.lean`); lemmas: `RSV/Proofs/LeoSched.lean`.

All `run` theorems hold for arbitrary step lists, hence for `encodeSched d p` with every `(d, p)` and
every shard size.  Hypotheses:

* `WF len v`  — every row of `v` has `len` symbols;
* `InRange nrows nshards s` — step `s` addresses work rows `< nrows` and shards `< nshards`
  (`allInRange` is the executable form);
* `MulLinear C` — `mulSym C 0 m = 0` and `mulSym C (a ^^^ b) m = mulSym C a m ^^^ mulSym C b m` for all
  naturals.  The first holds by definition (`mulSym_zero`).  The second fails for the table contexts
  `mkCtx P8` / `mkCtx P16`: `T.log[a]!` is read out of range for `a ≥ order`, and e.g.
  `mulSym (mkCtx P8) 257 1 = 104` while `mulSym (mkCtx P8) 256 1 ^^^ mulSym (mkCtx P8) 1 1 = 0`.  So the
  theorems below that assume `MulLinear C` speak of idealised contexts only; for the real contexts the
  linearity results are those under the bounded hypothesis `MulLinearOn C B`
  (`RSV/Proofs/LeoSchedBounded.lean`, instantiated in `RSV.Props.C04gf8` / `RSV.Props.C04gf16`).

Chunking is stated three ways: `C04_take` / `C04_drop` (row-wise prefix `rowsTake n` / suffix `rowsDrop n`
of a run on `n + m` symbols is the run on the prefix / suffix), `C04_window` (any symbol window `[a, b)`),
and `C04_chunking` (running on the row-wise concatenation `rowsAppend` of two symbol ranges is the
concatenation of the two runs); `C04_split` says every well-formed state is such a concatenation.
-/
namespace RSV.Props.C04
open RSV.Model.Leo RSV.Proofs.LeoSched

variable (C : Ctx)

theorem C04_wf {len : Nat} {shards w : Array Vec} {steps : List Step}
    (hw : WF len w) (hs : WF len shards) (hr : ∀ s ∈ steps, InRange w.size shards.size s) :
    WF len (run C shards len w steps) ∧ (run C shards len w steps).size = w.size :=
  run_wf C hw hs hr

/-- the number of work rows never changes, whatever the steps -/
theorem C04_size (shards : Array Vec) (len : Nat) (w : Array Vec) (steps : List Step) :
    (run C shards len w steps).size = w.size := size_run C shards len w steps

/-- symbol `k` of every work row after `run` depends only on symbols `k` of the shards and of the
initial work rows -/
theorem C04_local {len k : Nat} (hk : k < len) {shards w : Array Vec} {steps : List Step}
    (hw : WF len w) (hs : WF len shards) (hr : ∀ s ∈ steps, InRange w.size shards.size s) :
    proj k (run C shards len w steps) = run C (proj k shards) 1 (proj k w) steps :=
  run_map C (rowHom_proj C hk) hw hs hr

/-- each row restricted to the symbol window `[a, b)` -/
def rowsWindow (a b : Nat) (v : Array Vec) : Array Vec := v.map (·.extract a b)
/-- each row restricted to its first `n` symbols -/
def rowsTake (n : Nat) (v : Array Vec) : Array Vec := v.map (·.extract 0 n)
/-- each row without its first `n` symbols -/
def rowsDrop (n : Nat) (v : Array Vec) : Array Vec := v.map fun r => r.extract n r.size
/-- row-wise concatenation -/
def rowsAppend (a b : Array Vec) : Array Vec := Array.zipWith (· ++ ·) a b

theorem C04_window {len a b : Nat} (hb : b ≤ len) {shards w : Array Vec} {steps : List Step}
    (hw : WF len w) (hs : WF len shards) (hr : ∀ s ∈ steps, InRange w.size shards.size s) :
    rowsWindow a b (run C shards len w steps) =
      run C (rowsWindow a b shards) (b - a) (rowsWindow a b w) steps :=
  run_map C (rowHom_window C hb) hw hs hr

theorem C04_take {n m : Nat} {shards w : Array Vec} {steps : List Step}
    (hw : WF (n + m) w) (hs : WF (n + m) shards) (hr : ∀ s ∈ steps, InRange w.size shards.size s) :
    rowsTake n (run C shards (n + m) w steps) = run C (rowsTake n shards) n (rowsTake n w) steps :=
  run_map C (rowHom_window C (a := 0) (b := n) (Nat.le_add_right n m)) hw hs hr

theorem C04_drop {n m : Nat} {shards w : Array Vec} {steps : List Step}
    (hw : WF (n + m) w) (hs : WF (n + m) shards) (hr : ∀ s ∈ steps, InRange w.size shards.size s) :
    rowsDrop n (run C shards (n + m) w steps) = run C (rowsDrop n shards) m (rowsDrop n w) steps :=
  run_map C (rowHom_drop C n m) hw hs hr

/-- running on the concatenation of two symbol ranges = concatenating the runs on each range -/
theorem C04_chunking {l₁ l₂ : Nat} {s₁ s₂ w₁ w₂ : Array Vec} {steps : List Step}
    (hw₁ : WF l₁ w₁) (hw₂ : WF l₂ w₂) (hs₁ : WF l₁ s₁) (hs₂ : WF l₂ s₂)
    (hws : w₁.size = w₂.size) (hss : s₁.size = s₂.size)
    (hr : ∀ s ∈ steps, InRange w₁.size s₁.size s) :
    run C (rowsAppend s₁ s₂) (l₁ + l₂) (rowsAppend w₁ w₂) steps =
      rowsAppend (run C s₁ l₁ w₁ steps) (run C s₂ l₂ w₂ steps) :=
  run_zipWith C (rowHom2_append C l₁ l₂) hw₁ hw₂ hs₁ hs₂ hws hss hr

/-- every state on `n + m` symbols is the concatenation of its prefix and suffix.  `hv` is part of the stated
interface; the proof does not need it. -/
theorem C04_split {n m : Nat} {v : Array Vec} (hv : WF (n + m) v) :
    rowsAppend (rowsTake n v) (rowsDrop n v) = v := by
  have _ := hv
  have key : ∀ x : Vec, x.extract 0 n ++ x.extract n x.size = x := fun x => by
    rw [Array.extract_append_extract, Nat.zero_min, Array.extract_eq_self_of_le (Nat.le_max_right ..)]
  unfold rowsAppend rowsTake rowsDrop
  rw [Array.zipWith_map_left, Array.zipWith_map_right, Array.zipWith_self]
  simp only [key, Array.map_id']

/-- `run` is additive in (shards, initial work) -/
theorem C04_linear (hC : MulLinear C) {len : Nat} {s₁ s₂ w₁ w₂ : Array Vec} {steps : List Step}
    (hw₁ : WF len w₁) (hw₂ : WF len w₂) (hs₁ : WF len s₁) (hs₂ : WF len s₂)
    (hws : w₁.size = w₂.size) (hss : s₁.size = s₂.size)
    (hr : ∀ s ∈ steps, InRange w₁.size s₁.size s) :
    run C (xorRows s₁ s₂) len (xorRows w₁ w₂) steps =
      xorRows (run C s₁ len w₁ steps) (run C s₂ len w₂ steps) :=
  run_xorRows C hC hw₁ hw₂ hs₁ hs₂ hws hss hr

/-- all-zero shards and all-zero work give all-zero work -/
theorem C04_zero (hC : MulLinear C) {nrows nsh len : Nat} {steps : List Step}
    (hr : ∀ s ∈ steps, InRange nrows nsh s) :
    run C (zeroRows nsh len) len (zeroRows nrows len) steps = zeroRows nrows len :=
  have _ := hC; run_zeroRows C hr

/-- superposition: on a finite xor-combination `xorSum` of inputs (shards, work) the result is the
xor-combination of the results on the individual inputs; with the unit vectors as inputs this says the
output for arbitrary data is determined by the outputs on the unit vectors -/
theorem C04_superpose (hC : MulLinear C) {nrows nsh len : Nat} {steps : List Step}
    (hr : ∀ s ∈ steps, InRange nrows nsh s) (L : List (Array Vec × Array Vec))
    (hL : ∀ q ∈ L, (WF len q.1 ∧ q.1.size = nsh) ∧ (WF len q.2 ∧ q.2.size = nrows)) :
    run C (xorSum nsh len (L.map (·.1))) len (xorSum nrows len (L.map (·.2))) steps =
      xorSum nrows len (L.map fun q => run C q.1 len q.2 steps) :=
  run_xorSum C hC hr L hL

/-- `mulSym C 0 m = 0` is true by definition, so `MulLinear C` is exactly xor-additivity of `mulSym` -/
theorem C04_mulLinear_of_xor
    (h : ∀ a b m, mulSym C (a ^^^ b) m = mulSym C a m ^^^ mulSym C b m) : MulLinear C :=
  ⟨mulSym_zero C, h⟩

/-- if no step reads a row before it has been written (`initOK`), every row written by the schedule
(`definedAfter`) has the same final content for any two initial work areas of the same size
(no well-formedness or range hypothesis is needed) -/
theorem C04_scratch {shards : Array Vec} {len nrows : Nat} {steps : List Step}
    (hok : initOK nrows steps = true) {w w' : Array Vec} (hsz : w.size = w'.size) :
    ∀ i : Nat, (definedAfter nrows steps)[i]! = true →
      (run C shards len w steps)[i]! = (run C shards len w' steps)[i]! :=
  run_scratch C hok hsz

/-- for `encode`: if the schedule passes `initOK` and defines rows `0 … p`, then the parity shards do
not depend on the (zero) initialisation of the work area -/
theorem C04_encode_scratch (d p len : Nat) (data : Array Vec) (hp : p ≤ 2 * ceilPow2 p)
    (hok : initOK (2 * ceilPow2 p) (encodeSched C d p).toList = true)
    (hdef : ∀ i : Nat, i < p → (definedAfter (2 * ceilPow2 p) (encodeSched C d p).toList)[i]! = true)
    (w : Array Vec) (hw : w.size = 2 * ceilPow2 p) :
    (run C data len w (encodeSched C d p).toList).extract 0 p = encode C d p len data := by
  simp only [encode]
  apply ext! (by simp [Array.size_extract, hw])
  intro i hi
  have hi' : i < p := by simp [Array.size_extract, hw] at hi; omega
  rw [get!_extract _ 0 p i (by omega) (by simp [hw]; omega),
    get!_extract _ 0 p i (by omega) (by simp; omega), Nat.zero_add]
  exact run_scratch C hok (by simp [hw]) i (hdef i hi')

/-- a hand-written schedule: load two shards, clear a third row, butterfly -/
def demoSched : List Step :=
  [.load 0 0, .load 1 1, .clear 2, .xor 1 0, .mulAdd 0 1 85, .xor 2 1, .mulAdd 2 0 17]

example : initOK 4 demoSched = true := by decide
example : definedAfter 4 demoSched = #[true, true, true, false] := by decide
example : allInRange 4 2 demoSched = true := by decide
/-- reading the never-written row 3 is rejected -/
example : initOK 4 (demoSched ++ [.xor 0 3]) = false := by decide
/-- reading a row before it is written is rejected -/
example : initOK 4 [.load 0 0, .xor 1 0, .load 1 1] = false := by decide

/-- the steps `encodeSched (mkCtx P8) 3 2` evaluates to, as `#eval` prints them; no theorem ties this
list to the generator (kernel evaluation of the tables of `mkCtx P8` is possible but takes over a minute) -/
def encodeSched_3_2 : List Step :=
  [.load 0 0, .load 1 1, .xor 1 0, .mulAdd 0 1 85, .load 2 2, .clear 3, .xor 3 2, .mulAdd 2 3 17,
   .xor 0 2, .xor 1 3, .xor 1 0]

example : initOK 4 encodeSched_3_2 = true := by decide
example : definedAfter 4 encodeSched_3_2 = #[true, true, true, true] := by decide
example : allInRange 4 3 encodeSched_3_2 = true := by decide

/-- a context with the GF(2^8) parameters and empty tables: every `skewAt` is `0 ≠ modulus`, so the
generators emit every `mulAdd`; the kernel can evaluate the generators on it -/
def shapeCtx : Ctx := ⟨P8, ⟨#[], #[]⟩, ⟨#[], #[]⟩⟩

set_option maxRecDepth 1000000 in
example : initOK (2 * ceilPow2 2) (encodeSched shapeCtx 3 2).toList = true := by decide +kernel
set_option maxRecDepth 1000000 in
example : allInRange (2 * ceilPow2 2) 3 (encodeSched shapeCtx 3 2).toList = true := by decide +kernel
set_option maxRecDepth 1000000 in
example : initOK (2 * ceilPow2 3) (encodeSched shapeCtx 10 3).toList = true := by decide +kernel
set_option maxRecDepth 1000000 in
example : allInRange (2 * ceilPow2 3) 10 (encodeSched shapeCtx 10 3).toList = true := by decide +kernel

theorem C04_encode_shape (d p len : Nat) (data : Array Vec) (hp : p ≤ 2 * ceilPow2 p) :
    (encode C d p len data).size = p := size_encode C d p len data hp

theorem C04_le_ceilPow2 (n : Nat) (h : n ≤ 2 ^ 64) : n ≤ ceilPow2 n := le_ceilPow2 n h

theorem C04_encode_shape' (d p len : Nat) (data : Array Vec) (hp : p ≤ 2 ^ 64) :
    (encode C d p len data).size = p :=
  size_encode C d p len data (by have := le_ceilPow2 p hp; omega)

/-- the shard set is a read-only parameter of `run`: it is not part of the result, and running
`s₁ ++ s₂` is running `s₁` and then `s₂` against the same shards -/
theorem C04_shards_readonly (shards : Array Vec) (len : Nat) (w : Array Vec) (s₁ s₂ : List Step) :
    run C shards len w (s₁ ++ s₂) = run C shards len (run C shards len w s₁) s₂ :=
  run_append C shards len w s₁ s₂

theorem C04_encode_local {len k : Nat} (hk : k < len) (d p : Nat) {data : Array Vec}
    (hs : WF len data)
    (hr : ∀ s ∈ (encodeSched C d p).toList, InRange (2 * ceilPow2 p) data.size s) :
    proj k (encode C d p len data) = encode C d p 1 (proj k data) :=
  encode_map C (rowHom_proj C hk) d p hs hr

theorem C04_encode_chunking {l₁ l₂ : Nat} (d p : Nat) {s₁ s₂ : Array Vec}
    (hs₁ : WF l₁ s₁) (hs₂ : WF l₂ s₂) (hss : s₁.size = s₂.size)
    (hr : ∀ s ∈ (encodeSched C d p).toList, InRange (2 * ceilPow2 p) s₁.size s) :
    encode C d p (l₁ + l₂) (rowsAppend s₁ s₂) =
      rowsAppend (encode C d p l₁ s₁) (encode C d p l₂ s₂) :=
  encode_zipWith C (rowHom2_append C l₁ l₂) d p hs₁ hs₂ hss hr

theorem C04_encode_linear (hC : MulLinear C) {len : Nat} (d p : Nat) {s₁ s₂ : Array Vec}
    (hs₁ : WF len s₁) (hs₂ : WF len s₂) (hss : s₁.size = s₂.size)
    (hr : ∀ s ∈ (encodeSched C d p).toList, InRange (2 * ceilPow2 p) s₁.size s) :
    encode C d p len (xorRows s₁ s₂) = xorRows (encode C d p len s₁) (encode C d p len s₂) :=
  encode_zipWith C (rowHom2_xor C hC len) d p hs₁ hs₂ hss hr

end RSV.Props.C04

#print axioms RSV.Props.C04.C04_wf
#print axioms RSV.Props.C04.C04_size
#print axioms RSV.Props.C04.C04_local
#print axioms RSV.Props.C04.C04_window
#print axioms RSV.Props.C04.C04_take
#print axioms RSV.Props.C04.C04_drop
#print axioms RSV.Props.C04.C04_chunking
#print axioms RSV.Props.C04.C04_split
#print axioms RSV.Props.C04.C04_linear
#print axioms RSV.Props.C04.C04_zero
#print axioms RSV.Props.C04.C04_superpose
#print axioms RSV.Props.C04.C04_mulLinear_of_xor
#print axioms RSV.Props.C04.C04_scratch
#print axioms RSV.Props.C04.C04_encode_scratch
#print axioms RSV.Props.C04.C04_encode_shape
#print axioms RSV.Props.C04.C04_le_ceilPow2
#print axioms RSV.Props.C04.C04_encode_shape'
#print axioms RSV.Props.C04.C04_shards_readonly
#print axioms RSV.Props.C04.C04_encode_local
#print axioms RSV.Props.C04.C04_encode_chunking
#print axioms RSV.Props.C04.C04_encode_linear
