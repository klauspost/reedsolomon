import RSV.Model.Leopard
import RSV.Proofs.LeoSched
import RSV.Props.C04
/-!
# C05 — Leopard Reconstruct: structural properties

Model: `RSV.Model.Leo.reconstruct` (`RSV/Model/Leopard.lean`); lemmas: `RSV/Proofs/LeoSched.lean`.

`reconstruct C d p len shards missing recoverAll` runs the schedule
`reconSched C d p missing (errLocs C d p missing)` on `n = ceilPow2 (ceilPow2 p + d)` zero rows and reads
row `m + i` (data `i`) resp. `i - d` (parity `i`), `m = ceilPow2 p`.  The facts of C04 are about
arbitrary step lists, so they hold for this schedule, for a FIXED erasure set `missing` and a fixed
locator table `el`; they are restated here for exactly the `run` call made by `reconstruct`
(`C05_local`, `C05_linear`, `C05_chunking`, `C05_scratch`) and lifted to the result of `reconstruct`
(`C05_reconstruct_local`, `C05_reconstruct_linear`, `C05_reconstruct_chunking`).

`SchedInRange C d p missing el nshards` is the range hypothesis for the generated schedule
(`allInRange` decides it for concrete parameters).
-/
namespace RSV.Props.C05
open RSV.Model.Leo RSV.Proofs.LeoSched RSV.Props.C04

variable (C : Ctx)

def SchedInRange (d p : Nat) (missing : Nat → Bool) (el : Array Nat) (nshards : Nat) : Prop :=
  ∀ s ∈ (reconSched C d p missing el).toList, InRange (ceilPow2 (ceilPow2 p + d)) nshards s

theorem C05_wf {len : Nat} (d p : Nat) (missing : Nat → Bool) (el : Array Nat) {shards : Array Vec}
    (hs : WF len shards) (hr : SchedInRange C d p missing el shards.size) :
    WF len (run C shards len (Array.replicate (ceilPow2 (ceilPow2 p + d)) (zeroVec len))
      (reconSched C d p missing el).toList) ∧
    (run C shards len (Array.replicate (ceilPow2 (ceilPow2 p + d)) (zeroVec len))
      (reconSched C d p missing el).toList).size = ceilPow2 (ceilPow2 p + d) := by
  have h := run_wf C (WF_replicate (ceilPow2 (ceilPow2 p + d)) len) hs
    (steps := (reconSched C d p missing el).toList) (by rw [Array.size_replicate]; exact hr)
  exact ⟨h.1, by simp⟩

theorem C05_local {len k : Nat} (hk : k < len) (d p : Nat) (missing : Nat → Bool) (el : Array Nat)
    {shards : Array Vec} (hs : WF len shards) (hr : SchedInRange C d p missing el shards.size) :
    proj k (run C shards len (Array.replicate (ceilPow2 (ceilPow2 p + d)) (zeroVec len))
        (reconSched C d p missing el).toList) =
      run C (proj k shards) 1 (Array.replicate (ceilPow2 (ceilPow2 p + d)) (zeroVec 1))
        (reconSched C d p missing el).toList := by
  have h := run_map C (rowHom_proj C hk) (WF_replicate (ceilPow2 (ceilPow2 p + d)) len) hs
    (steps := (reconSched C d p missing el).toList) (by rw [Array.size_replicate]; exact hr)
  rwa [Array.map_replicate, (rowHom_proj C hk).zero] at h

theorem C05_chunking {l₁ l₂ : Nat} (d p : Nat) (missing : Nat → Bool) (el : Array Nat)
    {s₁ s₂ : Array Vec} (hs₁ : WF l₁ s₁) (hs₂ : WF l₂ s₂) (hss : s₁.size = s₂.size)
    (hr : SchedInRange C d p missing el s₁.size) :
    run C (rowsAppend s₁ s₂) (l₁ + l₂)
        (Array.replicate (ceilPow2 (ceilPow2 p + d)) (zeroVec (l₁ + l₂))) (reconSched C d p missing el).toList =
      rowsAppend
        (run C s₁ l₁ (Array.replicate (ceilPow2 (ceilPow2 p + d)) (zeroVec l₁)) (reconSched C d p missing el).toList)
        (run C s₂ l₂ (Array.replicate (ceilPow2 (ceilPow2 p + d)) (zeroVec l₂)) (reconSched C d p missing el).toList) := by
  have h := run_zipWith C (rowHom2_append C l₁ l₂) (WF_replicate (ceilPow2 (ceilPow2 p + d)) l₁)
    (WF_replicate (ceilPow2 (ceilPow2 p + d)) l₂) hs₁ hs₂ (by simp) hss
    (steps := (reconSched C d p missing el).toList) (by rw [Array.size_replicate]; exact hr)
  rwa [Array.zipWith_replicate, (rowHom2_append C l₁ l₂).zero, Nat.min_self] at h

/-- for a FIXED erasure set and locator table the work area is additive in the shards -/
theorem C05_linear (hC : MulLinear C) {len : Nat} (d p : Nat) (missing : Nat → Bool) (el : Array Nat)
    {s₁ s₂ : Array Vec} (hs₁ : WF len s₁) (hs₂ : WF len s₂) (hss : s₁.size = s₂.size)
    (hr : SchedInRange C d p missing el s₁.size) :
    run C (xorRows s₁ s₂) len
        (Array.replicate (ceilPow2 (ceilPow2 p + d)) (zeroVec len)) (reconSched C d p missing el).toList =
      xorRows
        (run C s₁ len (Array.replicate (ceilPow2 (ceilPow2 p + d)) (zeroVec len)) (reconSched C d p missing el).toList)
        (run C s₂ len (Array.replicate (ceilPow2 (ceilPow2 p + d)) (zeroVec len)) (reconSched C d p missing el).toList) := by
  have h := run_zipWith C (rowHom2_xor C hC len) (WF_replicate (ceilPow2 (ceilPow2 p + d)) len)
    (WF_replicate (ceilPow2 (ceilPow2 p + d)) len) hs₁ hs₂ (by simp) hss
    (steps := (reconSched C d p missing el).toList) (by rw [Array.size_replicate]; exact hr)
  rwa [Array.zipWith_replicate, (rowHom2_xor C hC len).zero, Nat.min_self] at h

/-- all-zero shards reconstruct to an all-zero work area -/
theorem C05_zero (hC : MulLinear C) {len nsh : Nat} (d p : Nat) (missing : Nat → Bool) (el : Array Nat)
    (hr : SchedInRange C d p missing el nsh) :
    run C (zeroRows nsh len) len (Array.replicate (ceilPow2 (ceilPow2 p + d)) (zeroVec len))
        (reconSched C d p missing el).toList = zeroRows (ceilPow2 (ceilPow2 p + d)) len :=
  have _ := hC; run_zeroRows C hr

/-- if the schedule never reads a row before writing it, the rows it writes do not depend on the
zero-initialisation of the work area: any initial work area `w` with the same number of rows gives
the same content -/
theorem C05_scratch {len : Nat} (d p : Nat) (missing : Nat → Bool) (el : Array Nat) (shards : Array Vec)
    (hok : initOK (ceilPow2 (ceilPow2 p + d)) (reconSched C d p missing el).toList = true)
    (w : Array Vec) (hw : w.size = ceilPow2 (ceilPow2 p + d)) :
    ∀ i : Nat, (definedAfter (ceilPow2 (ceilPow2 p + d)) (reconSched C d p missing el).toList)[i]! = true →
      (run C shards len w (reconSched C d p missing el).toList)[i]! =
        (run C shards len (Array.replicate (ceilPow2 (ceilPow2 p + d)) (zeroVec len))
          (reconSched C d p missing el).toList)[i]! :=
  run_scratch C hok (by simp [hw])

/-- erasures {1, 4} of 3 + 2 shards; the instances below use `shapeCtx` (GF(2^8) parameters, empty tables: every
`mulAdd` is emitted) and an empty locator table, so that the kernel can evaluate the generator -/
def demoMissing : Nat → Bool := fun i => i == 1 || i == 4

set_option maxRecDepth 1000000 in
example : initOK (ceilPow2 (ceilPow2 2 + 3)) (reconSched shapeCtx 3 2 demoMissing #[]).toList = true := by
  decide +kernel
set_option maxRecDepth 1000000 in
example : definedAfter (ceilPow2 (ceilPow2 2 + 3)) (reconSched shapeCtx 3 2 demoMissing #[]).toList =
    Array.replicate 8 true := by decide +kernel
set_option maxRecDepth 1000000 in
example : allInRange (ceilPow2 (ceilPow2 2 + 3)) 5 (reconSched shapeCtx 3 2 demoMissing #[]).toList = true := by
  decide +kernel

theorem C05_size (d p len : Nat) (shards : Array Vec) (missing : Nat → Bool) (recoverAll : Bool) :
    (reconstruct C d p len shards missing recoverAll).size = d + p :=
  size_reconstruct C d p len shards missing recoverAll

/-- present shards are never overwritten: nothing is returned at an index that is not missing -/
theorem C05_present_untouched (d p len : Nat) (shards : Array Vec) (missing : Nat → Bool)
    (recoverAll : Bool) (i : Nat) (h : missing i = false) :
    (reconstruct C d p len shards missing recoverAll)[i]! = none :=
  reconstruct_present C d p len shards missing recoverAll i h

/-- with `recoverAll = false` no parity shard is returned -/
theorem C05_data_only (d p len : Nat) (shards : Array Vec) (missing : Nat → Bool) (i : Nat)
    (h : d ≤ i) : (reconstruct C d p len shards missing false)[i]! = none :=
  reconstruct_dataOnly C d p len shards missing i h

/-- the locator table depends only on `(d, p)` and the erasure set restricted to `[0, d + p)`:
caching it by erasure set is sound -/
theorem C05_errLocs_fn (d p : Nat) (missing missing' : Nat → Bool)
    (h : ∀ i, i < d + p → missing i = missing' i) :
    errLocs C d p missing = errLocs C d p missing' :=
  errLocs_congr C d p missing missing' h

/-- so does the whole schedule (for any locator table `el`) … -/
theorem C05_reconSched_fn (d p : Nat) (missing missing' : Nat → Bool) (el : Array Nat)
    (h : ∀ i, i < d + p → missing i = missing' i) :
    reconSched C d p missing el = reconSched C d p missing' el :=
  reconSched_congr C d p missing missing' el h

/-- … and the result of `reconstruct` -/
theorem C05_reconstruct_fn (d p len : Nat) (shards : Array Vec) (missing missing' : Nat → Bool)
    (recoverAll : Bool) (h : ∀ i, i < d + p → missing i = missing' i) :
    reconstruct C d p len shards missing recoverAll = reconstruct C d p len shards missing' recoverAll :=
  reconstruct_congr C d p len shards missing missing' recoverAll h

/-- symbol `k` of every reconstructed shard depends only on symbols `k` of the shards -/
theorem C05_reconstruct_local {len k : Nat} (hk : k < len) (d p : Nat) {shards : Array Vec}
    (missing : Nat → Bool) (recoverAll : Bool) (hs : WF len shards)
    (hp : p ≤ ceilPow2 p) (hn : ceilPow2 p + d ≤ ceilPow2 (ceilPow2 p + d))
    (hr : SchedInRange C d p missing (errLocs C d p missing) shards.size) :
    (reconstruct C d p len shards missing recoverAll).map (Option.map fun row => #[row[k]!]) =
      reconstruct C d p 1 (proj k shards) missing recoverAll :=
  reconstruct_map C (rowHom_proj C hk) d p missing recoverAll hs hp hn hr

/-- reconstructing the concatenation of two symbol ranges = concatenating the reconstructions -/
theorem C05_reconstruct_chunking {l₁ l₂ : Nat} (d p : Nat) {s₁ s₂ : Array Vec} (missing : Nat → Bool)
    (recoverAll : Bool) (hs₁ : WF l₁ s₁) (hs₂ : WF l₂ s₂) (hss : s₁.size = s₂.size)
    (hp : p ≤ ceilPow2 p) (hn : ceilPow2 p + d ≤ ceilPow2 (ceilPow2 p + d))
    (hr : SchedInRange C d p missing (errLocs C d p missing) s₁.size) :
    reconstruct C d p (l₁ + l₂) (rowsAppend s₁ s₂) missing recoverAll =
      Array.zipWith (optZip (· ++ ·)) (reconstruct C d p l₁ s₁ missing recoverAll)
        (reconstruct C d p l₂ s₂ missing recoverAll) :=
  reconstruct_zipWith C (rowHom2_append C l₁ l₂) d p missing recoverAll hs₁ hs₂ hss hp hn hr

/-- for a FIXED erasure set the reconstructed shards are additive in the shards -/
theorem C05_reconstruct_linear (hC : MulLinear C) {len : Nat} (d p : Nat) {s₁ s₂ : Array Vec}
    (missing : Nat → Bool) (recoverAll : Bool) (hs₁ : WF len s₁) (hs₂ : WF len s₂)
    (hss : s₁.size = s₂.size)
    (hp : p ≤ ceilPow2 p) (hn : ceilPow2 p + d ≤ ceilPow2 (ceilPow2 p + d))
    (hr : SchedInRange C d p missing (errLocs C d p missing) s₁.size) :
    reconstruct C d p len (xorRows s₁ s₂) missing recoverAll =
      Array.zipWith (optZip xorVec) (reconstruct C d p len s₁ missing recoverAll)
        (reconstruct C d p len s₂ missing recoverAll) :=
  reconstruct_zipWith C (rowHom2_xor C hC len) d p missing recoverAll hs₁ hs₂ hss hp hn hr

/-- the two `ceilPow2` side conditions hold below `2^64` -/
theorem C05_ceilPow2_side (d p : Nat) (h : ceilPow2 p + d ≤ 2 ^ 64) (hp : p ≤ 2 ^ 64) :
    p ≤ ceilPow2 p ∧ ceilPow2 p + d ≤ ceilPow2 (ceilPow2 p + d) :=
  ⟨le_ceilPow2 p hp, le_ceilPow2 _ h⟩

end RSV.Props.C05

#print axioms RSV.Props.C05.C05_wf
#print axioms RSV.Props.C05.C05_local
#print axioms RSV.Props.C05.C05_chunking
#print axioms RSV.Props.C05.C05_linear
#print axioms RSV.Props.C05.C05_zero
#print axioms RSV.Props.C05.C05_scratch
#print axioms RSV.Props.C05.C05_size
#print axioms RSV.Props.C05.C05_present_untouched
#print axioms RSV.Props.C05.C05_data_only
#print axioms RSV.Props.C05.C05_errLocs_fn
#print axioms RSV.Props.C05.C05_reconSched_fn
#print axioms RSV.Props.C05.C05_reconstruct_fn
#print axioms RSV.Props.C05.C05_reconstruct_local
#print axioms RSV.Props.C05.C05_reconstruct_chunking
#print axioms RSV.Props.C05.C05_reconstruct_linear
#print axioms RSV.Props.C05.C05_ceilPow2_side
