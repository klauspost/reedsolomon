import RSV.Proofs.AsmSound
import RSV.Proofs.AsmContract
/-!
# C08 (assembly tie) — a reflective checker for the generated amd64 matrix kernels (600 + 400 nopshufb), with soundness

`RSV.Asm.checkKernel` (core Lean, executable, `RSV/Model/AsmCheck.lean`) symbolically executes one
generated kernel of `galois_gen_amd64.s` / `galois_gen_nopshufb_amd64.s` given as an instruction list in the AST of
`RSV/Model/Asm.lean`, which also defines the concrete byte-level machine semantics `exec`.

Proved here (`C08_asm_sound`): if the checker accepts `prog` for `(family, xor, I, O)`, then on
*every* environment satisfying the calling-convention contract (`Contract`: expanded matrix as
`genCodeGenMatrix`/`genGFNIMatrix` lay it out for coefficient rows `A`, slices of length
`≥ start + n`, `start + n < 2^64`, memory holds bytes) the concrete execution reaches `RET` without
a fault (every load/store inside its region) within `prog.length · (n / B + 1)` steps and

* every byte `start ≤ k < start + (n / B)·B` of every output `i < O` is
  `(old byte if xor) ⊕ ⨁_j gmul (A i j) (in_j[k])`,
* every other byte of memory (outputs outside that range, inputs, matrix) is unchanged.

The contract is satisfiable for every shape (`C08_asm_contract_sat`).  That the canonical text
handed to `checkLine` denotes the instructions of the assembly file is the (unverified) job of
the parser `parseKernel` and of the extractor `vlib/asm.py`; the run-time check feeds all 600 + 400
lines through `checkLine`.  Non-vacuity: three real kernel lines are accepted *inside the kernel
of Lean* (`decide +kernel`), and the first one with one pointer increment removed is rejected.
-/
namespace RSV.Props.C08asm
open RSV.Asm RSV.Model.Kernels

/-- field-level meaning of a kernel call: byte `k` of output `i` afterwards -/
def kernelSpec (xor : Bool) (I : Nat) (A : Nat → Nat → Nat) (m0 : Region → Nat → Nat) (i k : Nat) : Nat :=
  (if xor then m0 (.out i) k else 0) ^^^ xorl ((List.range I).map fun j => gmul (A i j) (m0 (.inp j) k))

theorem spec_eq (c : Ctx) (i k : Nat) : c.spec i k = kernelSpec c.cfg.xor c.cfg.I c.A c.m0 i k := by
  unfold Ctx.spec kernelSpec
  rw [xorl_append]
  cases c.cfg.xor <;> simp [xorl]

/-- C08, soundness of the assembly checker: an accepted kernel, started at `pc = 0` on an environment meeting
`Contract`, reaches `RET` without a fault within the stated fuel; outputs `i < O` hold `kernelSpec` on
`[start, start + count)`, all other memory is unchanged -/
theorem C08_asm_sound (prog : Program) (fam : Family) (xor : Bool) (I O : Nat)
    (hchk : checkKernel prog fam xor I O = true)
    (env : Env) (m0 : Region → Nat → Nat) (A : Nat → Nat → Nat)
    (hc : Contract ⟨⟨fam, xor, I, O⟩, env, m0, A⟩)
    (s0 : State) (hpc : s0.pc = 0) (hmem : s0.mem = m0) :
    ∃ sf,
      (∀ fuel, prog.length * (env.n / gran fam O + 1) ≤ fuel → exec env prog fuel s0 = some sf) ∧
      (∀ i k, i < O → env.start ≤ k → k < env.start + count fam O env.n →
        sf.mem (.out i) k = kernelSpec xor I A m0 i k) ∧
      (∀ i k, ¬ (i < O ∧ env.start ≤ k ∧ k < env.start + count fam O env.n) →
        sf.mem (.out i) k = m0 (.out i) k) ∧
      (∀ r k, (∀ i, r ≠ .out i) → sf.mem r k = m0 r k) := by
  let c : Ctx := ⟨⟨fam, xor, I, O⟩, env, m0, A⟩
  obtain ⟨sh, σ1, σ0, H, σb, hprog, hk⟩ := checkKernel_unpack (c := c) hchk
  obtain ⟨sf, hex, hmemf⟩ := checked_sound (c := c) hc hk s0 hpc hmem
  have hdone : ∀ i k, c.rows.Done c.cnt [] i k ↔ (i < O ∧ env.start ≤ k ∧ k < env.start + count fam O env.n) := by
    intro i k
    rw [c.rows.done_final]
    show _ ∧ _ ∧ k < env.start + gran fam O * (env.n / gran fam O) ↔ _
    rw [Nat.mul_comm]; rfl
  refine ⟨sf, hprog ▸ hex, fun i k hi h1 h2 => ?_, fun i k hn => ?_, fun r k hr => hmemf.1 r k fun i _ => hr i⟩
  · exact (hmemf.2.1 i k trivial ((hdone i k).mpr ⟨hi, h1, h2⟩)).trans (spec_eq c i k)
  · exact hmemf.2.2 i k trivial (fun hd => hn ((hdone i k).mp hd))

/-- the contract of `C08_asm_sound` can be met for every shape, coefficient rows, range and slice
contents (bytes and coefficients are reduced modulo 256) -/
theorem C08_asm_contract_sat (fam : Family) (xor : Bool) (I O : Nat) (A : Nat → Nat → Nat) (start n : Nat)
    (inp old : Nat → Nat → Nat) (h : start + n < M64) :
    Contract (mkCtx ⟨fam, xor, I, O⟩ A start n inp old) := mkCtx_contract _ A start n inp old h

/-- an accepted line denotes (by `Parse.header?` / `Parse.body?`) a kernel the checker accepts, and its
name is the Go symbol of that family and shape -/
theorem C08_asm_line (l : List Char) (h : checkChars l = true) :
    ∃ hd bd name fam xor I O prog, Parse.splitOn '|' l = [hd, bd] ∧ Parse.header? hd = some (name, fam, xor, I, O) ∧
      Parse.body? bd = some prog ∧ name = Parse.kernelName fam xor I O ∧ checkKernel prog fam xor I O = true := by
  unfold checkChars at h
  split at h
  · rename_i hd bd hsplit
    split at h
    · rename_i name fam xor I O prog hh hb
      simp only [Bool.and_eq_true, decide_eq_true_eq] at h
      exact ⟨hd, bd, name, fam, xor, I, O, prog, hsplit, hh, hb, h.1, h.2⟩
    · exact absurd h (by simp)
  · exact absurd h (by simp)

theorem checkLine_ok_iff (s : String) :
    checkLine s = "ok" ↔ checkChars s.toList = true ∨ RSV.Asm.Leo.checkChars s.toList = true := by
  unfold checkLine checkLineB
  constructor
  · intro h
    by_cases hb : checkChars s.toList = true
    · exact Or.inl hb
    · by_cases hb2 : RSV.Asm.Leo.checkChars s.toList = true
      · exact Or.inr hb2
      · rw [if_neg hb, if_neg hb2] at h
        have := congrArg String.length h
        rw [String.length_append] at this
        have h5 : "fail ".length = 5 := by decide
        have h2 : "ok".length = 2 := by decide
        omega
  · rintro (h | h)
    · rw [if_pos h]
    · by_cases hb : checkChars s.toList = true
      · rw [if_pos hb]
      · rw [if_neg hb, if_pos h]

/-! ## non-vacuity: real kernel lines, checked by the kernel of Lean

Each line is given twice: as the `String` that `checkLine` takes, and as a `List Char`.  The kernel of Lean cannot
evaluate `String.toList` on a literal of this length in reasonable time, so `k*_chars` bridges by
`String.ofList` (one `rfl` that unfolds the literal, hence the recursion depth) and the checker is evaluated on
the list. -/

def kGfni : String :=
  "mulGFNI_1x1_64 gfni 0 1 1 | MOVQ n+80(FP), AX ; MOVQ matrix_base+0(FP), CX ; SHRQ $0x06, AX ; TESTQ AX, AX ; JZ mulGFNI_1x1_64_end ; VBROADCASTF32X2 (CX), Z0 ; MOVQ in_base+24(FP), CX ; MOVQ (CX), CX ; MOVQ out_base+48(FP), DX ; MOVQ out_base+48(FP), DX ; MOVQ (DX), DX ; MOVQ start+72(FP), BX ; ADDQ BX, DX ; ADDQ BX, CX ; mulGFNI_1x1_64_loop: ; VMOVDQU64 (CX), Z1 ; ADDQ $0x40, CX ; VGF2P8AFFINEQB $0x00, Z0, Z1, Z1 ; VMOVDQU64 Z1, (DX) ; ADDQ $0x40, DX ; DECQ AX ; JNZ mulGFNI_1x1_64_loop ; VZEROUPPER ; mulGFNI_1x1_64_end: ; RET"

def kGfniChars : List Char := [
  'm','u','l','G','F','N','I','_','1','x','1','_','6','4',' ','g','f','n','i',' ','0',' ','1',' ',
  '1',' ','|',' ','M','O','V','Q',' ','n','+','8','0','(','F','P',')',',',' ','A','X',' ',';',' ',
  'M','O','V','Q',' ','m','a','t','r','i','x','_','b','a','s','e','+','0','(','F','P',')',',',' ',
  'C','X',' ',';',' ','S','H','R','Q',' ','$','0','x','0','6',',',' ','A','X',' ',';',' ','T','E',
  'S','T','Q',' ','A','X',',',' ','A','X',' ',';',' ','J','Z',' ','m','u','l','G','F','N','I','_',
  '1','x','1','_','6','4','_','e','n','d',' ',';',' ','V','B','R','O','A','D','C','A','S','T','F',
  '3','2','X','2',' ','(','C','X',')',',',' ','Z','0',' ',';',' ','M','O','V','Q',' ','i','n','_',
  'b','a','s','e','+','2','4','(','F','P',')',',',' ','C','X',' ',';',' ','M','O','V','Q',' ','(',
  'C','X',')',',',' ','C','X',' ',';',' ','M','O','V','Q',' ','o','u','t','_','b','a','s','e','+',
  '4','8','(','F','P',')',',',' ','D','X',' ',';',' ','M','O','V','Q',' ','o','u','t','_','b','a',
  's','e','+','4','8','(','F','P',')',',',' ','D','X',' ',';',' ','M','O','V','Q',' ','(','D','X',
  ')',',',' ','D','X',' ',';',' ','M','O','V','Q',' ','s','t','a','r','t','+','7','2','(','F','P',
  ')',',',' ','B','X',' ',';',' ','A','D','D','Q',' ','B','X',',',' ','D','X',' ',';',' ','A','D',
  'D','Q',' ','B','X',',',' ','C','X',' ',';',' ','m','u','l','G','F','N','I','_','1','x','1','_',
  '6','4','_','l','o','o','p',':',' ',';',' ','V','M','O','V','D','Q','U','6','4',' ','(','C','X',
  ')',',',' ','Z','1',' ',';',' ','A','D','D','Q',' ','$','0','x','4','0',',',' ','C','X',' ',';',
  ' ','V','G','F','2','P','8','A','F','F','I','N','E','Q','B',' ','$','0','x','0','0',',',' ','Z',
  '0',',',' ','Z','1',',',' ','Z','1',' ',';',' ','V','M','O','V','D','Q','U','6','4',' ','Z','1',
  ',',' ','(','D','X',')',' ',';',' ','A','D','D','Q',' ','$','0','x','4','0',',',' ','D','X',' ',
  ';',' ','D','E','C','Q',' ','A','X',' ',';',' ','J','N','Z',' ','m','u','l','G','F','N','I','_',
  '1','x','1','_','6','4','_','l','o','o','p',' ',';',' ','V','Z','E','R','O','U','P','P','E','R',
  ' ',';',' ','m','u','l','G','F','N','I','_','1','x','1','_','6','4','_','e','n','d',':',' ',';',
  ' ','R','E','T']

set_option maxRecDepth 100000 in
theorem kGfni_chars : kGfni.toList = kGfniChars := by
  have h : kGfni = String.ofList kGfniChars := by rfl
  rw [h, String.toList_ofList]

def kAvx2 : String :=
  "mulAvxTwo_1x1_64 avx2 0 1 1 | MOVQ n+80(FP), AX ; MOVQ matrix_base+0(FP), CX ; SHRQ $0x06, AX ; TESTQ AX, AX ; JZ mulAvxTwo_1x1_64_end ; VMOVDQU (CX), Y0 ; VMOVDQU 32(CX), Y1 ; MOVQ in_base+24(FP), CX ; MOVQ (CX), CX ; MOVQ out_base+48(FP), DX ; MOVQ (DX), DX ; MOVQ start+72(FP), BX ; ADDQ BX, DX ; ADDQ BX, CX ; MOVQ $0x0000000f, BX ; MOVQ BX, X4 ; VPBROADCASTB X4, Y4 ; mulAvxTwo_1x1_64_loop: ; VMOVDQU (CX), Y2 ; VMOVDQU 32(CX), Y3 ; ADDQ $0x40, CX ; VPSRLQ $0x04, Y2, Y6 ; VPSRLQ $0x04, Y3, Y5 ; VPAND Y4, Y2, Y2 ; VPAND Y4, Y3, Y3 ; VPAND Y4, Y6, Y6 ; VPAND Y4, Y5, Y5 ; VPSHUFB Y2, Y0, Y2 ; VPSHUFB Y3, Y0, Y3 ; VPSHUFB Y6, Y1, Y6 ; VPSHUFB Y5, Y1, Y5 ; VPXOR Y2, Y6, Y2 ; VPXOR Y3, Y5, Y3 ; VMOVDQU Y2, (DX) ; VMOVDQU Y3, 32(DX) ; ADDQ $0x40, DX ; DECQ AX ; JNZ mulAvxTwo_1x1_64_loop ; VZEROUPPER ; mulAvxTwo_1x1_64_end: ; RET"

def kAvx2Chars : List Char := [
  'm','u','l','A','v','x','T','w','o','_','1','x','1','_','6','4',' ','a','v','x','2',' ','0',' ',
  '1',' ','1',' ','|',' ','M','O','V','Q',' ','n','+','8','0','(','F','P',')',',',' ','A','X',' ',
  ';',' ','M','O','V','Q',' ','m','a','t','r','i','x','_','b','a','s','e','+','0','(','F','P',')',
  ',',' ','C','X',' ',';',' ','S','H','R','Q',' ','$','0','x','0','6',',',' ','A','X',' ',';',' ',
  'T','E','S','T','Q',' ','A','X',',',' ','A','X',' ',';',' ','J','Z',' ','m','u','l','A','v','x',
  'T','w','o','_','1','x','1','_','6','4','_','e','n','d',' ',';',' ','V','M','O','V','D','Q','U',
  ' ','(','C','X',')',',',' ','Y','0',' ',';',' ','V','M','O','V','D','Q','U',' ','3','2','(','C',
  'X',')',',',' ','Y','1',' ',';',' ','M','O','V','Q',' ','i','n','_','b','a','s','e','+','2','4',
  '(','F','P',')',',',' ','C','X',' ',';',' ','M','O','V','Q',' ','(','C','X',')',',',' ','C','X',
  ' ',';',' ','M','O','V','Q',' ','o','u','t','_','b','a','s','e','+','4','8','(','F','P',')',',',
  ' ','D','X',' ',';',' ','M','O','V','Q',' ','(','D','X',')',',',' ','D','X',' ',';',' ','M','O',
  'V','Q',' ','s','t','a','r','t','+','7','2','(','F','P',')',',',' ','B','X',' ',';',' ','A','D',
  'D','Q',' ','B','X',',',' ','D','X',' ',';',' ','A','D','D','Q',' ','B','X',',',' ','C','X',' ',
  ';',' ','M','O','V','Q',' ','$','0','x','0','0','0','0','0','0','0','f',',',' ','B','X',' ',';',
  ' ','M','O','V','Q',' ','B','X',',',' ','X','4',' ',';',' ','V','P','B','R','O','A','D','C','A',
  'S','T','B',' ','X','4',',',' ','Y','4',' ',';',' ','m','u','l','A','v','x','T','w','o','_','1',
  'x','1','_','6','4','_','l','o','o','p',':',' ',';',' ','V','M','O','V','D','Q','U',' ','(','C',
  'X',')',',',' ','Y','2',' ',';',' ','V','M','O','V','D','Q','U',' ','3','2','(','C','X',')',',',
  ' ','Y','3',' ',';',' ','A','D','D','Q',' ','$','0','x','4','0',',',' ','C','X',' ',';',' ','V',
  'P','S','R','L','Q',' ','$','0','x','0','4',',',' ','Y','2',',',' ','Y','6',' ',';',' ','V','P',
  'S','R','L','Q',' ','$','0','x','0','4',',',' ','Y','3',',',' ','Y','5',' ',';',' ','V','P','A',
  'N','D',' ','Y','4',',',' ','Y','2',',',' ','Y','2',' ',';',' ','V','P','A','N','D',' ','Y','4',
  ',',' ','Y','3',',',' ','Y','3',' ',';',' ','V','P','A','N','D',' ','Y','4',',',' ','Y','6',',',
  ' ','Y','6',' ',';',' ','V','P','A','N','D',' ','Y','4',',',' ','Y','5',',',' ','Y','5',' ',';',
  ' ','V','P','S','H','U','F','B',' ','Y','2',',',' ','Y','0',',',' ','Y','2',' ',';',' ','V','P',
  'S','H','U','F','B',' ','Y','3',',',' ','Y','0',',',' ','Y','3',' ',';',' ','V','P','S','H','U',
  'F','B',' ','Y','6',',',' ','Y','1',',',' ','Y','6',' ',';',' ','V','P','S','H','U','F','B',' ',
  'Y','5',',',' ','Y','1',',',' ','Y','5',' ',';',' ','V','P','X','O','R',' ','Y','2',',',' ','Y',
  '6',',',' ','Y','2',' ',';',' ','V','P','X','O','R',' ','Y','3',',',' ','Y','5',',',' ','Y','3',
  ' ',';',' ','V','M','O','V','D','Q','U',' ','Y','2',',',' ','(','D','X',')',' ',';',' ','V','M',
  'O','V','D','Q','U',' ','Y','3',',',' ','3','2','(','D','X',')',' ',';',' ','A','D','D','Q',' ',
  '$','0','x','4','0',',',' ','D','X',' ',';',' ','D','E','C','Q',' ','A','X',' ',';',' ','J','N',
  'Z',' ','m','u','l','A','v','x','T','w','o','_','1','x','1','_','6','4','_','l','o','o','p',' ',
  ';',' ','V','Z','E','R','O','U','P','P','E','R',' ',';',' ','m','u','l','A','v','x','T','w','o',
  '_','1','x','1','_','6','4','_','e','n','d',':',' ',';',' ','R','E','T']

set_option maxRecDepth 100000 in
theorem kAvx2_chars : kAvx2.toList = kAvx2Chars := by
  have h : kAvx2 = String.ofList kAvx2Chars := by rfl
  rw [h, String.toList_ofList]

def kAvxGfni : String :=
  "mulAvxGFNI_1x1Xor avxgfni 1 1 1 | MOVQ n+80(FP), AX ; MOVQ matrix_base+0(FP), CX ; SHRQ $0x05, AX ; TESTQ AX, AX ; JZ mulAvxGFNI_1x1Xor_end ; VBROADCASTSD (CX), Y0 ; MOVQ in_base+24(FP), CX ; MOVQ (CX), CX ; MOVQ out_base+48(FP), DX ; MOVQ out_base+48(FP), DX ; MOVQ (DX), DX ; MOVQ start+72(FP), BX ; ADDQ BX, DX ; ADDQ BX, CX ; mulAvxGFNI_1x1Xor_loop: ; VMOVDQU (DX), Y1 ; VMOVDQU (CX), Y2 ; ADDQ $0x20, CX ; VGF2P8AFFINEQB $0x00, Y0, Y2, Y2 ; VXORPD Y1, Y2, Y1 ; VMOVDQU Y1, (DX) ; ADDQ $0x20, DX ; DECQ AX ; JNZ mulAvxGFNI_1x1Xor_loop ; VZEROUPPER ; mulAvxGFNI_1x1Xor_end: ; RET"

def kAvxGfniChars : List Char := [
  'm','u','l','A','v','x','G','F','N','I','_','1','x','1','X','o','r',' ','a','v','x','g','f','n',
  'i',' ','1',' ','1',' ','1',' ','|',' ','M','O','V','Q',' ','n','+','8','0','(','F','P',')',',',
  ' ','A','X',' ',';',' ','M','O','V','Q',' ','m','a','t','r','i','x','_','b','a','s','e','+','0',
  '(','F','P',')',',',' ','C','X',' ',';',' ','S','H','R','Q',' ','$','0','x','0','5',',',' ','A',
  'X',' ',';',' ','T','E','S','T','Q',' ','A','X',',',' ','A','X',' ',';',' ','J','Z',' ','m','u',
  'l','A','v','x','G','F','N','I','_','1','x','1','X','o','r','_','e','n','d',' ',';',' ','V','B',
  'R','O','A','D','C','A','S','T','S','D',' ','(','C','X',')',',',' ','Y','0',' ',';',' ','M','O',
  'V','Q',' ','i','n','_','b','a','s','e','+','2','4','(','F','P',')',',',' ','C','X',' ',';',' ',
  'M','O','V','Q',' ','(','C','X',')',',',' ','C','X',' ',';',' ','M','O','V','Q',' ','o','u','t',
  '_','b','a','s','e','+','4','8','(','F','P',')',',',' ','D','X',' ',';',' ','M','O','V','Q',' ',
  'o','u','t','_','b','a','s','e','+','4','8','(','F','P',')',',',' ','D','X',' ',';',' ','M','O',
  'V','Q',' ','(','D','X',')',',',' ','D','X',' ',';',' ','M','O','V','Q',' ','s','t','a','r','t',
  '+','7','2','(','F','P',')',',',' ','B','X',' ',';',' ','A','D','D','Q',' ','B','X',',',' ','D',
  'X',' ',';',' ','A','D','D','Q',' ','B','X',',',' ','C','X',' ',';',' ','m','u','l','A','v','x',
  'G','F','N','I','_','1','x','1','X','o','r','_','l','o','o','p',':',' ',';',' ','V','M','O','V',
  'D','Q','U',' ','(','D','X',')',',',' ','Y','1',' ',';',' ','V','M','O','V','D','Q','U',' ','(',
  'C','X',')',',',' ','Y','2',' ',';',' ','A','D','D','Q',' ','$','0','x','2','0',',',' ','C','X',
  ' ',';',' ','V','G','F','2','P','8','A','F','F','I','N','E','Q','B',' ','$','0','x','0','0',',',
  ' ','Y','0',',',' ','Y','2',',',' ','Y','2',' ',';',' ','V','X','O','R','P','D',' ','Y','1',',',
  ' ','Y','2',',',' ','Y','1',' ',';',' ','V','M','O','V','D','Q','U',' ','Y','1',',',' ','(','D',
  'X',')',' ',';',' ','A','D','D','Q',' ','$','0','x','2','0',',',' ','D','X',' ',';',' ','D','E',
  'C','Q',' ','A','X',' ',';',' ','J','N','Z',' ','m','u','l','A','v','x','G','F','N','I','_','1',
  'x','1','X','o','r','_','l','o','o','p',' ',';',' ','V','Z','E','R','O','U','P','P','E','R',' ',
  ';',' ','m','u','l','A','v','x','G','F','N','I','_','1','x','1','X','o','r','_','e','n','d',':',
  ' ',';',' ','R','E','T']

set_option maxRecDepth 100000 in
theorem kAvxGfni_chars : kAvxGfni.toList = kAvxGfniChars := by
  have h : kAvxGfni = String.ofList kAvxGfniChars := by rfl
  rw [h, String.toList_ofList]

def kMut : String :=
  "mulGFNI_1x1_64 gfni 0 1 1 | MOVQ n+80(FP), AX ; MOVQ matrix_base+0(FP), CX ; SHRQ $0x06, AX ; TESTQ AX, AX ; JZ mulGFNI_1x1_64_end ; VBROADCASTF32X2 (CX), Z0 ; MOVQ in_base+24(FP), CX ; MOVQ (CX), CX ; MOVQ out_base+48(FP), DX ; MOVQ out_base+48(FP), DX ; MOVQ (DX), DX ; MOVQ start+72(FP), BX ; ADDQ BX, DX ; ADDQ BX, CX ; mulGFNI_1x1_64_loop: ; VMOVDQU64 (CX), Z1 ; VGF2P8AFFINEQB $0x00, Z0, Z1, Z1 ; VMOVDQU64 Z1, (DX) ; ADDQ $0x40, DX ; DECQ AX ; JNZ mulGFNI_1x1_64_loop ; VZEROUPPER ; mulGFNI_1x1_64_end: ; RET"

def kMutChars : List Char := [
  'm','u','l','G','F','N','I','_','1','x','1','_','6','4',' ','g','f','n','i',' ','0',' ','1',' ',
  '1',' ','|',' ','M','O','V','Q',' ','n','+','8','0','(','F','P',')',',',' ','A','X',' ',';',' ',
  'M','O','V','Q',' ','m','a','t','r','i','x','_','b','a','s','e','+','0','(','F','P',')',',',' ',
  'C','X',' ',';',' ','S','H','R','Q',' ','$','0','x','0','6',',',' ','A','X',' ',';',' ','T','E',
  'S','T','Q',' ','A','X',',',' ','A','X',' ',';',' ','J','Z',' ','m','u','l','G','F','N','I','_',
  '1','x','1','_','6','4','_','e','n','d',' ',';',' ','V','B','R','O','A','D','C','A','S','T','F',
  '3','2','X','2',' ','(','C','X',')',',',' ','Z','0',' ',';',' ','M','O','V','Q',' ','i','n','_',
  'b','a','s','e','+','2','4','(','F','P',')',',',' ','C','X',' ',';',' ','M','O','V','Q',' ','(',
  'C','X',')',',',' ','C','X',' ',';',' ','M','O','V','Q',' ','o','u','t','_','b','a','s','e','+',
  '4','8','(','F','P',')',',',' ','D','X',' ',';',' ','M','O','V','Q',' ','o','u','t','_','b','a',
  's','e','+','4','8','(','F','P',')',',',' ','D','X',' ',';',' ','M','O','V','Q',' ','(','D','X',
  ')',',',' ','D','X',' ',';',' ','M','O','V','Q',' ','s','t','a','r','t','+','7','2','(','F','P',
  ')',',',' ','B','X',' ',';',' ','A','D','D','Q',' ','B','X',',',' ','D','X',' ',';',' ','A','D',
  'D','Q',' ','B','X',',',' ','C','X',' ',';',' ','m','u','l','G','F','N','I','_','1','x','1','_',
  '6','4','_','l','o','o','p',':',' ',';',' ','V','M','O','V','D','Q','U','6','4',' ','(','C','X',
  ')',',',' ','Z','1',' ',';',' ','V','G','F','2','P','8','A','F','F','I','N','E','Q','B',' ','$',
  '0','x','0','0',',',' ','Z','0',',',' ','Z','1',',',' ','Z','1',' ',';',' ','V','M','O','V','D',
  'Q','U','6','4',' ','Z','1',',',' ','(','D','X',')',' ',';',' ','A','D','D','Q',' ','$','0','x',
  '4','0',',',' ','D','X',' ',';',' ','D','E','C','Q',' ','A','X',' ',';',' ','J','N','Z',' ','m',
  'u','l','G','F','N','I','_','1','x','1','_','6','4','_','l','o','o','p',' ',';',' ','V','Z','E',
  'R','O','U','P','P','E','R',' ',';',' ','m','u','l','G','F','N','I','_','1','x','1','_','6','4',
  '_','e','n','d',':',' ',';',' ','R','E','T']

set_option maxRecDepth 100000 in
theorem kMut_chars : kMut.toList = kMutChars := by
  have h : kMut = String.ofList kMutChars := by rfl
  rw [h, String.toList_ofList]

/-- `mulGFNI_1x1_64`, `mulAvxTwo_1x1_64` and `mulAvxGFNI_1x1Xor` (verbatim from `galois_gen_amd64.s` in the
canonical one-line form) are accepted -/
theorem C08_asm_nonvacuous : checkLine kGfni = "ok" ∧ checkLine kAvx2 = "ok" ∧ checkLine kAvxGfni = "ok" := by
  rw [checkLine_ok_iff, checkLine_ok_iff, checkLine_ok_iff, kGfni_chars, kAvx2_chars, kAvxGfni_chars]
  refine ⟨Or.inl ?_, Or.inl ?_, Or.inl ?_⟩ <;> decide +kernel

/-- `mulGFNI_1x1_64` without the `ADDQ $0x40, CX` that advances the input pointer is rejected -/
theorem C08_asm_negative : checkLine kMut ≠ "ok" := by
  rw [ne_eq, checkLine_ok_iff, kMut_chars]
  have h1 : checkChars kMutChars = false := by decide +kernel
  have h2 : RSV.Asm.Leo.checkChars kMutChars = false := by decide +kernel
  rw [h1, h2]
  simp

end RSV.Props.C08asm
