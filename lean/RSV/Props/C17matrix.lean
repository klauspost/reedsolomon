import RSV.Proofs.GenMatrix
/-!
# C17 (matrix code) — the generator-matrix builders, regenerated from the Go source, build the model's matrices

`RSV.Gen.MatrixGo` is regenerated on every run from `matrix.go` / `reedsolomon.go` by the imperative mode of
the Go-subset → Lean translator (slices as arrays, loops as `forIn`, panics as `none`, `error` as
`Option String`).  For all shapes (positive, below the `int` wrap-around) the regenerated loops return exactly the matrices of
`RSV.Model.Builders` (`rowsOfMat` lists the entries of a model matrix as bytes), i.e. the matrices the
MDS / encoding theorems are about.  `xByte i` is `byte(i)` as a field element.
(`buildMatrix` — Vandermonde times the inverse of its top square — and `matrix.Invert`: see `RSV.Props.C17buildMatrix`,
`RSV.Props.C17invert`; the executable `RSV.Model.genBuildMatrixAgrees` / `genInvertAgrees` run them next to the model.)
-/
namespace RSV.Props.C17matrix
open RSV.Model

/-- `newMatrix(n, w)` is the `n × w` zero matrix -/
theorem C17m_newMatrix (n w : Nat) (hn : 0 < n) (hw : 0 < w) :
    Gen.newMatrix (n : Int) (w : Int) = some (Array.replicate n (Array.replicate w 0), none) := by
  rw [GenMatrix.newMatrix_eq n w hn hw, GenMatrix.replicate_eq_mk, GenMatrix.replicate_eq_mkRow]
  rfl

/-- `vandermonde(rows, cols)[r][c] = byte(r)^c`, every shape (`rows < 2^63`, `cols < 2^55`) -/
theorem C17m_vandermonde (rows cols : Nat) (hr : 0 < rows) (hc : 0 < cols) (hr63 : rows < 2 ^ 63)
    (hc55 : cols < 2 ^ 55) :
    Gen.vandermonde (rows : Int) (cols : Int) = some (rowsOfMat (Model.vandermonde xByte rows cols), none) :=
  GenMatrix.vandermonde_eq rows cols hr hc hc55

/-- `buildMatrixCauchy(d, total)` is the model's Cauchy generator, every shape -/
theorem C17m_buildMatrixCauchy (d total : Nat) (hd : 0 < d) (ht : 0 < total) (hd63 : d < 2 ^ 63)
    (ht63 : total < 2 ^ 63) :
    Gen.buildMatrixCauchy (d : Int) (total : Int) = some (rowsOfMat (Model.buildMatrixCauchy xByte d total), none) :=
  GenMatrix.buildMatrixCauchy_eq d total hd ht ht63

/-- `buildMatrixPAR1(d, total)` is the model's PAR1 generator, every shape below `2^55` -/
theorem C17m_buildMatrixPAR1 (d total : Nat) (hd : 0 < d) (ht : 0 < total) (hd55 : d < 2 ^ 55)
    (ht55 : total < 2 ^ 55) :
    Gen.buildMatrixPAR1 (d : Int) (total : Int) = some (rowsOfMat (Model.buildMatrixPAR1 xByte d total), none) :=
  GenMatrix.buildMatrixPAR1_eq d total hd ht hd55 ht55

/-- `buildXorMatrix(d, d+1)` is the model's single-parity generator -/
theorem C17m_buildXorMatrix (d : Nat) (hd : 0 < d) (hd63 : d < 2 ^ 63 - 1) :
    Gen.buildXorMatrix (d : Int) ((d + 1 : Nat) : Int) =
      some (rowsOfMat (Model.buildXorMatrix (F := GF256) d (d + 1)), none) :=
  GenMatrix.buildXorMatrix_eq d hd hd63

/-! non-vacuity -/
example : Gen.buildMatrixCauchy 3 5 = some (rowsOfMat (Model.buildMatrixCauchy xByte 3 5), none) :=
  C17m_buildMatrixCauchy 3 5 (by decide) (by decide) (by decide) (by decide)
example : Gen.buildMatrixCauchy 3 5 =
    some (#[#[1, 0, 0], #[0, 1, 0], #[0, 0, 1], #[244, 142, 1], #[71, 167, 122]], none) := by decide +kernel
example : Gen.vandermonde 4 3 = some (rowsOfMat (Model.vandermonde xByte 4 3), none) :=
  C17m_vandermonde 4 3 (by decide) (by decide) (by decide) (by decide)

end RSV.Props.C17matrix

#print axioms RSV.Props.C17matrix.C17m_newMatrix
#print axioms RSV.Props.C17matrix.C17m_vandermonde
#print axioms RSV.Props.C17matrix.C17m_buildMatrixCauchy
#print axioms RSV.Props.C17matrix.C17m_buildMatrixPAR1
#print axioms RSV.Props.C17matrix.C17m_buildXorMatrix
