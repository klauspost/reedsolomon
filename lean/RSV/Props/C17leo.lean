import RSV.Proofs.LeoField
import RSV.Gen.Facts
/-!
# C17 (Leopard part) — Leopard's GF(2^8) run-time tables equal the field they tabulate

Leopard (`leopard8.go`) represents a field element by an index `i` whose bits select elements of the
Cantor basis; `cm i` is that element in the polynomial basis, an element of GF(2^8) modulo 0x11D
(`gmul`, `gpow` of `RSV.Spec.GF256`).  `T8 = initLUTs P8` are the model's `log` / `exp` tables
(characterised structurally, `RSV/Proofs/LeoPres.lean`; no table is evaluated), `C8 = mkCtx P8` the context.

`exp[log[i]] = i` holds for `i ≠ 0` only: `log[0] = 255` and `exp[255] = exp[0] = 1`
(`C17leo_exp_log_zero`).
-/
namespace RSV.Props.C17leo
open RSV.Model RSV.Proofs.LeoField

/-- the literals regenerated from the Go source are the published constants of the model -/
theorem C17leo_constants :
    Gen.cantorBasis8 = Leo.P8.cantor.toList ∧ Gen.polynomial8 = Leo.P8.poly ∧ Gen.bitwidth8 = 8 ∧
    Gen.order8 = 256 ∧ Gen.modulus8 = 255 ∧ Gen.cantorBasis16 = Leo.P16.cantor.toList ∧
    Gen.polynomial16 = Leo.P16.poly := by decide

/-- the model's derived parameters are the Go constants, and the polynomial is the one of the
specification -/
theorem C17leo_params :
    Leo.P8.bits = Gen.bitwidth8 ∧ Leo.P8.order = Gen.order8 ∧ Leo.P8.modulus = Gen.modulus8 ∧
    Leo.P8.poly = poly8 ∧ Leo.P16.bits = Gen.bitwidth16 ∧ Leo.P16.order = Gen.order16 ∧
    Leo.P16.modulus = Gen.modulus16 := by decide

/-- the 8 Cantor literals are a basis: the Cantor map is an xor-linear bijection of `[0,256)` -/
theorem C17leo_cantor_basis :
    (∀ i j, i < 256 → j < 256 → cm i = cm j → i = j) ∧
    (∀ i, cm i < 256) ∧
    (∀ i j, cm (i ^^^ j) = cm i ^^^ cm j) ∧
    cm 0 = 0 ∧ cm 1 = 1 ∧
    (∀ y, y < 256 → ∃ i, i < 256 ∧ cm i = y) :=
  ⟨fun _ _ hi hj h => pres8.cantor.cm_inj hi hj h, pres8.cantor.cm_lt, cantorMap_xor Leo.P8, cantorMap_zero Leo.P8,
   cm_one, fun y hy => ⟨_, pres8.cantor.cmi_lt y, pres8.cantor.cm_cmi hy⟩⟩

/-- `log` is the discrete logarithm to base `x` (= 2) of the Cantor image -/
theorem C17leo_log :
    (∀ i, 0 < i → i < 256 → gpow 2 (T8.log[i]!) = cm i) ∧
    (∀ i, i ≠ 0 → i < 256 → T8.log[i]! < 255) ∧
    T8.log[0]! = 255 :=
  ⟨fun _ h0 hi => log_spec (Nat.ne_of_gt h0) hi, fun _ h0 hi => log_lt h0 hi, log_zero⟩

/-- `exp` is the inverse table (`exp[log[i]] = i` for `i ≠ 0`; false at `i = 0`: `C17leo_exp_log_zero`) -/
theorem C17leo_exp :
    (∀ i, i ≠ 0 → i < 256 → T8.exp[T8.log[i]!]! = i) ∧
    T8.exp[255]! = T8.exp[0]! ∧
    (∀ k, k < 255 → T8.log[T8.exp[k]!]! = k) ∧
    (∀ k, k ≤ 255 → cm (T8.exp[k]!) = gpow 2 k) ∧
    (∀ k : Nat, T8.exp[k]! < 256) :=
  ⟨fun _ h0 hi => pres8.exp_log h0 hi, pres8.exp_modulus, fun _ hk => pres8.log_exp hk, fun _ hk => cm_exp hk,
   exp_lt⟩

/-- the one exception: `exp[log[0]] = exp[255] = exp[0] = 1 ≠ 0` -/
theorem C17leo_exp_log_zero : T8.exp[T8.log[0]!]! = 1 := pres8.exp_log_zero

/-- `addMod` adds exponents: `x^(addMod a b) = x^a · x^b` for `a, b ≤ 255` (`x^255 = 1`) -/
theorem C17leo_addMod (a b : Nat) (ha : a ≤ 255) (hb : b ≤ 255) :
    Leo.addMod Leo.P8 a b = (if a + b < 256 then a + b else a + b - 255) ∧
    Leo.addMod Leo.P8 a b ≤ 255 ∧
    gpow 2 (Leo.addMod Leo.P8 a b) = gmul (gpow 2 a) (gpow 2 b) :=
  ⟨addMod_eq ha hb, pres8.addMod_le a b, gpow_addMod ha hb⟩

/-- Leopard's product is GF(2^8)/0x11D multiplication under the Cantor map -/
theorem C17leo_mul (a b : Nat) (ha : a < 256) (hb : b < 256) :
    cm (Leo.leoMul C8 a b) = gmul (cm a) (cm b) := pres8.cm_leoMul ha hb

/-- `mulLog a log_m` (the kernel's `· exp(log_m)`) is multiplication by `x^log_m`; this includes
`log_m = 255`, where `x^255 = 1` (`mulLog a 255 = a`) -/
theorem C17leo_mulLog (a m : Nat) (ha : a < 256) (hm : m < 256) :
    cm (Leo.mulSym C8 a m) = gmul (cm a) (gpow 2 m) := cm_mulSym ha hm

theorem C17leo_mulLog_255 (a : Nat) (ha : a < 256) : Leo.mulSym C8 a 255 = a :=
  pres8.mulLog_modulus ha

/-- `mulSym · m` is xor-linear and stays below 256 -/
theorem C17leo_mulLog_linear (a b m : Nat) (ha : a < 256) (hb : b < 256) (hm : m < 256) :
    Leo.mulSym C8 (a ^^^ b) m = Leo.mulSym C8 a m ^^^ Leo.mulSym C8 b m ∧ Leo.mulSym C8 a m < 256 :=
  ⟨mulSym_xor ha hb hm, mulLog_lt _ _⟩

/-- the nibble-composed 256-entry product table equals the direct product -/
theorem C17leo_mul8LUT (m a : Nat) (hm : m < 256) (ha : a < 256) :
    (Leo.mul8LUT Leo.P8 T8 m)[a]! = Leo.mulSym C8 a m := mul8LUT_get hm ha

/-- the two 16-entry nibble tables of `multiply256LUT8` -/
theorem C17leo_mul256LUT8 (m x : Nat) (hx : x < 16) :
    (Leo.mul256LUT8 Leo.P8 T8 m)[x]! = Leo.mulSym C8 x m ∧
    (Leo.mul256LUT8 Leo.P8 T8 m)[x + 16]! = Leo.mulSym C8 (x <<< 4) m := mul256LUT8_get hx

/-- field identities of Leopard's product for all operands -/
theorem C17leo_field (a b c : Nat) (ha : a < 256) (hb : b < 256) (hc : c < 256) :
    Leo.leoMul C8 a b < 256 ∧
    Leo.leoMul C8 a b = Leo.leoMul C8 b a ∧
    Leo.leoMul C8 (Leo.leoMul C8 a b) c = Leo.leoMul C8 a (Leo.leoMul C8 b c) ∧
    Leo.leoMul C8 a (b ^^^ c) = Leo.leoMul C8 a b ^^^ Leo.leoMul C8 a c ∧
    Leo.leoMul C8 (a ^^^ b) c = Leo.leoMul C8 a c ^^^ Leo.leoMul C8 b c ∧
    Leo.leoMul C8 a 1 = a ∧ Leo.leoMul C8 1 a = a ∧
    (Leo.leoMul C8 a b = 0 ↔ a = 0 ∨ b = 0) ∧
    (a ≠ 0 → Leo.leoMul C8 a (T8.exp[255 - T8.log[a]!]!) = 1) :=
  ⟨pres8.leoMul_lt a b, pres8.leoMul_comm ha hb, pres8.leoMul_assoc ha hb hc, pres8.leoMul_xor_right ha hb hc,
   pres8.leoMul_xor_left ha hb hc, pres8.leoMul_one ha, pres8.one_leoMul ha, pres8.leoMul_eq_zero,
   fun h0 => pres8.leoMul_inv ha h0⟩

/-- the Cantor map into the model carrier `GF256` is an injective ring homomorphism -/
theorem C17leo_toGF (a b : Nat) (ha : a < 256) (hb : b < 256) :
    toGF (a ^^^ b) = toGF a + toGF b ∧ toGF (Leo.leoMul C8 a b) = toGF a * toGF b ∧
    toGF 0 = 0 ∧ toGF 1 = 1 ∧ (toGF a = toGF b → a = b) :=
  ⟨toGF_xor a b, toGF_leoMul ha hb, toGF_zero, by unfold toGF; rw [cm_one]; rfl,
   fun h => toGF_inj ha hb h⟩

end RSV.Props.C17leo

#print axioms RSV.Props.C17leo.C17leo_constants
#print axioms RSV.Props.C17leo.C17leo_params
#print axioms RSV.Props.C17leo.C17leo_cantor_basis
#print axioms RSV.Props.C17leo.C17leo_log
#print axioms RSV.Props.C17leo.C17leo_exp
#print axioms RSV.Props.C17leo.C17leo_exp_log_zero
#print axioms RSV.Props.C17leo.C17leo_addMod
#print axioms RSV.Props.C17leo.C17leo_mul
#print axioms RSV.Props.C17leo.C17leo_mulLog
#print axioms RSV.Props.C17leo.C17leo_mulLog_255
#print axioms RSV.Props.C17leo.C17leo_mulLog_linear
#print axioms RSV.Props.C17leo.C17leo_mul8LUT
#print axioms RSV.Props.C17leo.C17leo_mul256LUT8
#print axioms RSV.Props.C17leo.C17leo_field
#print axioms RSV.Props.C17leo.C17leo_toGF
