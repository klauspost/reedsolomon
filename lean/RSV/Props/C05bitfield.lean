import RSV.Model.Bitfield
import RSV.Model.BitfieldImpl
import RSV.Proofs.Bitfield
/-!
# C05 (error bit field) — the Go `prepare`/`isNeeded`/`cacheID` refine the L0 specification

L1 model: `RSV.Model.BitfieldImpl` (`BF8` = `errorBitfield8` of `leopard8.go`, `BF16` = `errorBitfield`
of `leopard.go`; naturals as `uint64`, every left shift truncated).  L0: `RSV.Model.Bitfield.needed`
("the aligned block of `2^mip` positions containing `bit` holds an erasure") and `cacheKey`.

Proof (in `RSV/Proofs/Bitfield.lean`, core Lean only): every word function of `prepare` (`step j`,
`w | w>>32 | w<<32`) is OR-linear, so it is determined by its values on the 64 single-bit words; those
64 words per level are checked by kernel evaluation (`chain_basis`, `full_basis`), which gives "bit
`b` of the level-`j` word is set iff some input bit in the aligned `2^j`-block of `b` is set"
(`Marks.testBit_chain`).  The gather loops of GF(2^16) (`BigWords[0]`, `BiggestWords[0]`) pick bit `k`
of the `k`-th folded word (`gather_spec`); `ofList` is a fold of `set`, i.e. an OR of single bits
(`setAll_spec`).  The theorems hold for every erasure list (duplicates and any order allowed) with
positions below the field order.
-/
namespace RSV.Props.C05bitfield
open RSV.Model.BitfieldImpl

/-- GF(2^8): after `prepare`, `isNeeded mip bit` is the L0 predicate, for EVERY level (levels `≤ 0`
and `≥ 8` answer `true` on both sides) and every position. -/
theorem C05_bf8_prepare : ∀ (erased : List Nat) (_hE : ∀ e ∈ erased, e < 256) (mip bit : Nat)
    (_hb : bit < 256),
    ((BF8.ofList erased).prepare).isNeeded mip bit = RSV.Model.Bitfield.needed 8 erased mip bit :=
  RSV.Proofs.Bitfield.bf8_prepare

/-- GF(2^8): the inversion-cache key of the (un-prepared) bit field is the L0 key. -/
theorem C05_bf8_cacheID : ∀ (erased : List Nat) (_hE : ∀ e ∈ erased, e < 256),
    (BF8.ofList erased).cacheID = RSV.Model.Bitfield.cacheKey erased :=
  RSV.Proofs.Bitfield.bf8_cacheID

/-- bit `i` of the key says whether position `i` is erased … -/
theorem C05_cacheKey_keyBit : ∀ (erased : List Nat) (i : Nat), i < 256 →
    RSV.Model.Bitfield.keyBit (RSV.Model.Bitfield.cacheKey erased) i = erased.contains i :=
  fun erased _ hi => RSV.Proofs.Bitfield.keyBit_cacheKey erased hi

/-- … hence the key is injective on erasure SETS (two erasure lists with the same key have the same
members below 256). -/
theorem C05_cacheKey_injective : ∀ (E E' : List Nat),
    RSV.Model.Bitfield.cacheKey E = RSV.Model.Bitfield.cacheKey E' → ∀ i < 256, (i ∈ E ↔ i ∈ E') :=
  RSV.Proofs.Bitfield.cacheKey_inj

/-- the same for the Go key: equal `cacheID`s mean equal erasure sets -/
theorem C05_bf8_cacheID_injective : ∀ (E E' : List Nat) (_hE : ∀ e ∈ E, e < 256) (_hE' : ∀ e ∈ E', e < 256),
    (BF8.ofList E).cacheID = (BF8.ofList E').cacheID → ∀ i, (i ∈ E ↔ i ∈ E') := by
  intro E E' hE hE' h i
  rw [C05_bf8_cacheID E hE, C05_bf8_cacheID E' hE'] at h
  by_cases hi : i < 256
  · exact C05_cacheKey_injective E E' h i hi
  · exact ⟨fun hm => absurd (hE i hm) hi, fun hm => absurd (hE' i hm) hi⟩

/-- GF(2^16): after `prepare`, `isNeeded mip bit` is the L0 predicate for every level `≥ 1` (level 0 is
never queried by the Go code: `Words[mipLevel-1]` would index `-1`) and every position. -/
theorem C05_bf16_prepare : ∀ (erased : List Nat) (_hE : ∀ e ∈ erased, e < 65536) (mip bit : Nat)
    (_hm : 1 ≤ mip) (_hb : bit < 65536),
    ((BF16.ofList erased).prepare).isNeeded mip bit = RSV.Model.Bitfield.needed 16 erased mip bit :=
  fun _ hE mip bit hm hb => RSV.Proofs.Bitfield.bf16_prepare hE mip bit hm hb

-- GF(2^8), by evaluation of the model
example : ((BF8.ofList [3, 200]).prepare).isNeeded 3 200 = true := by decide
example : ((BF8.ofList [3, 200]).prepare).isNeeded 3 8 = false := by decide
example : ((BF8.ofList [3, 200]).prepare).isNeeded 3 0 = true := by decide
example : ((BF8.ofList [3, 200]).prepare).isNeeded 6 100 = false := by decide
example : ((BF8.ofList [3, 200]).prepare).isNeeded 7 100 = true := by decide
example : ((BF8.ofList [3, 200]).prepare).isNeeded 7 128 = true := by decide
example : ((BF8.ofList [3]).prepare).isNeeded 7 128 = false := by decide
example : (BF8.ofList [3, 200]).cacheID =
    [8, 0, 0, 0, 0, 0, 0, 0, 0, 0, 0, 0, 0, 0, 0, 0, 0, 0, 0, 0, 0, 0, 0, 0, 0, 1, 0, 0, 0, 0, 0, 0] := by decide
-- the un-prepared field does NOT answer the block question (so `prepare` matters)
example : (BF8.ofList [3, 200]).isNeeded 3 0 = false := by decide

-- GF(2^16), by kernel evaluation of the model (a level served by `Words`)
example : ((BF16.ofList [3, 5000]).prepare).isNeeded 3 5003 = true := by decide +kernel
example : ((BF16.ofList [3, 5000]).prepare).isNeeded 3 5008 = false := by decide +kernel
-- GF(2^16), levels served by `BigWords` and `BiggestWords` (erasures 3, 5000, 40000 lie in the 4096-blocks 0, 1, 9):
-- evaluating the gathers (64 × 1024 array reads) is slow for the kernel, so these go through the theorem and
-- evaluate the specification
example : ((BF16.ofList [3, 5000]).prepare).isNeeded 8 5100 = true := by
  rw [C05_bf16_prepare _ (by decide) _ _ (by decide) (by decide)]; decide
example : ((BF16.ofList [3, 5000, 40000]).prepare).isNeeded 12 4096 = true := by
  rw [C05_bf16_prepare _ (by decide) _ _ (by decide) (by decide)]; decide
example : ((BF16.ofList [3, 5000, 40000]).prepare).isNeeded 12 8192 = false := by
  rw [C05_bf16_prepare _ (by decide) _ _ (by decide) (by decide)]; decide
example : ((BF16.ofList [3, 5000, 40000]).prepare).isNeeded 13 8192 = false := by
  rw [C05_bf16_prepare _ (by decide) _ _ (by decide) (by decide)]; decide
example : ((BF16.ofList [3, 5000, 40000]).prepare).isNeeded 14 8192 = true := by
  rw [C05_bf16_prepare _ (by decide) _ _ (by decide) (by decide)]; decide
example : ((BF16.ofList [3, 5000, 40000]).prepare).isNeeded 15 20000 = true := by
  rw [C05_bf16_prepare _ (by decide) _ _ (by decide) (by decide)]; decide
example : ((BF16.ofList [3, 5000]).prepare).isNeeded 15 40000 = false := by
  rw [C05_bf16_prepare _ (by decide) _ _ (by decide) (by decide)]; decide

end RSV.Props.C05bitfield

#print axioms RSV.Props.C05bitfield.C05_bf8_prepare
#print axioms RSV.Props.C05bitfield.C05_bf8_cacheID
#print axioms RSV.Props.C05bitfield.C05_cacheKey_keyBit
#print axioms RSV.Props.C05bitfield.C05_cacheKey_injective
#print axioms RSV.Props.C05bitfield.C05_bf8_cacheID_injective
#print axioms RSV.Props.C05bitfield.C05_bf16_prepare
