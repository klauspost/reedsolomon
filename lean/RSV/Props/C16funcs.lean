import RSV.Proofs.GenApi
/-!
# C16 (code of the argument checks) — `shardSize` / `checkShards`, regenerated from the Go source, are the model's

`RSV.Gen.ApiGo` is regenerated on every run from `reedsolomon.go` by the shape mode of the Go-subset → Lean
translator: `shardSize(shards [][]byte) int` and `checkShards(shards [][]byte, nilok bool) error` — the two helpers
every public call validates its shards with — are translated statement by statement over the array of the shard
LENGTHS (the translator rejects, with a non-zero exit status, every use of a shard other than `len(..)`), loops as
`forIn`, panics as `none`, `error` as `Option String` holding the name of the Go sentinel variable.

For EVERY list of shard shapes `s` (any number of shards, any lengths, nil or not, any capacities) and both values of
`nilok` the regenerated code returns, without panic, exactly what `RSV.Model.Api.shardSize` /
`RSV.Model.Api.checkShards` — the functions all `C16_*` theorems are about — return.  No bound on the lengths is
needed (`C16f_shardSize_int`: lengths below `2^63`, i.e. Go slices, give a Go `int`).
-/
namespace RSV.Props.C16funcs
open RSV.Model.Api (Sh E)

/-- `shardSize(shards)` never panics and is the model's `shardSize` -/
theorem C16f_shardSize (s : List Sh) :
    Gen.shardSize (s.map Sh.len).toArray = some (Int.ofNat (Model.Api.shardSize s)) :=
  GenApi.shardSize_eq s

/-- with Go lengths the result is a Go `int` -/
theorem C16f_shardSize_int (s : List Sh) (h63 : ∀ x ∈ s, x.len < 2 ^ 63) :
    ∃ n : Nat, n < 2 ^ 63 ∧ Gen.shardSize (s.map Sh.len).toArray = some (Int.ofNat n) ∧ n = Model.Api.shardSize s :=
  ⟨Model.Api.shardSize s, GenApi.shardSize_lt s h63, GenApi.shardSize_eq s, rfl⟩

/-- `checkShards(shards, nilok)` never panics and returns the sentinel the model names (`GenApi.errName`), or nil -/
theorem C16f_checkShards (s : List Sh) (nilok : Bool) :
    Gen.checkShards (s.map Sh.len).toArray nilok = some ((Model.Api.checkShards s nilok).map GenApi.errName) :=
  GenApi.checkShards_eq s nilok

/-- the same without `errName`: nil exactly when the model accepts -/
theorem C16f_checkShards_nil (s : List Sh) (nilok : Bool) :
    Gen.checkShards (s.map Sh.len).toArray nilok = some none ↔ Model.Api.checkShards s nilok = none :=
  GenApi.checkShards_iff s nilok none (.inl rfl)

/-- `ErrShardNoData` exactly when the model says `shardNoData` -/
theorem C16f_checkShards_noData (s : List Sh) (nilok : Bool) :
    Gen.checkShards (s.map Sh.len).toArray nilok = some (some "ErrShardNoData") ↔
      Model.Api.checkShards s nilok = some E.shardNoData :=
  GenApi.checkShards_iff s nilok _ (.inr (.inl rfl))

/-- `ErrShardSize` exactly when the model says `shardSize` -/
theorem C16f_checkShards_size (s : List Sh) (nilok : Bool) :
    Gen.checkShards (s.map Sh.len).toArray nilok = some (some "ErrShardSize") ↔
      Model.Api.checkShards s nilok = some E.shardSize :=
  GenApi.checkShards_iff s nilok _ (.inr (.inr rfl))

/-- and these are the only three results -/
theorem C16f_checkShards_cases (s : List Sh) (nilok : Bool) :
    Gen.checkShards (s.map Sh.len).toArray nilok = some none ∨
    Gen.checkShards (s.map Sh.len).toArray nilok = some (some "ErrShardNoData") ∨
    Gen.checkShards (s.map Sh.len).toArray nilok = some (some "ErrShardSize") :=
  (Model.Api.checkShards_cases s nilok).imp (C16f_checkShards_nil s nilok).mpr
    (Or.imp (C16f_checkShards_noData s nilok).mpr (C16f_checkShards_size s nilok).mpr)

/-! the names of the sentinels -/
example : GenApi.errName .shardNoData = "ErrShardNoData" := rfl
example : GenApi.errName .shardSize = "ErrShardSize" := rfl

/-! non-vacuity: the regenerated code runs, and distinguishes the cases -/
example : Gen.shardSize #[0, 5, 7] = some 5 := by decide +kernel
example : Gen.shardSize #[0, 0] = some 0 := by decide +kernel
example : Gen.shardSize #[] = some 0 := by decide +kernel
example : Gen.checkShards #[3, 0, 3] true = some none := by decide +kernel
example : Gen.checkShards #[3, 0, 3] false = some (some "ErrShardSize") := by decide +kernel
example : Gen.checkShards #[3, 4, 3] true = some (some "ErrShardSize") := by decide +kernel
example : Gen.checkShards #[0, 0] true = some (some "ErrShardNoData") := by decide +kernel
example : Gen.checkShards #[] false = some (some "ErrShardNoData") := by decide +kernel
example : Gen.checkShards ([⟨false, 3, 3⟩, ⟨true, 0, 0⟩, ⟨false, 3, 8⟩].map Sh.len).toArray true = some none :=
  (C16f_checkShards_nil _ _).mpr (by decide)

end RSV.Props.C16funcs

#print axioms RSV.Props.C16funcs.C16f_shardSize
#print axioms RSV.Props.C16funcs.C16f_shardSize_int
#print axioms RSV.Props.C16funcs.C16f_checkShards
#print axioms RSV.Props.C16funcs.C16f_checkShards_nil
#print axioms RSV.Props.C16funcs.C16f_checkShards_noData
#print axioms RSV.Props.C16funcs.C16f_checkShards_size
#print axioms RSV.Props.C16funcs.C16f_checkShards_cases
