import RSV.Proofs.AsmLeoSpec
import RSV.Proofs.AsmLeoContract
import RSV.Proofs.AsmLeoTwoSound
/-!
# C08, assembly tie — the remaining amd64 kernels: Leopard butterflies, `mulgf16`, xor
slices and the hand-written `galMulAVX2*` kernels

`RSV.Asm.Leo.checkKernel prog kd` (core Lean, executable, `RSV/Model/AsmLeoCheck.lean`) symbolically
executes one kernel against a *kernel descriptor* `kd` (`RSV/Model/AsmLeoKinds.lean`: block size,
store width, frame layout, table sizes and the expected expression of every stored chunk, built from
the same butterfly functions `fft2/ifft2/fft4/ifft4` that define the meaning).

Proved here (`C08_asm_leo_sound`): if the checker accepts `prog` for `kd`, then on every
environment satisfying `Contract` (rows `work[k·dist]` of at least `N` bytes, tables of the
descriptor's size, frame slots as the Go signature says, memory holds bytes, `N < 2^64`; for the
kernels without early exit: `N` a positive multiple of the block size) the machine of
`RSV.Model.Asm` reaches `RET` without a fault within `prog.length · (N / B + 1)` steps, every
written row holds `specVal` on `[0, B·(N/B))`, and everything else is unchanged.  `specVal` is
then rewritten, kind by kind, to the byte-level butterfly with *multiplication = nibble look-up in
the passed tables* (`C08_asm_spec_*`); that the tables `multiply256LUT8`/`multiply256LUT`/
`mulTableLow/High` tabulate the field products is C17 (`C17leo_*`, `C17gf16_*`, `C17_*`).

`galMulSSSE3`/`galMulSSSE3Xor` have two alternative loops selected by the pointers' alignment (`MOVOA` in the
aligned one; the machine model faults on a misaligned `MOVOA`); they are covered by `checkKernel2`
(`RSV/Model/AsmLeoTwo.lean`) with the same guarantee (`C08_asm_leo_sound2`).
-/
namespace RSV.Props.C08asmLeo
open RSV.Asm.Leo
open RSV.Asm (Program State Region exec M64 Env)

/-- what an accepted kernel guarantees on a call `c` -/
structure LeoOutcome (c : Ctx) (prog : Program) (s0 sf : State) : Prop where
  halts : ∀ fuel, prog.length * (c.N / c.kd.B + 1) ≤ fuel → exec c.env prog fuel s0 = some sf
  wf : c.kd.wf
  written : ∀ k p, k < c.kd.rows → c.kd.written k = true → p < c.kd.B * (c.N / c.kd.B) →
    sf.mem (c.rowReg k) p = specVal c k p
  rest : ∀ k p, k < c.kd.rows → ¬ (c.kd.written k = true ∧ p < c.kd.B * (c.N / c.kd.B)) →
    sf.mem (c.rowReg k) p = c.m0 (c.rowReg k) p
  others : ∀ r p, (∀ k, k < c.kd.rows → r ≠ c.rowReg k) → sf.mem r p = c.m0 r p

theorem outcome_of {c : Ctx} {prog : Program} {s0 sf : State}
    (hex : ∀ fuel, prog.length * (c.cnt + 1) ≤ fuel → exec c.env prog fuel s0 = some sf) (hwf : c.kd.wf)
    (hm : c.rows.MemInv c.cnt [] sf.mem) : LeoOutcome c prog s0 sf := by
  have hdone : ∀ k p, c.rows.Done c.cnt [] k p ↔ (c.kd.written k = true ∧ p < c.kd.B * (c.N / c.kd.B)) := by
    intro k p
    rw [c.rows.done_final, c.rows_cur]
    exact ⟨fun h => ⟨h.1, h.2.2⟩, fun h => ⟨h.1, Nat.zero_le _, h.2⟩⟩
  exact ⟨hex, hwf, fun k p hk hw hp => hm.2.1 k p hk ((hdone k p).mpr ⟨hw, hp⟩),
    fun k p hk hn => hm.2.2 k p hk (fun hd => hn ((hdone k p).mp hd)), hm.1⟩

/-- C08, soundness of the checker for the remaining kernels: an accepted kernel, started at `pc = 0` on a call
meeting `Contract`, has the `LeoOutcome` -/
theorem C08_asm_leo_sound (c : Ctx) (prog : Program) (hchk : checkKernel prog c.kd = true) (hc : Contract c)
    (s0 : State) (hpc : s0.pc = 0) (hmem : s0.mem = c.m0) : ∃ sf, LeoOutcome c prog s0 sf := by
  obtain ⟨sh, σ1, σ1', σ0, H, σb, hprog, hk⟩ := checkKernel_unpack hchk
  obtain ⟨sf, hex, hm⟩ := checked_sound hc hk s0 hpc hmem
  exact ⟨sf, outcome_of (hprog ▸ hex) (covers_wf hk.cov hk.Bpos) hm⟩

/-- the same for the two-loop kernels `galMulSSSE3`, `galMulSSSE3Xor` -/
theorem C08_asm_leo_sound2 (c : Ctx) (prog : Program) (hchk : checkKernel2 prog c.kd = true) (hc : Contract c)
    (s0 : State) (hpc : s0.pc = 0) (hmem : s0.mem = c.m0) : ∃ sf, LeoOutcome c prog s0 sf := by
  obtain ⟨sh, σ1, H1, σb1, H2, σb2, a, b, hprog, hk⟩ := checkKernel2_unpack hchk
  obtain ⟨sf, hex, hm⟩ := checked2_sound hc hk s0 hpc hmem
  exact ⟨sf, outcome_of (hprog ▸ hex) (covers_wf hk.cov2 hk.Bpos) hm⟩

/-- either checker -/
theorem C08_asm_leo_sound_any (c : Ctx) (prog : Program)
    (hchk : (checkKernel prog c.kd || checkKernel2 prog c.kd) = true) (hc : Contract c)
    (s0 : State) (hpc : s0.pc = 0) (hmem : s0.mem = c.m0) : ∃ sf, LeoOutcome c prog s0 sf := by
  rcases Bool.or_eq_true _ _ ▸ hchk with h | h
  · exact C08_asm_leo_sound c prog h hc s0 hpc hmem
  · exact C08_asm_leo_sound2 c prog h hc s0 hpc hmem

/-- the contract can be met for every descriptor, length, stride and memory contents -/
theorem C08_asm_leo_contract_sat (kd : KD) (N dist : Nat) (rows tabs : Nat → Nat → Nat) (imms : Nat → Nat)
    (hd : 0 < dist) (hdl : 24 * dist < M64) (hN : N < M64) (hout : 24 * (kd.rows * dist + 1) < M64)
    (hex : kd.exact = true → 0 < N ∧ N % kd.B = 0) : Contract (mkCtx kd N dist rows tabs imms) :=
  mkCtx_contract kd N dist rows tabs imms hd hdl hN hout hex

/-! ## the kinds, in byte-level terms (`row k` = `c.rowReg k` = the slice `out (k·dist)`) -/

/-- xor slices: `out[p] ^= in[p]` (`out` = row 0, `in` = row 1) -/
theorem C08_asm_spec_xor {c : Ctx} {prog : Program} {s0 sf : State} (ho : LeoOutcome c prog s0 sf) {isa : Isa} {num : Nat}
    (hkd : c.kd = kdXor isa num) (p : Nat) (hp : p < num * (c.N / num)) :
    sf.mem (c.rowReg 0) p = c.m0 (c.rowReg 0) p ^^^ c.m0 (c.rowReg 1) p := by
  have h := ho.written 0 p (by rw [hkd]; exact Nat.zero_lt_two) (by rw [hkd]; rfl) (by rw [hkd]; exact hp)
  rw [h, specVal_xor ho.wf hkd]

/-- hand-written `galMulAVX2*`: `out[p] = (out[p] ⊕) low[in[p] & 15] ⊕ high[in[p] >> 4]` on the processed
prefix (`out` = row 0, `in` = row 1, `low` = table 0, `high` = table 1) -/
theorem C08_asm_hand_sound {c : Ctx} {prog : Program} {s0 sf : State} (ho : LeoOutcome c prog s0 sf) {isa : Isa}
    {flag : Bool} {num : Nat} (hkd : c.kd = kdGalMul isa flag num) (p : Nat) (hp : p < num * (c.N / num)) :
    sf.mem (c.rowReg 0) p = (if flag then c.m0 (c.rowReg 0) p else 0) ^^^
      (c.m0 (.tab 0) (c.m0 (c.rowReg 1) p &&& 15) ^^^ c.m0 (.tab 1) (c.m0 (c.rowReg 1) p >>> 4)) := by
  have h := ho.written 0 p (by rw [hkd]; exact Nat.zero_lt_two) (by rw [hkd]; rfl) (by rw [hkd]; exact hp)
  rw [h, specVal_galmul ho.wf hkd]

/-- `fftDIT28_avx2` / `ifftDIT28_avx2` (`x` = row 0, `y` = row 1) -/
theorem C08_asm_spec_dit28 {c : Ctx} {prog : Program} {s0 sf : State} (ho : LeoOutcome c prog s0 sf) {flag : Bool}
    (hkd : c.kd = kdDit28 flag) (k p : Nat) (hk : k < 2) (hp : p < 64 * (c.N / 64)) :
    sf.mem (c.rowReg k) p = sel2 k ((if flag then ifft2 else fft2) (algB8 c.m0) false 0
      (c.m0 (c.rowReg 0) p) (c.m0 (c.rowReg 1) p)) := by
  have h := ho.written k p (by rw [hkd]; exact hk) (by rw [hkd]; rfl) (by rw [hkd]; exact hp)
  rw [h, specVal_dit28 ho.wf hkd]

/-- `fftDIT48_avx2_N` / `ifftDIT48_avx2_N`: the 4-point butterfly of `fftDIT4Ref8`/`ifftDIT4Ref8` with
`mul i` = nibble look-up in the passed table `t01`, `t23`, `t02` -/
theorem C08_asm_spec_dit48 {c : Ctx} {prog : Program} {s0 sf : State} (ho : LeoOutcome c prog s0 sf) {flag : Bool}
    {num : Nat} (hkd : c.kd = kdDit48 .avx2 flag num) (k p : Nat) (hk : k < 4) (hp : p < 64 * (c.N / 64)) :
    sf.mem (c.rowReg k) p = sel4 k ((if flag then ifft4 else fft4) (algB8 c.m0) num
      (c.m0 (c.rowReg 0) p) (c.m0 (c.rowReg 1) p) (c.m0 (c.rowReg 2) p) (c.m0 (c.rowReg 3) p)) := by
  have h := ho.written k p (by rw [hkd]; exact hk) (by rw [hkd]; rfl) (by rw [hkd]; exact hp)
  rw [h, specVal_dit48 ho.wf hkd (fun b q => hom8 c b q)]

/-- `fftDIT48_gfni_N` / `ifftDIT48_gfni_N`: `mul i` = `GF2P8AFFINEQB` with the passed matrix word -/
theorem C08_asm_spec_dit48_gfni {c : Ctx} {prog : Program} {s0 sf : State} (ho : LeoOutcome c prog s0 sf) {flag : Bool}
    {num : Nat} (hkd : c.kd = kdDit48 .gfni flag num) (k p : Nat) (hk : k < 4) (hp : p < 64 * (c.N / 64)) :
    sf.mem (c.rowReg k) p = sel4 k ((if flag then ifft4 else fft4) (algB8gfni fun i => c.immq (32 + 8 * i)) num
      (c.m0 (c.rowReg 0) p) (c.m0 (c.rowReg 1) p) (c.m0 (c.rowReg 2) p) (c.m0 (c.rowReg 3) p)) := by
  have h := ho.written k p (by rw [hkd]; exact hk) (by rw [hkd]; rfl) (by rw [hkd]; exact hp)
  rw [h, specVal_dit48 ho.wf hkd (fun b q => hom8gfni c b q)]

/-- `fftDIT2_*` / `ifftDIT2_*` over GF(2^16): symbols `sym16` (low byte, high byte 32 further) -/
theorem C08_asm_spec_dit2 {c : Ctx} {prog : Program} {s0 sf : State} (ho : LeoOutcome c prog s0 sf) {isa : Isa}
    (hisa : isa = .avx2 ∨ isa = .ssse3) {flag : Bool} (hkd : c.kd = kdDit2 isa flag) (k p : Nat) (hk : k < 2)
    (hp : p < 64 * (c.N / 64)) :
    sf.mem (c.rowReg k) p = half p (sel2 k ((if flag then ifft2 else fft2) (algB16 c.m0) false 0
      (sym16 c.m0 (c.rowReg 0) p) (sym16 c.m0 (c.rowReg 1) p))) := by
  have h := ho.written k p (by rw [hkd]; exact hk) (by rw [hkd]; rfl) (by rw [hkd]; exact hp)
  rw [h, specVal_dit2 hisa hkd]

/-- `fftDIT4_*_N` / `ifftDIT4_*_N` over GF(2^16) -/
theorem C08_asm_spec_dit4 {c : Ctx} {prog : Program} {s0 sf : State} (ho : LeoOutcome c prog s0 sf) {flag : Bool}
    {num : Nat} (hkd : c.kd = kdDit4 flag num) (k p : Nat) (hk : k < 4) (hp : p < 64 * (c.N / 64)) :
    sf.mem (c.rowReg k) p = half p (sel4 k ((if flag then ifft4 else fft4) (algB16 c.m0) num
      (sym16 c.m0 (c.rowReg 0) p) (sym16 c.m0 (c.rowReg 1) p) (sym16 c.m0 (c.rowReg 2) p)
      (sym16 c.m0 (c.rowReg 3) p))) := by
  have h := ho.written k p (by rw [hkd]; exact hk) (by rw [hkd]; rfl) (by rw [hkd]; exact hp)
  rw [h, specVal_dit4 hkd]

/-- `mulgf16_*`: `x = y · m` (`x` = row 0, `y` = row 1) -/
theorem C08_asm_spec_mulgf16 {c : Ctx} {prog : Program} {s0 sf : State} (ho : LeoOutcome c prog s0 sf) {isa : Isa}
    (hisa : isa = .avx2 ∨ isa = .ssse3) (hkd : c.kd = kdMul16 isa) (p : Nat) (hp : p < 64 * (c.N / 64)) :
    sf.mem (c.rowReg 0) p = half p ((algB16 c.m0).mul 0 (sym16 c.m0 (c.rowReg 1) p)) := by
  have h := ho.written 0 p (by rw [hkd]; exact Nat.zero_lt_two) (by rw [hkd]; rfl) (by rw [hkd]; exact hp)
  rw [h, specVal_mul16 hisa hkd]

/-- an accepted line denotes a kernel the checker accepts for the descriptor of its header, and its name
is the Go symbol of that kind -/
theorem C08_asm_leo_line (l : List Char) (h : RSV.Asm.Leo.checkChars l = true) :
    ∃ hd bd name kind isa flag num prog kd, RSV.Asm.Parse.splitOn '|' l = [hd, bd] ∧
      RSV.Asm.Leo.Parse.header? hd = some (name, kind, isa, flag, num) ∧ RSV.Asm.Parse.body? bd = some prog ∧
      mkKD kind isa flag num = some kd ∧ name = RSV.Asm.Leo.Parse.kernelName kind isa flag num ∧
      (RSV.Asm.Leo.checkKernel prog kd || checkKernel2 prog kd) = true := by
  unfold RSV.Asm.Leo.checkChars at h
  split at h
  · rename_i hd bd hsplit
    split at h
    · rename_i name kind isa flag num prog hh hb
      split at h
      · rename_i kd hkd
        simp only [Bool.and_eq_true, decide_eq_true_eq] at h
        exact ⟨hd, bd, name, kind, isa, flag, num, prog, kd, hsplit, hh, hb, hkd, h.1, h.2⟩
      · exact absurd h (by simp)
    · exact absurd h (by simp)
  · exact absurd h (by simp)

def kXorChars : List Char := [
  's','S','E','2','X','o','r','S','l','i','c','e',' ','x','o','r',' ','s','s','e','2',' ','0',' ',
  '1','6',' ','|',' ','M','O','V','Q',' ','i','n','_','b','a','s','e','+','0','(','F','P',')',',',
  ' ','A','X',' ',';',' ','M','O','V','Q',' ','o','u','t','_','b','a','s','e','+','2','4','(','F',
  'P',')',',',' ','C','X',' ',';',' ','M','O','V','Q',' ','i','n','_','l','e','n','+','8','(','F',
  'P',')',',',' ','D','X',' ',';',' ','S','H','R','Q',' ','$','0','x','0','4',',',' ','D','X',' ',
  ';',' ','J','Z',' ','e','n','d',' ',';',' ','l','o','o','p',':',' ',';',' ','M','O','V','O','U',
  ' ','(','A','X',')',',',' ','X','0',' ',';',' ','M','O','V','O','U',' ','(','C','X',')',',',' ',
  'X','1',' ',';',' ','P','X','O','R',' ','X','0',',',' ','X','1',' ',';',' ','M','O','V','O','U',
  ' ','X','1',',',' ','(','C','X',')',' ',';',' ','A','D','D','Q',' ','$','0','x','1','0',',',' ',
  'A','X',' ',';',' ','A','D','D','Q',' ','$','0','x','1','0',',',' ','C','X',' ',';',' ','D','E',
  'C','Q',' ','D','X',' ',';',' ','J','N','Z',' ','l','o','o','p',' ',';',' ','e','n','d',':',' ',
  ';',' ','R','E','T']

def kGalMulChars : List Char := [
  'g','a','l','M','u','l','A','V','X','2','X','o','r',' ','g','a','l','m','u','l',' ','a','v','x',
  '2',' ','1',' ','3','2',' ','|',' ','M','O','V','Q',' ','l','o','w','+','0','(','F','P',')',',',
  ' ','S','I',' ',';',' ','M','O','V','Q',' ','h','i','g','h','+','2','4','(','F','P',')',',',' ',
  'D','X',' ',';',' ','M','O','V','Q',' ','$','1','5',',',' ','B','X',' ',';',' ','M','O','V','Q',
  ' ','B','X',',',' ','X','5',' ',';',' ','M','O','V','O','U',' ','(','S','I',')',',',' ','X','6',
  ' ',';',' ','M','O','V','O','U',' ','(','D','X',')',',',' ','X','7',' ',';',' ','M','O','V','Q',
  ' ','i','n','_','l','e','n','+','5','6','(','F','P',')',',',' ','R','9',' ',';',' ','V','I','N',
  'S','E','R','T','I','1','2','8',' ','$','1',',',' ','X','6',',',' ','Y','6',',',' ','Y','6',' ',
  ';',' ','V','I','N','S','E','R','T','I','1','2','8',' ','$','1',',',' ','X','7',',',' ','Y','7',
  ',',' ','Y','7',' ',';',' ','V','P','B','R','O','A','D','C','A','S','T','B',' ','X','5',',',' ',
  'Y','8',' ',';',' ','S','H','R','Q',' ','$','5',',',' ','R','9',' ',';',' ','M','O','V','Q',' ',
  'o','u','t','+','7','2','(','F','P',')',',',' ','D','X',' ',';',' ','M','O','V','Q',' ','i','n',
  '+','4','8','(','F','P',')',',',' ','S','I',' ',';',' ','T','E','S','T','Q',' ','R','9',',',' ',
  'R','9',' ',';',' ','J','Z',' ','d','o','n','e','_','x','o','r','_','a','v','x','2',' ',';',' ',
  'l','o','o','p','b','a','c','k','_','x','o','r','_','a','v','x','2',':',' ',';',' ','V','M','O',
  'V','D','Q','U',' ','(','S','I',')',',',' ','Y','0',' ',';',' ','V','M','O','V','D','Q','U',' ',
  '(','D','X',')',',',' ','Y','4',' ',';',' ','V','P','S','R','L','Q',' ','$','4',',',' ','Y','0',
  ',',' ','Y','1',' ',';',' ','V','P','A','N','D',' ','Y','8',',',' ','Y','0',',',' ','Y','0',' ',
  ';',' ','V','P','A','N','D',' ','Y','8',',',' ','Y','1',',',' ','Y','1',' ',';',' ','V','P','S',
  'H','U','F','B',' ','Y','0',',',' ','Y','6',',',' ','Y','2',' ',';',' ','V','P','S','H','U','F',
  'B',' ','Y','1',',',' ','Y','7',',',' ','Y','3',' ',';',' ','V','P','X','O','R',' ','Y','3',',',
  ' ','Y','2',',',' ','Y','3',' ',';',' ','V','P','X','O','R',' ','Y','4',',',' ','Y','3',',',' ',
  'Y','4',' ',';',' ','V','M','O','V','D','Q','U',' ','Y','4',',',' ','(','D','X',')',' ',';',' ',
  'A','D','D','Q',' ','$','3','2',',',' ','S','I',' ',';',' ','A','D','D','Q',' ','$','3','2',',',
  ' ','D','X',' ',';',' ','S','U','B','Q',' ','$','1',',',' ','R','9',' ',';',' ','J','N','Z',' ',
  'l','o','o','p','b','a','c','k','_','x','o','r','_','a','v','x','2',' ',';',' ','d','o','n','e',
  '_','x','o','r','_','a','v','x','2',':',' ',';',' ','V','Z','E','R','O','U','P','P','E','R',' ',
  ';',' ','R','E','T']

def kDit28Chars : List Char := [
  'i','f','f','t','D','I','T','2','8','_','a','v','x','2',' ','d','i','t','2','8',' ','a','v','x',
  '2',' ','1',' ','0',' ','|',' ','M','O','V','Q',' ','t','a','b','l','e','+','4','8','(','F','P',
  ')',',',' ','A','X',' ',';',' ','V','B','R','O','A','D','C','A','S','T','I','1','2','8',' ','(',
  'A','X',')',',',' ','Y','0',' ',';',' ','V','B','R','O','A','D','C','A','S','T','I','1','2','8',
  ' ','1','6','(','A','X',')',',',' ','Y','1',' ',';',' ','M','O','V','Q',' ','x','_','l','e','n',
  '+','8','(','F','P',')',',',' ','A','X',' ',';',' ','M','O','V','Q',' ','x','_','b','a','s','e',
  '+','0','(','F','P',')',',',' ','C','X',' ',';',' ','M','O','V','Q',' ','y','_','b','a','s','e',
  '+','2','4','(','F','P',')',',',' ','D','X',' ',';',' ','M','O','V','Q',' ','$','0','x','0','0',
  '0','0','0','0','0','f',',',' ','B','X',' ',';',' ','M','O','V','Q',' ','B','X',',',' ','X','2',
  ' ',';',' ','V','P','B','R','O','A','D','C','A','S','T','B',' ','X','2',',',' ','Y','2',' ',';',
  ' ','l','o','o','p',':',' ',';',' ','V','M','O','V','D','Q','U',' ','(','C','X',')',',',' ','Y',
  '3',' ',';',' ','V','M','O','V','D','Q','U',' ','3','2','(','C','X',')',',',' ','Y','4',' ',';',
  ' ','V','M','O','V','D','Q','U',' ','(','D','X',')',',',' ','Y','5',' ',';',' ','V','M','O','V',
  'D','Q','U',' ','3','2','(','D','X',')',',',' ','Y','6',' ',';',' ','V','P','X','O','R',' ','Y',
  '5',',',' ','Y','3',',',' ','Y','5',' ',';',' ','V','P','X','O','R',' ','Y','6',',',' ','Y','4',
  ',',' ','Y','6',' ',';',' ','V','M','O','V','D','Q','U',' ','Y','5',',',' ','(','D','X',')',' ',
  ';',' ','V','M','O','V','D','Q','U',' ','Y','6',',',' ','3','2','(','D','X',')',' ',';',' ','V',
  'P','A','N','D',' ','Y','5',',',' ','Y','2',',',' ','Y','7',' ',';',' ','V','P','S','R','L','Q',
  ' ','$','0','x','0','4',',',' ','Y','5',',',' ','Y','5',' ',';',' ','V','P','S','H','U','F','B',
  ' ','Y','7',',',' ','Y','0',',',' ','Y','7',' ',';',' ','V','P','A','N','D',' ','Y','5',',',' ',
  'Y','2',',',' ','Y','5',' ',';',' ','V','P','S','H','U','F','B',' ','Y','5',',',' ','Y','1',',',
  ' ','Y','5',' ',';',' ','V','P','X','O','R',' ','Y','7',',',' ','Y','3',',',' ','Y','3',' ',';',
  ' ','V','P','X','O','R',' ','Y','5',',',' ','Y','3',',',' ','Y','3',' ',';',' ','V','P','A','N',
  'D',' ','Y','6',',',' ','Y','2',',',' ','Y','5',' ',';',' ','V','P','S','R','L','Q',' ','$','0',
  'x','0','4',',',' ','Y','6',',',' ','Y','6',' ',';',' ','V','P','S','H','U','F','B',' ','Y','5',
  ',',' ','Y','0',',',' ','Y','5',' ',';',' ','V','P','A','N','D',' ','Y','6',',',' ','Y','2',',',
  ' ','Y','6',' ',';',' ','V','P','S','H','U','F','B',' ','Y','6',',',' ','Y','1',',',' ','Y','6',
  ' ',';',' ','V','P','X','O','R',' ','Y','5',',',' ','Y','4',',',' ','Y','4',' ',';',' ','V','P',
  'X','O','R',' ','Y','6',',',' ','Y','4',',',' ','Y','4',' ',';',' ','V','M','O','V','D','Q','U',
  ' ','Y','3',',',' ','(','C','X',')',' ',';',' ','V','M','O','V','D','Q','U',' ','Y','4',',',' ',
  '3','2','(','C','X',')',' ',';',' ','A','D','D','Q',' ','$','0','x','4','0',',',' ','C','X',' ',
  ';',' ','A','D','D','Q',' ','$','0','x','4','0',',',' ','D','X',' ',';',' ','S','U','B','Q',' ',
  '$','0','x','4','0',',',' ','A','X',' ',';',' ','J','A',' ','l','o','o','p',' ',';',' ','V','Z',
  'E','R','O','U','P','P','E','R',' ',';',' ','R','E','T']

def kDit48gChars : List Char := [
  'f','f','t','D','I','T','4','8','_','g','f','n','i','_','3',' ','d','i','t','4','8',' ','g','f',
  'n','i',' ','0',' ','3',' ','|',' ','V','B','R','O','A','D','C','A','S','T','F','3','2','X','2',
  ' ','t','2','3','+','4','0','(','F','P',')',',',' ','Z','0',' ',';',' ','M','O','V','Q',' ','d',
  'i','s','t','+','2','4','(','F','P',')',',',' ','A','X',' ',';',' ','M','O','V','Q',' ','w','o',
  'r','k','_','b','a','s','e','+','0','(','F','P',')',',',' ','C','X',' ',';',' ','M','O','V','Q',
  ' ','8','(','C','X',')',',',' ','D','X',' ',';',' ','X','O','R','Q',' ','B','X',',',' ','B','X',
  ' ',';',' ','M','O','V','Q',' ','(','C','X',')','(','B','X','*','1',')',',',' ','S','I',' ',';',
  ' ','A','D','D','Q',' ','A','X',',',' ','B','X',' ',';',' ','M','O','V','Q',' ','(','C','X',')',
  '(','B','X','*','1',')',',',' ','D','I',' ',';',' ','A','D','D','Q',' ','A','X',',',' ','B','X',
  ' ',';',' ','M','O','V','Q',' ','(','C','X',')','(','B','X','*','1',')',',',' ','R','8',' ',';',
  ' ','A','D','D','Q',' ','A','X',',',' ','B','X',' ',';',' ','M','O','V','Q',' ','(','C','X',')',
  '(','B','X','*','1',')',',',' ','A','X',' ',';',' ','l','o','o','p',':',' ',';',' ','V','M','O',
  'V','D','Q','U','6','4',' ','(','S','I',')',',',' ','Z','1',' ',';',' ','V','M','O','V','D','Q',
  'U','6','4',' ','(','D','I',')',',',' ','Z','2',' ',';',' ','V','M','O','V','D','Q','U','6','4',
  ' ','(','R','8',')',',',' ','Z','3',' ',';',' ','V','M','O','V','D','Q','U','6','4',' ','(','A',
  'X',')',',',' ','Z','4',' ',';',' ','V','X','O','R','P','D',' ','Z','1',',',' ','Z','3',',',' ',
  'Z','3',' ',';',' ','V','X','O','R','P','D',' ','Z','2',',',' ','Z','4',',',' ','Z','4',' ',';',
  ' ','V','X','O','R','P','D',' ','Z','2',',',' ','Z','1',',',' ','Z','2',' ',';',' ','V','G','F',
  '2','P','8','A','F','F','I','N','E','Q','B',' ','$','0','x','0','0',',',' ','Z','0',',',' ','Z',
  '4',',',' ','Z','5',' ',';',' ','V','X','O','R','P','D',' ','Z','3',',',' ','Z','5',',',' ','Z',
  '3',' ',';',' ','V','X','O','R','P','D',' ','Z','3',',',' ','Z','4',',',' ','Z','4',' ',';',' ',
  'V','M','O','V','D','Q','U','6','4',' ','Z','1',',',' ','(','S','I',')',' ',';',' ','A','D','D',
  'Q',' ','$','0','x','4','0',',',' ','S','I',' ',';',' ','V','M','O','V','D','Q','U','6','4',' ',
  'Z','2',',',' ','(','D','I',')',' ',';',' ','A','D','D','Q',' ','$','0','x','4','0',',',' ','D',
  'I',' ',';',' ','V','M','O','V','D','Q','U','6','4',' ','Z','3',',',' ','(','R','8',')',' ',';',
  ' ','A','D','D','Q',' ','$','0','x','4','0',',',' ','R','8',' ',';',' ','V','M','O','V','D','Q',
  'U','6','4',' ','Z','4',',',' ','(','A','X',')',' ',';',' ','A','D','D','Q',' ','$','0','x','4',
  '0',',',' ','A','X',' ',';',' ','S','U','B','Q',' ','$','0','x','4','0',',',' ','D','X',' ',';',
  ' ','J','A',' ','l','o','o','p',' ',';',' ','V','Z','E','R','O','U','P','P','E','R',' ',';',' ',
  'R','E','T']

def kSsse3Chars : List Char := [
  'g','a','l','M','u','l','S','S','S','E','3','X','o','r',' ','g','a','l','m','u','l',' ','s','s',
  's','e','3',' ','1',' ','1','6',' ','|',' ','M','O','V','Q',' ','l','o','w','+','0','(','F','P',
  ')',',',' ','S','I',' ',';',' ','M','O','V','Q',' ','h','i','g','h','+','2','4','(','F','P',')',
  ',',' ','D','X',' ',';',' ','M','O','V','O','U',' ','(','S','I',')',',',' ','X','6',' ',';',' ',
  'M','O','V','O','U',' ','(','D','X',')',',',' ','X','7',' ',';',' ','M','O','V','Q',' ','$','1',
  '5',',',' ','B','X',' ',';',' ','M','O','V','Q',' ','B','X',',',' ','X','8',' ',';',' ','P','X',
  'O','R',' ','X','5',',',' ','X','5',' ',';',' ','M','O','V','Q',' ','i','n','+','4','8','(','F',
  'P',')',',',' ','S','I',' ',';',' ','M','O','V','Q',' ','i','n','_','l','e','n','+','5','6','(',
  'F','P',')',',',' ','R','9',' ',';',' ','M','O','V','Q',' ','o','u','t','+','7','2','(','F','P',
  ')',',',' ','D','X',' ',';',' ','P','S','H','U','F','B',' ','X','5',',',' ','X','8',' ',';',' ',
  'S','H','R','Q',' ','$','4',',',' ','R','9',' ',';',' ','M','O','V','Q',' ','S','I',',',' ','A',
  'X',' ',';',' ','M','O','V','Q',' ','D','X',',',' ','B','X',' ',';',' ','A','N','D','Q',' ','$',
  '1','5',',',' ','A','X',' ',';',' ','A','N','D','Q',' ','$','1','5',',',' ','B','X',' ',';',' ',
  'C','M','P','Q',' ','R','9',',',' ','$','0',' ',';',' ','J','E','Q',' ','d','o','n','e','_','x',
  'o','r',' ',';',' ','O','R','Q',' ','A','X',',',' ','B','X',' ',';',' ','C','M','P','Q',' ','B',
  'X',',',' ','$','0',' ',';',' ','J','N','Z',' ','l','o','o','p','b','a','c','k','_','x','o','r',
  ' ',';',' ','l','o','o','p','b','a','c','k','_','x','o','r','_','a','l','i','g','n','e','d',':',
  ' ',';',' ','M','O','V','O','A',' ','(','S','I',')',',',' ','X','0',' ',';',' ','M','O','V','O',
  'A',' ','(','D','X',')',',',' ','X','4',' ',';',' ','M','O','V','O','A',' ','X','0',',',' ','X',
  '1',' ',';',' ','M','O','V','O','A',' ','X','6',',',' ','X','2',' ',';',' ','M','O','V','O','A',
  ' ','X','7',',',' ','X','3',' ',';',' ','P','S','R','L','Q',' ','$','4',',',' ','X','1',' ',';',
  ' ','P','A','N','D',' ','X','8',',',' ','X','0',' ',';',' ','P','A','N','D',' ','X','8',',',' ',
  'X','1',' ',';',' ','P','S','H','U','F','B',' ','X','0',',',' ','X','2',' ',';',' ','P','S','H',
  'U','F','B',' ','X','1',',',' ','X','3',' ',';',' ','P','X','O','R',' ','X','2',',',' ','X','3',
  ' ',';',' ','P','X','O','R',' ','X','4',',',' ','X','3',' ',';',' ','M','O','V','O','A',' ','X',
  '3',',',' ','(','D','X',')',' ',';',' ','A','D','D','Q',' ','$','1','6',',',' ','S','I',' ',';',
  ' ','A','D','D','Q',' ','$','1','6',',',' ','D','X',' ',';',' ','S','U','B','Q',' ','$','1',',',
  ' ','R','9',' ',';',' ','J','N','Z',' ','l','o','o','p','b','a','c','k','_','x','o','r','_','a',
  'l','i','g','n','e','d',' ',';',' ','J','M','P',' ','d','o','n','e','_','x','o','r',' ',';',' ',
  'l','o','o','p','b','a','c','k','_','x','o','r',':',' ',';',' ','M','O','V','O','U',' ','(','S',
  'I',')',',',' ','X','0',' ',';',' ','M','O','V','O','U',' ','(','D','X',')',',',' ','X','4',' ',
  ';',' ','M','O','V','O','U',' ','X','0',',',' ','X','1',' ',';',' ','M','O','V','O','U',' ','X',
  '6',',',' ','X','2',' ',';',' ','M','O','V','O','U',' ','X','7',',',' ','X','3',' ',';',' ','P',
  'S','R','L','Q',' ','$','4',',',' ','X','1',' ',';',' ','P','A','N','D',' ','X','8',',',' ','X',
  '0',' ',';',' ','P','A','N','D',' ','X','8',',',' ','X','1',' ',';',' ','P','S','H','U','F','B',
  ' ','X','0',',',' ','X','2',' ',';',' ','P','S','H','U','F','B',' ','X','1',',',' ','X','3',' ',
  ';',' ','P','X','O','R',' ','X','2',',',' ','X','3',' ',';',' ','P','X','O','R',' ','X','4',',',
  ' ','X','3',' ',';',' ','M','O','V','O','U',' ','X','3',',',' ','(','D','X',')',' ',';',' ','A',
  'D','D','Q',' ','$','1','6',',',' ','S','I',' ',';',' ','A','D','D','Q',' ','$','1','6',',',' ',
  'D','X',' ',';',' ','S','U','B','Q',' ','$','1',',',' ','R','9',' ',';',' ','J','N','Z',' ','l',
  'o','o','p','b','a','c','k','_','x','o','r',' ',';',' ','d','o','n','e','_','x','o','r',':',' ',
  ';',' ','R','E','T']

def kMutChars : List Char := [
  's','S','E','2','X','o','r','S','l','i','c','e',' ','x','o','r',' ','s','s','e','2',' ','0',' ',
  '1','6',' ','|',' ','M','O','V','Q',' ','i','n','_','b','a','s','e','+','0','(','F','P',')',',',
  ' ','A','X',' ',';',' ','M','O','V','Q',' ','o','u','t','_','b','a','s','e','+','2','4','(','F',
  'P',')',',',' ','C','X',' ',';',' ','M','O','V','Q',' ','i','n','_','l','e','n','+','8','(','F',
  'P',')',',',' ','D','X',' ',';',' ','S','H','R','Q',' ','$','0','x','0','4',',',' ','D','X',' ',
  ';',' ','J','Z',' ','e','n','d',' ',';',' ','l','o','o','p',':',' ',';',' ','M','O','V','O','U',
  ' ','(','A','X',')',',',' ','X','0',' ',';',' ','M','O','V','O','U',' ','(','C','X',')',',',' ',
  'X','1',' ',';',' ','P','X','O','R',' ','X','0',',',' ','X','1',' ',';',' ','M','O','V','O','U',
  ' ','X','1',',',' ','(','C','X',')',' ',';',' ','A','D','D','Q',' ','$','0','x','1','0',',',' ',
  'C','X',' ',';',' ','D','E','C','Q',' ','D','X',' ',';',' ','J','N','Z',' ','l','o','o','p',' ',
  ';',' ','e','n','d',':',' ',';',' ','R','E','T']

/-- `sSE2XorSlice`, `galMulAVX2Xor`, `ifftDIT28_avx2`, `fftDIT48_gfni_3` and the two-loop `galMulSSSE3Xor`
(verbatim, canonical one-line form) are accepted -/
theorem C08_asm_leo_nonvacuous : RSV.Asm.Leo.checkChars kXorChars = true ∧ RSV.Asm.Leo.checkChars kGalMulChars = true ∧
    RSV.Asm.Leo.checkChars kDit28Chars = true ∧ RSV.Asm.Leo.checkChars kDit48gChars = true ∧
    RSV.Asm.Leo.checkChars kSsse3Chars = true := by
  refine ⟨?_, ?_, ?_, ?_, ?_⟩ <;> decide +kernel

/-- `sSE2XorSlice` without the `ADDQ $0x10, AX` that advances the input pointer is rejected -/
theorem C08_asm_leo_negative : RSV.Asm.Leo.checkChars kMutChars = false := by decide +kernel

end RSV.Props.C08asmLeo
