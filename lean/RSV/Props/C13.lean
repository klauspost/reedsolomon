import RSV.Proofs.SplitJoin

/-!
# C13 — `Split` and `Join`

`RSV.Model.SJ.split` is the algorithm of `reedSolomon.Split` / `leopardFF8.Split` /
`leopardFF16.Split` including the re-use (and clearing) of the spare capacity of the input slice;
`splitSpec` is its specification (input followed by zeros, cut into `d+p` pieces of `perShard`
bytes); `join` is `Join`.  `q` is the shard-size multiple (`1` or `64`).

`split = splitSpec` for every amount and content of spare capacity (`C13_split_eq_spec`); the rest
reads off the specification, gives `Join ∘ Split = id`, and `Join`'s result and error cases.
-/

namespace RSV.Props.C13
open RSV.Model.SJ RSV.Proofs.SplitJoin

theorem C13_perShard (q d len : Nat) (hq : 0 < q) (hd : 0 < d) (hl : 0 < len) :
    0 < perShard q d len ∧ q ∣ perShard q d len ∧ len ≤ d * perShard q d len :=
  perShard_props q d len hq hd hl

/-- for every amount and content of spare capacity, `Split` returns exactly the specification -/
theorem C13_split_eq_spec (q d p : Nat) (hq : 0 < q) (hd : 0 < d) (data spare : List Nat) :
    split q d p data spare = splitSpec q d p data :=
  split_eq_spec q d p hq hd data spare

/-- The specification outside the one-shard case, all at once: `d + p` shards of `perShard` bytes
whose concatenation is the input followed by zeros; the input ends within the first `d`. -/
theorem splitSpec_shards (q d p : Nat) (hq : 0 < q) (hd : 0 < d) (data : List Nat)
    (hl : 0 < data.length) (h1 : ¬ (d + p = 1 ∧ (q = 1 ∨ data.length % 64 = 0))) :
    ∃ sh, splitSpec q d p data = .ok sh ∧ sh.length = d + p ∧
      (∀ s ∈ sh, s.length = perShard q d data.length) ∧
      sh.flatten = data ++ zeros ((d + p) * perShard q d data.length - data.length) ∧
      (sh.take d).flatten = data ++ zeros (d * perShard q d data.length - data.length) ∧
      (sh.drop d).flatten = zeros (p * perShard q d data.length) := by
  obtain ⟨-, -, h2⟩ := perShard_props q d data.length hq hd hl
  have h3 : (d + p) * perShard q d data.length
      = d * perShard q d data.length + p * perShard q d data.length := Nat.add_mul _ _ _
  refine ⟨_, splitSpec_general q d p data hl h1, chunks_length _ _ _, ?_, ?_, ?_, ?_⟩
  · apply chunks_mem_length
    rw [List.length_append, length_zeros]
    omega
  · rw [chunks_flatten]
    apply List.take_of_length_le
    rw [List.length_append, length_zeros]
    omega
  · rw [chunks_take_prefix, chunks_flatten, List.take_append, List.take_of_length_le h2, take_zeros]
    congr 2
    omega
  · rw [chunks_drop_prefix, chunks_flatten, List.drop_append, List.drop_of_length_le h2, drop_zeros,
      List.nil_append, take_zeros]
    congr 1
    omega

/-- shape of the specification: `d+p` shards, all of length `perShard` (except the documented
one-shard case) -/
theorem C13_shape (q d p : Nat) (hq : 0 < q) (hd : 0 < d) (data : List Nat) (hl : 0 < data.length)
    (h1 : ¬ (d + p = 1 ∧ (q = 1 ∨ data.length % 64 = 0))) :
    ∃ sh, splitSpec q d p data = .ok sh ∧ sh.length = d + p ∧
      ∀ s ∈ sh, s.length = perShard q d data.length := by
  obtain ⟨sh, h, a, b, -⟩ := splitSpec_shards q d p hq hd data hl h1
  exact ⟨sh, h, a, b⟩

/-- content: the shards concatenated are the input followed only by zero bytes -/
theorem C13_content (q d p : Nat) (hq : 0 < q) (hd : 0 < d) (data : List Nat)
    (hl : 0 < data.length) (h1 : ¬ (d + p = 1 ∧ (q = 1 ∨ data.length % 64 = 0))) :
    ∃ sh, splitSpec q d p data = .ok sh ∧
      sh.flatten = data ++ zeros ((d + p) * perShard q d data.length - data.length) := by
  obtain ⟨sh, h, -, -, c, -⟩ := splitSpec_shards q d p hq hd data hl h1
  exact ⟨sh, h, c⟩

/-- the `d` data shards concatenated are the input followed by zeros -/
theorem C13_data_shards (q d p : Nat) (hq : 0 < q) (hd : 0 < d) (data : List Nat)
    (hl : 0 < data.length) (h1 : ¬ (d + p = 1 ∧ (q = 1 ∨ data.length % 64 = 0))) :
    ∃ sh, splitSpec q d p data = .ok sh ∧
      (sh.take d).flatten = data ++ zeros (d * perShard q d data.length - data.length) := by
  obtain ⟨sh, h, -, -, -, c, -⟩ := splitSpec_shards q d p hq hd data hl h1
  exact ⟨sh, h, c⟩

/-- the `p` parity shards contain only zeros -/
theorem C13_parity_zero (q d p : Nat) (hq : 0 < q) (hd : 0 < d) (data : List Nat)
    (hl : 0 < data.length) (h1 : ¬ (d + p = 1 ∧ (q = 1 ∨ data.length % 64 = 0))) :
    ∃ sh, splitSpec q d p data = .ok sh ∧
      (sh.drop d).flatten = zeros (p * perShard q d data.length) := by
  obtain ⟨sh, h, -, -, -, -, c⟩ := splitSpec_shards q d p hq hd data hl h1
  exact ⟨sh, h, c⟩

/-- in the one-shard case the formula of the specification also holds for the two shard-size
multiples that exist (`1`: GF(2^8) matrix codec, `64`: Leopard): the single shard is the input -/
theorem C13_one_shard (q d p : Nat) (hq : q = 1 ∨ q = 64) (data : List Nat)
    (h1 : d + p = 1 ∧ (q = 1 ∨ data.length % 64 = 0)) (hd : 0 < d) :
    [data] = chunks (perShard q d data.length) (d + p)
      (data ++ zeros ((d + p) * perShard q d data.length - data.length)) := by
  obtain ⟨hdp, hq'⟩ := h1
  have hd1 : d = 1 := by omega
  have hp0 : p = 0 := by omega
  subst hd1 hp0
  have hps : perShard q 1 data.length = data.length := by
    unfold perShard
    rcases hq with rfl | rfl
    · simp
    · have : data.length % 64 = 0 := by omega
      simp only [Nat.div_one]
      omega
  rw [hps]
  simp [chunks]

/-- empty input is rejected, whatever the capacity -/
theorem C13_empty (q d p : Nat) (data spare : List Nat) (h : data.length = 0) :
    split q d p data spare = .error .shortData := by
  simp [split, h]

/-- `Join` on at least `d` shards, all present, whose first `d` hold at least `outSize` bytes:
the first `outSize` bytes of the concatenated data shards -/
theorem C13_join_prefix (d : Nat) (shs : List (List Nat)) (hlen : d ≤ shs.length) (outSize : Nat)
    (h : outSize ≤ ((shs.take d).flatten).length) :
    join d (shs.map some) outSize = .ok (((shs.take d).flatten).take outSize) := by
  rw [join_some d shs hlen, if_neg (by omega)]

/-- all shards present, not enough data in the `d` data shards: `ErrShortData` -/
theorem C13_join_short (d : Nat) (shs : List (List Nat)) (hlen : d ≤ shs.length) (outSize : Nat)
    (h : ((shs.take d).flatten).length < outSize) :
    join d (shs.map some) outSize = .error .shortData := by
  rw [join_some d shs hlen, if_pos h]

/-- Join ∘ Split = id -/
theorem C13_join_split (q d p : Nat) (hq : 0 < q) (hd : 0 < d) (data : List Nat)
    (hl : 0 < data.length) (sh : List (List Nat)) (hs : splitSpec q d p data = .ok sh) :
    join d (sh.map some) data.length = .ok data := by
  by_cases h1 : d + p = 1 ∧ (q = 1 ∨ data.length % 64 = 0)
  · -- one shard: `sh = [data]`, `d = 1`
    have hd1 : d = 1 := by omega
    subst hd1
    unfold splitSpec at hs
    rw [if_neg (by omega), if_pos h1] at hs
    injection hs with hs
    subst hs
    rw [C13_join_prefix 1 [data] (by simp) data.length (by simp)]
    simp
  · obtain ⟨sh', hs', hlen, -, -, hfl, -⟩ := splitSpec_shards q d p hq hd data hl h1
    obtain rfl : sh' = sh := Except.ok.inj (hs'.symm.trans hs)
    rw [C13_join_prefix d sh' (by omega) data.length (by rw [hfl]; simp), hfl,
      List.take_left' rfl]

/-- fewer than `d` shards: `ErrTooFewShards` -/
theorem C13_join_too_few (d : Nat) (shards : List (Option (List Nat))) (outSize : Nat)
    (h : shards.length < d) : join d shards outSize = .error .tooFewShards := by
  simp [join, h]

/-- a nil shard `i < d`, with the present shards before it holding fewer than `outSize` bytes
(sum of their lengths), gives `ErrReconstructRequired` -/
theorem C13_join_reconstruct_required (d : Nat) (shards : List (Option (List Nat)))
    (outSize : Nat) (hlen : d ≤ shards.length) (i : Nat) (hi : i < d)
    (hnone : shards[i]? = some none)
    (hlt : ((shards.take i).map fun o => (o.getD []).length).sum < outSize) :
    join d shards outSize = .error .reconstructRequired := by
  unfold join
  rw [if_neg (by omega)]
  dsimp only
  rw [scan_none outSize (shards.take d) 0 i]
  · rw [List.getElem?_take, if_pos hi]; exact hnone
  · rw [List.take_take, Nat.min_eq_left (Nat.le_of_lt hi), Nat.zero_add]
    exact hlt

/-- a nil first shard gives `ErrReconstructRequired` (for every `outSize`, even `0`) -/
theorem C13_join_nil_first (d : Nat) (shards : List (Option (List Nat))) (outSize : Nat)
    (hlen : d ≤ shards.length) (hd : 0 < d) (h0 : shards.head? = some none) :
    join d shards outSize = .error .reconstructRequired := by
  cases shards with
  | nil => simp at h0
  | cons o rest =>
    simp only [List.head?_cons, Option.some.injEq] at h0
    subst h0
    obtain ⟨d', rfl⟩ : ∃ d', d = d' + 1 := ⟨d - 1, by omega⟩
    unfold join
    rw [if_neg (by omega)]
    rfl

theorem C13_aliased_le (q d p dataLen cap : Nat) : splitAliased q d p dataLen cap ≤ d + p := by
  unfold splitAliased
  exact Nat.min_le_left _ _

example : split 1 3 2 [1,2,3,4,5,6,7,8,9,10] [0xA5,0xA5,0xA5]
    = .ok [[1,2,3,4],[5,6,7,8],[9,10,0,0],[0,0,0,0],[0,0,0,0]] := rfl
example : split 1 3 2 [1,2,3,4,5,6,7,8,9,10] []
    = .ok [[1,2,3,4],[5,6,7,8],[9,10,0,0],[0,0,0,0],[0,0,0,0]] := rfl
example : split 1 3 2 [1,2,3,4,5,6,7,8,9,10] (List.replicate 30 0xA5)
    = .ok [[1,2,3,4],[5,6,7,8],[9,10,0,0],[0,0,0,0],[0,0,0,0]] := rfl
example : splitSpec 1 3 2 [1,2,3,4,5,6,7,8,9,10]
    = .ok [[1,2,3,4],[5,6,7,8],[9,10,0,0],[0,0,0,0],[0,0,0,0]] := rfl
example : split 1 1 0 [7,8,9] [1] = .ok [[7,8,9]] := rfl
example : split 1 3 2 [] [1,2,3] = .error .shortData := rfl
example : perShard 64 3 10 = 64 ∧ perShard 1 3 10 = 4 ∧ perShard 64 1 128 = 128 := by decide
example : join 3 ([[1,2,3,4],[5,6,7,8],[9,10,0,0],[0,0,0,0],[0,0,0,0]].map some) 10
    = .ok [1,2,3,4,5,6,7,8,9,10] := rfl
example : join 3 [some [1,2,3,4], some [5,6,7,8], none, none, some [0,0,0,0]] 8
    = .ok [1,2,3,4,5,6,7,8] := rfl
example : join 3 [some [1,2,3,4], some [5,6,7,8], none, none, some [0,0,0,0]] 9
    = .error .reconstructRequired := rfl
example : join 3 [none, some [5,6,7,8], some [9,10,0,0]] 0 = .error .reconstructRequired := rfl
example : join 3 [some [1,2,3,4], some [5,6,7,8], some [9,10,0,0]] 13 = .error .shortData := rfl
example : join 3 [some [1,2,3,4], some [5,6,7,8]] 4 = .error .tooFewShards := rfl
example : splitAliased 1 3 2 10 13 = 3 ∧ splitAliased 1 3 2 10 10 = 2 ∧
    splitAliased 1 3 2 10 40 = 5 := by decide

end RSV.Props.C13

#print axioms RSV.Props.C13.C13_perShard
#print axioms RSV.Props.C13.C13_split_eq_spec
#print axioms RSV.Props.C13.splitSpec_shards
#print axioms RSV.Props.C13.C13_shape
#print axioms RSV.Props.C13.C13_content
#print axioms RSV.Props.C13.C13_data_shards
#print axioms RSV.Props.C13.C13_parity_zero
#print axioms RSV.Props.C13.C13_one_shard
#print axioms RSV.Props.C13.C13_empty
#print axioms RSV.Props.C13.C13_join_split
#print axioms RSV.Props.C13.C13_join_prefix
#print axioms RSV.Props.C13.C13_join_short
#print axioms RSV.Props.C13.C13_join_too_few
#print axioms RSV.Props.C13.C13_join_nil_first
#print axioms RSV.Props.C13.C13_join_reconstruct_required
#print axioms RSV.Props.C13.C13_aliased_le
