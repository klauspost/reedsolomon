import RSV.Proofs.Reconstruct
import Mathlib.Algebra.Field.Rat
import Mathlib.Tactic.FinCases

/-!
# C02 — Reconstruct / ReconstructData / ReconstructSome return the original shards

Model: `RSV.Model.reconstruct` (`reedSolomon.reconstruct` of `reedsolomon.go`: choose the first `d`
present shards, invert that `d × d` sub-matrix of the generator `[I; A]`, multiply to recover the
missing data shards, re-encode the requested missing parity shards).
Specification: `RSV.Model.reconSpec` / `reconShape` (which indices are filled is a function of the
presence pattern and the mode only; every filled shard is the original).

The input is a codeword `encodeAll A data` with the shards outside `present` erased
(`RSV.Model.erase`).
-/

namespace RSV.Props.C02
open RSV.Model RSV.CodeTheory

section Spec
variable {G : Type} {d p len : ℕ}

/-- Reconstruct, at least `d` shards present: every shard is restored -/
theorem C02_spec_all (orig : Fin (d + p) → Shard G len) (present : Fin (d + p) → Bool)
    (hge : d ≤ countTrue present) :
    reconSpec orig present .all = .ok fun i => some (orig i) := by
  rw [reconSpec_of_enough _ _ hge]
  congr 1; funext i
  rw [fillAt_all]; cases present i <;> rfl

/-- ReconstructData, at least `d` shards present: exactly the data shards are restored, parity
slots are left as they were -/
theorem C02_spec_data (orig : Fin (d + p) → Shard G len) (present : Fin (d + p) → Bool)
    (hge : d ≤ countTrue present) :
    reconSpec orig present .dataOnly =
      .ok fun i => if present i || decide (i.val < d) then some (orig i) else none := by
  rw [reconSpec_of_enough _ _ hge]
  congr 1; funext i
  rw [fillAt_dataOnly]; cases present i <;> simp

/-- ReconstructSome (`full = true`: mask over all `d + p` shards; `full = false`: mask over the `d`
data shards, parity is never computed), at least `d` shards present: the call succeeds and
1. every requested shard (data shard, or parity shard when the mask is full) is restored;
2. present shards are untouched;
3. every returned shard is the original;
4. nothing else is filled except, when a requested parity shard is missing, the missing data
   shards (all of them are decoded on the way);
5. with a data-only mask no parity slot is filled. -/
theorem C02_spec_some (orig : Fin (d + p) → Shard G len) (present : Fin (d + p) → Bool)
    (req : List Bool) (full : Bool) (hge : d ≤ countTrue present) :
    ∃ out, reconSpec orig present (.some req full) = .ok out ∧
      (∀ i : Fin (d + p), requiredAt (.some req full) i.val = true → (i.val < d ∨ full = true) →
        out i = some (orig i)) ∧
      (∀ i, present i = true → out i = some (orig i)) ∧
      (∀ i s, out i = some s → s = orig i) ∧
      (∀ i : Fin (d + p), out i ≠ none → present i = true ∨ requiredAt (.some req full) i.val = true ∨
        (i.val < d ∧ full = true ∧ ∃ j : Fin (d + p), d ≤ j.val ∧ present j = false ∧
          requiredAt (.some req full) j.val = true)) ∧
      (full = false → ∀ i : Fin (d + p), d ≤ i.val → present i = false → out i = none) := by
  have h := reconSpec_of_enough orig (.some req full) hge
  refine ⟨_, h, ?_, (reconSpec_ok _ h).2, (reconSpec_ok _ h).1, ?_, ?_⟩
  · intro i hr hi
    cases hp : present i with
    | true => simp
    | false =>
      have : fillAt d p present (.some req full) i = true := by
        by_cases hlt : i.val < d
        · rw [fillAt_some_of_lt _ _ _ _ hlt, hp, hr]; rfl
        · rw [fillAt_some_of_ge _ _ _ _ hlt, hp, hr, hi.resolve_left hlt]; rfl
      simp [this]
  · intro i hne
    cases hp : present i with
    | true => exact Or.inl rfl
    | false =>
      right
      cases hr : requiredAt (.some req full) i.val with
      | true => exact Or.inl rfl
      | false =>
        right
        have hfill : fillAt d p present (.some req full) i = true := by
          by_contra hf
          apply hne
          simp [hp, hf]
        by_cases hlt : i.val < d
        · rw [fillAt_some_of_lt _ _ _ _ hlt, hp, hr, Bool.not_false, Bool.true_and, Bool.false_or,
            parityReq_eq_true_iff] at hfill
          exact ⟨hlt, by simpa [isDataOnly] using hfill.1, hfill.2.2⟩
        · simp [fillAt_some_of_ge _ _ _ _ hlt, hr] at hfill
  · intro hf i hi hp
    simp [fillAt_some_of_ge _ _ _ _ (Nat.not_lt.mpr hi), hp, hf]

end Spec

section Main
variable {F : Type} [Field F] [DecidableEq F] {d p len : ℕ}

/-- C02 main. For an MDS generator, Reconstruct / ReconstructData / ReconstructSome on an
encoded shard set with erasures return exactly the specification: the input unchanged on the
documented no-op conditions, `ErrTooFewShards` when fewer than `d` shards are present, otherwise
success with every filled shard equal to the original and every present shard untouched; never
`errSingular`. -/
theorem C02_mds (A : Mat F p d) (hA : MDS (fun r c => A.get r c)) (data : Fin d → Shard F len)
    (present : Fin (d + p) → Bool) (mode : ReconMode) :
    reconstruct A (erase (encodeAll A data) present) mode =
      reconSpec (encodeAll A data) present mode := by
  rw [reconstruct_erase]
  unfold reconSpec
  cases hs : reconShape d p present mode with
  | unchanged => rfl
  | tooFew => rfl
  | fill filled =>
    obtain ⟨dec, hdec⟩ := Option.isSome_iff_exists.mp
      (invert_subMat_isSome A hA present (reconShape_fill_le hs))
    simp only [hdec]

/-- C02 for any generator (PAR1, custom matrices — not necessarily MDS): the call either
behaves exactly as the specification or reports `errSingular`. -/
theorem C02_any (A : Mat F p d) (data : Fin d → Shard F len)
    (present : Fin (d + p) → Bool) (mode : ReconMode) :
    reconstruct A (erase (encodeAll A data) present) mode =
        reconSpec (encodeAll A data) present mode ∨
      reconstruct A (erase (encodeAll A data) present) mode = .error .singular := by
  rw [reconstruct_erase]
  unfold reconSpec
  cases hs : reconShape d p present mode with
  | unchanged => exact Or.inl rfl
  | tooFew => exact Or.inl rfl
  | fill filled =>
    cases hinv : invert (subMat A present) with
    | none => exact Or.inr rfl
    | some dec => exact Or.inl rfl

/-- C02, any generator: never wrong bytes. Whatever a successful call returns in a slot is
the original shard. -/
theorem C02_never_wrong (A : Mat F p d) (data : Fin d → Shard F len)
    (present : Fin (d + p) → Bool) (mode : ReconMode) (out : Fin (d + p) → Option (Shard F len))
    (h : reconstruct A (erase (encodeAll A data) present) mode = .ok out) :
    ∀ i s, out i = some s → s = encodeAll A data i := by
  rcases C02_any A data present mode with e | e
  · rw [e] at h; exact (reconSpec_ok _ h).1
  · rw [e] at h; cases h

/-- C02, any generator: present shards are untouched by a successful call. -/
theorem C02_present_untouched (A : Mat F p d) (data : Fin d → Shard F len)
    (present : Fin (d + p) → Bool) (mode : ReconMode) (out : Fin (d + p) → Option (Shard F len))
    (h : reconstruct A (erase (encodeAll A data) present) mode = .ok out) :
    ∀ i, present i = true → out i = some (encodeAll A data i) := by
  rcases C02_any A data present mode with e | e
  · rw [e] at h; exact (reconSpec_ok _ h).2
  · rw [e] at h; cases h

/-- C02, any generator: the documented early returns. If nothing is missing, or the call is
data-only (ReconstructData, ReconstructSome with a `d`-entry mask) and no data shard is missing, or
the call is ReconstructSome and no requested shard is missing, the input comes back unchanged —
even with fewer than `d` shards present. -/
theorem C02_noop (A : Mat F p d) (data : Fin d → Shard F len)
    (present : Fin (d + p) → Bool) (mode : ReconMode)
    (h : (∀ i, present i = true) ∨
      (isDataOnly mode = true ∧ ∀ i : Fin (d + p), i.val < d → present i = true) ∨
      ((∃ req full, mode = .some req full) ∧
        ∀ i : Fin (d + p), present i = false → requiredAt mode i.val = false)) :
    reconstruct A (erase (encodeAll A data) present) mode =
      .ok (erase (encodeAll A data) present) := by
  have hn : Noop d p present mode := by
    rcases h with h | h | ⟨⟨req, full, rfl⟩, h⟩
    · exact Or.inl h
    · exact Or.inr (Or.inl h)
    · exact Or.inr (Or.inr ⟨rfl, h⟩)
  rw [reconstruct_erase, reconShape_of_noop hn]

/-- C02, any generator: `ErrTooFewShards`. With fewer than `d` shards present the call fails
with `ErrTooFewShards` — unless it is a ReconstructSome call none of whose requested shards is
missing (then `C02_noop` applies). -/
theorem C02_too_few (A : Mat F p d) (data : Fin d → Shard F len)
    (present : Fin (d + p) → Bool) (mode : ReconMode) (hlt : countTrue present < d)
    (hreq : ∀ req full, mode = .some req full →
      ∃ i : Fin (d + p), present i = false ∧ requiredAt mode i.val = true) :
    reconstruct A (erase (encodeAll A data) present) mode = .error .tooFew := by
  have hn : ¬ Noop d p present mode := by
    rintro (h | ⟨-, h⟩ | ⟨hs, h⟩)
    · have := (countTrue_eq_iff present).mpr h
      omega
    · have h1 := (countTrue_data_eq_iff present).mpr h
      have h2 := countTrue_and_le present (fun i => decide (i.val < d))
      omega
    · rcases mode with _ | _ | ⟨req, full⟩
      · cases hs
      · cases hs
      · obtain ⟨i, hi1, hi2⟩ := hreq req full rfl
        rw [h i hi1] at hi2; cases hi2
  rw [reconstruct_erase, reconShape_of_lt hn hlt]

/-- C02, any generator: `ErrTooFewShards` exactly when fewer than `d` shards are present and
none of the early-return conditions (`RSV.Model.Noop`) holds. -/
theorem C02_too_few_iff (A : Mat F p d) (data : Fin d → Shard F len)
    (present : Fin (d + p) → Bool) (mode : ReconMode) :
    reconstruct A (erase (encodeAll A data) present) mode = .error .tooFew ↔
      countTrue present < d ∧ ¬ Noop d p present mode := by
  rw [reconstruct_erase]
  by_cases hn : Noop d p present mode
  · rw [reconShape_of_noop hn]
    exact ⟨fun h => (by cases h), fun h => absurd hn h.2⟩
  · by_cases hlt : countTrue present < d
    · rw [reconShape_of_lt hn hlt]
      exact ⟨fun _ => ⟨hlt, hn⟩, fun _ => rfl⟩
    · rw [reconShape_of_ge hn (Nat.le_of_not_lt hlt)]
      refine ⟨fun h => ?_, fun h => absurd h.1 hlt⟩
      dsimp only at h
      split at h <;> cases h

theorem C02_enough (present : Fin (d + p) → Bool)
    (h : countTrue (fun i => !present i) ≤ p) : d ≤ countTrue present := by
  have := countTrue_add_countTrue_not present
  omega

/-- C02 headline corollary. MDS generator, at most `p` shards lost: `Reconstruct` restores
every shard of the codeword. -/
theorem C02_reconstruct_all (A : Mat F p d) (hA : MDS (fun r c => A.get r c))
    (data : Fin d → Shard F len) (present : Fin (d + p) → Bool)
    (h : countTrue (fun i => !present i) ≤ p) :
    reconstruct A (erase (encodeAll A data) present) .all =
      .ok fun i => some (encodeAll A data i) := by
  rw [C02_mds A hA]
  exact C02_spec_all _ present (C02_enough present h)

end Main

/-- the `2 + 1` XOR-parity code over `ℚ` is MDS, so `C02_mds` applies to it -/
theorem xor21_mds : MDS (fun r c => (Mat.ofFn fun _ _ => (1 : ℚ) : Mat ℚ 1 2).get r c) := by
  have h := ones_mds (F := ℚ) (d := 2) (fun c => if c = 0 then 0 else 1) (by
    intro a b; fin_cases a <;> fin_cases b <;> simp)
  simpa using h

example : ∃ A : Mat ℚ 1 2, MDS (fun r c => A.get r c) := ⟨_, xor21_mds⟩

/-- a concrete instance: data shard 0 lost, `Reconstruct` brings the whole codeword back -/
example (data : Fin 2 → Shard ℚ 3) :
    reconstruct (Mat.ofFn fun _ _ => (1 : ℚ) : Mat ℚ 1 2)
        (erase (encodeAll (Mat.ofFn fun _ _ => (1 : ℚ) : Mat ℚ 1 2) data) (fun i => decide (i.val ≠ 0))) .all =
      .ok fun i => some (encodeAll (Mat.ofFn fun _ _ => (1 : ℚ) : Mat ℚ 1 2) data i) :=
  C02_reconstruct_all _ xor21_mds data _ (by decide)

end RSV.Props.C02

#print axioms RSV.Props.C02.C02_mds
#print axioms RSV.Props.C02.C02_any
#print axioms RSV.Props.C02.C02_never_wrong
#print axioms RSV.Props.C02.C02_present_untouched
#print axioms RSV.Props.C02.C02_noop
#print axioms RSV.Props.C02.C02_too_few
#print axioms RSV.Props.C02.C02_too_few_iff
#print axioms RSV.Props.C02.C02_enough
#print axioms RSV.Props.C02.C02_reconstruct_all
#print axioms RSV.Props.C02.C02_spec_all
#print axioms RSV.Props.C02.C02_spec_data
#print axioms RSV.Props.C02.C02_spec_some
