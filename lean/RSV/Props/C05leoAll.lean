import RSV.Proofs.LCHDecode.MathAll
import RSV.Proofs.LCHDecode.SchedInstances
/-!
# C05 (Leopard) — Reconstruct restores every erased shard, for EVERY admissible configuration and EVERY erasure set

The executable schedule model `Leo.reconstruct` (error-locator table by two truncated fast Walsh–Hadamard transforms
over `Z/(2^k - 1)` with Leopard's folded representatives, locator-weighted load, truncated radix-4 inverse FFT,
formal-derivative loop, truncated radix-4 FFT, division by the locator derivative — all in log/exp table arithmetic)
is proved to return, at every missing index, exactly the original shard — the data shard, or the parity shard that
`Leo.encode` produces — and nothing at present indices:

* `C05_leo8_reconstruct_all`:  all `0 < d`, `p ≤ 2^64`, `ceilPow2 p + d ≤ 256`, all well-formed data with symbols below 256,
  all erasure sets with at most `p` of the `d + p` shards missing, both modes (`recoverAll` = Reconstruct,
  `¬ recoverAll` = ReconstructData), whatever bytes sit in the missing slots;
* `C05_leo16_reconstruct_all`: the same up to 65,536 shards.

Ingredients (all in `RSV/Proofs/LCH*`): the Lin–Chung–Han transform is evaluation/interpolation in the novel basis
(`fft_correct`, `P_ifft`); for a Cantor basis (`cantor8`, `cantor16`: `W_i(β_i) = 1`, checked by `k` short
iterations of `y ↦ y² + y`) the subspace polynomials have derivative 1, so the in-place xor loop computes `g + g'`
in the novel basis (`derivLoop_eq_derivCoeff`); the encoder's codeword is the evaluation vector of one polynomial of
degree `< n - m` (`codeword_top_zero`); the decoding identity `(fΛ)'(ω_e) = f(ω_e)Λ'(ω_e)` (`decode_identity`);
the Walsh–Hadamard convolution theorem with `2^k ≡ 1 (mod 2^k - 1)` gives the locator logarithms
(`errLocs_ok`); the literal loop schedules refine the clean networks (`run_reconSched_row`), read symbol-wise
through the field readings `F8` / `F16` (`recon_row`).  No table is evaluated and no configuration enumerated.
-/
namespace RSV.Props.C05leoAll
open RSV RSV.Model.Leo RSV.LCH RSV.LCHBridge RSV.LCHDecode RSV.Proofs.LeoSched

/-- Leopard GF(2^8): every erased shard is restored bit-exactly — every admissible shape, every erasure set of at most `p` shards -/
theorem C05_leo8_reconstruct_all {d p len : ℕ} {data sh : Array Vec} {missing : ℕ → Bool}
    (hd : 0 < d) (hp64 : p ≤ 2 ^ 64) (hadm : ceilPow2 p + d ≤ 256)
    (hdsz : data.size = d) (hwd : WF len data) (hbd : SymsBelow 256 data)
    (hmiss : ((Finset.range (d + p)).filter (fun i => missing i)).card ≤ p)
    (hshd : ∀ i, i < d → missing i = false → sh[i]! = data[i]!)
    (hshp : ∀ r, r < p → missing (d + r) = false → sh[d + r]! = (encode (mkCtx P8) d p len data)[r]!)
    (recoverAll : Bool) (i : ℕ) (hi : i < d + p) :
    (reconstruct (mkCtx P8) d p len sh missing recoverAll)[i]! =
      if missing i = true ∧ (i < d ∨ recoverAll = true) then
        some (if i < d then data[i]! else (encode (mkCtx P8) d p len data)[i - d]!)
      else none :=
  reconstruct_correct8 hd hp64 hadm hdsz hwd hbd hmiss hshd hshp recoverAll i hi

/-- Leopard GF(2^16): the same up to 65,536 shards -/
theorem C05_leo16_reconstruct_all {d p len : ℕ} {data sh : Array Vec} {missing : ℕ → Bool}
    (hd : 0 < d) (hp64 : p ≤ 2 ^ 64) (hadm : ceilPow2 p + d ≤ 65536)
    (hdsz : data.size = d) (hwd : WF len data) (hbd : SymsBelow 65536 data)
    (hmiss : ((Finset.range (d + p)).filter (fun i => missing i)).card ≤ p)
    (hshd : ∀ i, i < d → missing i = false → sh[i]! = data[i]!)
    (hshp : ∀ r, r < p → missing (d + r) = false → sh[d + r]! = (encode (mkCtx P16) d p len data)[r]!)
    (recoverAll : Bool) (i : ℕ) (hi : i < d + p) :
    (reconstruct (mkCtx P16) d p len sh missing recoverAll)[i]! =
      if missing i = true ∧ (i < d ∨ recoverAll = true) then
        some (if i < d then data[i]! else (encode (mkCtx P16) d p len data)[i - d]!)
      else none :=
  reconstruct_correct16 hd hp64 hadm hdsz hwd hbd hmiss hshd hshp recoverAll i hi

/-- the error-locator table of the model is the table of logarithms of `Λ` (present positions) and `Λ'` (erased
positions), for every erasure set — the fact the GF(2^8) locator cache stores -/
theorem C05_leo8_errLocs (d p : ℕ) (missing : ℕ → Bool) (hadm : ceilPow2 p + d ≤ 256) :
    ElOK F8 (erasedSet d p missing) (errLocs (mkCtx P8) d p missing) :=
  errLocs_ok8 d p missing hadm

theorem C05_leo16_errLocs (d p : ℕ) (missing : ℕ → Bool) (hadm : ceilPow2 p + d ≤ 65536) :
    ElOK F16 (erasedSet d p missing) (errLocs (mkCtx P16) d p missing) :=
  errLocs_ok16 d p missing hadm

/-- Leopard's bases are Cantor bases: every subspace polynomial is 1 at the next basis element -/
theorem C05_cantor_bases : Cantor (beta F8) 8 ∧ Cantor (beta F16) 16 := ⟨cantor8, cantor16⟩

end RSV.Props.C05leoAll

#print axioms RSV.Props.C05leoAll.C05_leo8_reconstruct_all
#print axioms RSV.Props.C05leoAll.C05_leo16_reconstruct_all
#print axioms RSV.Props.C05leoAll.C05_leo8_errLocs
#print axioms RSV.Props.C05leoAll.C05_leo16_errLocs
#print axioms RSV.Props.C05leoAll.C05_cantor_bases
