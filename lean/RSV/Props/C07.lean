import RSV.Proofs.Dispatch
import RSV.Props.Consts
import RSV.Props.C07opts  -- not used below: the C07 check audits this module and, through this import, C07opts

/-!
# C07 — results do not depend on goroutine settings / split sizes / kernel granularity

`RSV.Model.Dispatch` models how `codeSomeShardsP/AVXP/GFNI` and `updateParityShardsP` cut the byte
range `[0, byteCount)` into worker ranges (`workerRanges`, `updateRanges`), and how a worker cuts
its range into one SIMD kernel call on a granularity-aligned prefix plus scalar rounds
(`execPieces`).  Every byte of the output is a function of its offset alone (`f : Nat → β`), so
the output of a call is `evalPieces f` of the pieces.

The pieces form a chain (`*_chain`): consecutive, from `0` (resp. the worker's start) to `byteCount`
(resp. the worker's stop), so nothing is skipped and nothing is computed twice; piecewise
evaluation over a chain is whole evaluation (`C07_evalPieces`).  Hence any two option records with
`0 < minSplitSize` and `0 < perRound` give the same bytes (`C07_options`), and the write ranges of
different workers / pieces are disjoint, so no schedule can change the result.

All statements hold for `gor = 0` as well (`byteCount / 0 = 0` in the model; Go would panic, the
real options always have `maxGoroutines ≥ 1`), so no `0 < gor` hypothesis is needed.
-/

namespace RSV.Props.C07
open RSV.Model.Dispatch RSV.Proofs.Dispatch

theorem C07_splitLoop_chain (n d start fuel : Nat) (hd : 0 < d) (hs : start ≤ n)
    (hf : n - start < fuel) : Chain (splitLoop n fuel d start) start n :=
  splitLoop_chain n fuel d start hd hs hf

theorem C07_updateRanges_chain (n gor ms : Nat) (hms : 0 < ms) :
    Chain (updateRanges n gor ms) 0 n := by
  rw [updateRanges_eq]
  exact splitLoop_chain n (n + 1) _ 0 (split0_pos hms) (Nat.zero_le _) (by omega)

theorem C07_workerRanges_chain (n gor ms : Nat) (hms : 0 < ms) :
    Chain (workerRanges n gor ms) 0 n := by
  by_cases hg : gor ≤ 1
  · rw [workerRanges_of_le hg]
    exact chain_cons.2 ⟨rfl, Nat.zero_le _, chain_nil.2 rfl⟩
  · rw [workerRanges_of_lt (Nat.not_le.1 hg)]
    have := split0_pos (n := n) (gor := gor) hms
    exact splitLoop_chain n (n + 1) _ 0 (by omega) (Nat.zero_le _) (by omega)

/-- every worker range starts on a multiple of 64 and ends on a multiple of 64 or at `byteCount`
(when more than one goroutine is allowed) -/
theorem C07_workerRanges_aligned (n gor ms : Nat) (hg : 1 < gor) :
    ∀ p ∈ workerRanges n gor ms, p.1 % 64 = 0 ∧ (p.2 % 64 = 0 ∨ p.2 = n) := by
  rw [workerRanges_of_lt hg]
  exact splitLoop_aligned n _ _ 0 fun _ => ⟨rfl, Nat.mul_mod_left _ _⟩

/-- with a single goroutine there is exactly one worker range, the whole input -/
theorem C07_workerRanges_single (n gor ms : Nat) (hg : gor ≤ 1) :
    workerRanges n gor ms = [(0, n)] :=
  workerRanges_of_le hg

theorem C07_scalarRounds_chain (stop pr start fuel : Nat) (hpr : 0 < pr) (hs : start ≤ stop)
    (hf : stop - start < fuel) : Chain (scalarRounds stop pr fuel start) start stop :=
  scalarRounds_chain stop pr hpr fuel start hs hf

theorem C07_scalarRounds_le (stop pr start fuel : Nat) :
    ∀ p ∈ scalarRounds stop pr fuel start, p.2 - p.1 ≤ pr := fun p hp => by
  have := scalarRounds_snd stop pr fuel start p hp
  omega

/-- every scalar round except possibly the last has exactly `perRound` bytes -/
theorem C07_scalarRounds_full (stop pr start fuel : Nat) :
    ∀ p ∈ scalarRounds stop pr fuel start, p.2 - p.1 = pr ∨ p.2 = stop := fun p hp => by
  have := scalarRounds_snd stop pr fuel start p hp
  omega

theorem C07_execPieces_chain (start stop pr : Nat) (g : Option Nat) (hpr : 0 < pr)
    (hs : start ≤ stop) : Chain ((execPieces start stop pr g).map (·.1)) start stop :=
  execPieces_chain start stop pr g hpr hs

/-- the kernel piece starts at the worker's start, is `g`-aligned in length, lies inside the
worker's range and is only used on ranges of at least 64 bytes -/
theorem C07_kernel_piece (start stop pr g' : Nat) (p : Piece)
    (hp : (p, true) ∈ execPieces start stop pr (some g')) :
    p.1 = start ∧ (p.2 - p.1) % g' = 0 ∧ 64 ≤ stop - start ∧ p.2 ≤ stop := by
  obtain ⟨hn, rfl⟩ := mem_execPieces_kernel.1 hp
  obtain ⟨hmod, h64⟩ := kernelLen_some start stop g'
  have hk := kernelLen_le start stop (some g')
  refine ⟨rfl, ?_, h64 hn, Nat.add_le_of_le_sub' (by omega) hk⟩
  show (start + _ - start) % g' = 0
  rwa [Nat.add_sub_cancel_left]

/-- without a kernel (`noasm`, or a code path with no SIMD), no piece is a kernel piece -/
theorem C07_no_kernel_piece (start stop pr : Nat) (p : Piece) :
    (p, true) ∉ execPieces start stop pr none :=
  fun hp => (mem_execPieces_kernel.1 hp).1 rfl

theorem C07_allPieces_chain (n gor ms pr : Nat) (g : Option Nat) (hms : 0 < ms) (hpr : 0 < pr) :
    Chain ((allPieces n gor ms pr g).map (·.1)) 0 n := by
  unfold allPieces
  rw [List.map_flatMap]
  exact chain_flatMap (fun se => (execPieces se.1 se.2 pr g).map (·.1))
    (fun s e hse => execPieces_chain s e pr g hpr hse) _ 0 n (C07_workerRanges_chain n gor ms hms)

/-- a chain covers every offset exactly once (counting formulation) -/
theorem C07_chain_partition (ps : List Piece) (a b : Nat) (h : Chain ps a b) (k : Nat)
    (hk : a ≤ k ∧ k < b) : ps.countP (fun p => decide (p.1 ≤ k ∧ k < p.2)) = 1 :=
  chain_countP_one k ps a b h hk.1 hk.2

/-- a chain covers no offset outside `[a, b)` -/
theorem C07_chain_outside (ps : List Piece) (a b : Nat) (h : Chain ps a b) (k : Nat)
    (hk : k < a ∨ b ≤ k) : ps.countP (fun p => decide (p.1 ≤ k ∧ k < p.2)) = 0 :=
  chain_countP_zero k ps a b h hk

/-- a chain covers every offset exactly once (`∃!` over the index, spelled out in core Lean): some
piece contains `k` since the count is positive, and of two pieces the earlier ends before the
later starts -/
theorem C07_chain_partition_index (ps : List Piece) (a b : Nat) (h : Chain ps a b) (k : Nat)
    (hk : a ≤ k ∧ k < b) :
    ∃ i : Fin ps.length, (ps[i].1 ≤ k ∧ k < ps[i].2) ∧
      ∀ j : Fin ps.length, (ps[j].1 ≤ k ∧ k < ps[j].2) → j = i := by
  have hpos : 0 < ps.countP (fun p => decide (p.1 ≤ k ∧ k < p.2)) := by
    rw [chain_countP_one k ps a b h hk.1 hk.2]; exact Nat.one_pos
  obtain ⟨p, hp, hpk⟩ := List.countP_pos_iff.1 hpos
  obtain ⟨i, hi, rfl⟩ := List.getElem_of_mem hp
  have hik : ps[i].1 ≤ k ∧ k < ps[i].2 := of_decide_eq_true hpk
  have hpw := List.pairwise_iff_getElem.1 (chain_pairwise ps a b h)
  refine ⟨⟨i, hi⟩, hik, fun ⟨j, hj⟩ hjk => Fin.ext ?_⟩
  have hjk : ps[j].1 ≤ k ∧ k < ps[j].2 := hjk
  rcases Nat.lt_trichotomy j i with hlt | heq | hgt
  · have := hpw j i hj hi hlt; omega
  · exact heq
  · have := hpw i j hi hj hgt; omega

theorem C07_evalPieces (β : Type) (f : Nat → β) (ps : List Piece) (a b : Nat) (h : Chain ps a b) :
    evalPieces f ps = (List.range' a (b - a)).map f :=
  evalPieces_chain f ps a b h

/-- every option record with `0 < ms` (min split size) and `0 < pr` (per-round size) gives the
option-free evaluation `[f 0, …, f (n-1)]` -/
theorem C07_options_free (β : Type) (f : Nat → β) (n gor ms pr : Nat) (g : Option Nat)
    (hms : 0 < ms) (hpr : 0 < pr) :
    evalPieces f ((allPieces n gor ms pr g).map (·.1)) = (List.range' 0 n).map f := by
  rw [evalPieces_chain f _ 0 n (C07_allPieces_chain n gor ms pr g hms hpr), Nat.sub_zero]

/-- any two option records (goroutine count, min split size `> 0`, per-round size `> 0`, kernel
granularity or no kernel) give the same bytes -/
theorem C07_options (β : Type) (f : Nat → β) (n : Nat)
    (gor₁ ms₁ pr₁ : Nat) (g₁ : Option Nat) (gor₂ ms₂ pr₂ : Nat) (g₂ : Option Nat)
    (hms₁ : 0 < ms₁) (hpr₁ : 0 < pr₁) (hms₂ : 0 < ms₂) (hpr₂ : 0 < pr₂) :
    evalPieces f ((allPieces n gor₁ ms₁ pr₁ g₁).map (·.1)) =
      evalPieces f ((allPieces n gor₂ ms₂ pr₂ g₂).map (·.1)) := by
  rw [C07_options_free β f n gor₁ ms₁ pr₁ g₁ hms₁ hpr₁,
    C07_options_free β f n gor₂ ms₂ pr₂ g₂ hms₂ hpr₂]

/-- the same for `updateParityShardsP` (worker ranges only; `0 < ms`) -/
theorem C07_update_options (β : Type) (f : Nat → β) (n gor₁ ms₁ gor₂ ms₂ : Nat)
    (hms₁ : 0 < ms₁) (hms₂ : 0 < ms₂) :
    evalPieces f (updateRanges n gor₁ ms₁) = evalPieces f (updateRanges n gor₂ ms₂) := by
  rw [evalPieces_chain f _ 0 n (C07_updateRanges_chain n gor₁ ms₁ hms₁),
    evalPieces_chain f _ 0 n (C07_updateRanges_chain n gor₂ ms₂ hms₂)]

/-- worker ranges are pairwise disjoint (each ends before every later one starts), so the order
in which workers run (any schedule) cannot matter -/
theorem C07_workers_disjoint (n gor ms : Nat) (hms : 0 < ms) :
    (workerRanges n gor ms).Pairwise (fun p q => p.2 ≤ q.1) :=
  chain_pairwise _ 0 n (C07_workerRanges_chain n gor ms hms)

theorem C07_update_workers_disjoint (n gor ms : Nat) (hms : 0 < ms) :
    (updateRanges n gor ms).Pairwise (fun p q => p.2 ≤ q.1) :=
  chain_pairwise _ 0 n (C07_updateRanges_chain n gor ms hms)

/-- all kernel calls and scalar rounds of one call write pairwise disjoint ranges -/
theorem C07_allPieces_disjoint (n gor ms pr : Nat) (g : Option Nat) (hms : 0 < ms) (hpr : 0 < pr) :
    ((allPieces n gor ms pr g).map (·.1)).Pairwise (fun p q => p.2 ≤ q.1) :=
  chain_pairwise _ 0 n (C07_allPieces_chain n gor ms pr g hms hpr)

example : workerRanges 300 4 64 = [(0, 128), (128, 256), (256, 300)] := by decide
example : workerRanges 300 1 64 = [(0, 300)] := by decide
example : workerRanges 300 0 64 = [(0, 300)] := by decide
example : workerRanges 100 8 16 = [(0, 64), (64, 100)] := by decide
example : updateRanges 300 4 64 = [(0, 75), (75, 150), (150, 225), (225, 300)] := by decide
example : updateRanges 10 0 4 = [(0, 4), (4, 8), (8, 10)] := by decide
example : scalarRounds 200 64 201 0 = [(0, 64), (64, 128), (128, 192), (192, 200)] := by decide
example : execPieces 0 200 64 (some 32) = [((0, 192), true), ((192, 200), false)] := by decide
example : execPieces 0 200 64 (some 64) = [((0, 192), true), ((192, 200), false)] := by decide
example : execPieces 0 200 64 none =
    [((0, 64), false), ((64, 128), false), ((128, 192), false), ((192, 200), false)] := by decide
example : execPieces 0 63 64 (some 32) = [((0, 63), false)] := by decide
example : execPieces 128 256 64 (some 32) = [((128, 256), true)] := by decide
example : allPieces 300 4 64 64 (some 32) =
    [((0, 128), true), ((128, 256), true), ((256, 300), false)] := by decide
example : allPieces 300 1 64 64 (some 32) =
    [((0, 288), true), ((288, 300), false)] := by decide
example : evalPieces (fun i => i * i) [(0, 2), (2, 2), (2, 5)] = [0, 1, 4, 9, 16] := by decide
/-- the positivity hypotheses are needed: with `minSplit = 0` and `byteCount < gor` the Go loop
does not advance (`do = 0`); the fuel-bounded model returns `byteCount + 1` empty pieces and not a
chain to `byteCount` -/
example : ¬ Chain (updateRanges 1 2 0) 0 1 := by decide
example : ¬ Chain (scalarRounds 1 0 2 0) 0 1 := by decide

/-- the code-generation thresholds regenerated from the Go source are the ones the dispatch model assumes -/
theorem C07_constants : RSV.Gen.minCodeGenSize = 64 ∧ RSV.Gen.codeGenMinSize = 64 ∧ RSV.Gen.codeGenMinShards = 3 ∧
    RSV.Gen.codeGenMaxInputs = 10 ∧ RSV.Gen.codeGenMaxOutputs = 10 ∧ RSV.Gen.codeGenMaxGoroutines = 8 ∧
    RSV.Gen.gfniCodeGenMaxGoroutines = 4 := RSV.Props.Consts.dispatch_constants


end RSV.Props.C07

#print axioms RSV.Props.C07.C07_splitLoop_chain
#print axioms RSV.Props.C07.C07_workerRanges_chain
#print axioms RSV.Props.C07.C07_updateRanges_chain
#print axioms RSV.Props.C07.C07_workerRanges_aligned
#print axioms RSV.Props.C07.C07_workerRanges_single
#print axioms RSV.Props.C07.C07_scalarRounds_chain
#print axioms RSV.Props.C07.C07_scalarRounds_le
#print axioms RSV.Props.C07.C07_scalarRounds_full
#print axioms RSV.Props.C07.C07_execPieces_chain
#print axioms RSV.Props.C07.C07_kernel_piece
#print axioms RSV.Props.C07.C07_no_kernel_piece
#print axioms RSV.Props.C07.C07_allPieces_chain
#print axioms RSV.Props.C07.C07_chain_partition
#print axioms RSV.Props.C07.C07_chain_outside
#print axioms RSV.Props.C07.C07_chain_partition_index
#print axioms RSV.Props.C07.C07_evalPieces
#print axioms RSV.Props.C07.C07_options_free
#print axioms RSV.Props.C07.C07_options
#print axioms RSV.Props.C07.C07_update_options
#print axioms RSV.Props.C07.C07_workers_disjoint
#print axioms RSV.Props.C07.C07_update_workers_disjoint
#print axioms RSV.Props.C07.C07_allPieces_disjoint
#print axioms RSV.Props.C07.C07_constants
