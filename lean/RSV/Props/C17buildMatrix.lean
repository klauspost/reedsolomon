import RSV.Proofs.GenBuildMatrix
/-!
# C17 (matrix code) — `buildMatrix` and `matrix.Multiply`, regenerated from the Go source, equal the model's

`Gen.buildMatrix` (reedsolomon.go) goes through the regenerated `vandermonde`, `SubMatrix`, `Invert` and `Multiply`
(matrix.go).  For every shape `0 < d ≤ total` (`d < 2^55`, `total < 2^63`: the ranges in which Go's `int`
arithmetic does not wrap) it returns exactly the model's generator matrix `Model.buildMatrix xByte d total`
(Vandermonde times the inverse of its top square) listed as bytes — or `(nil, errSingular)` exactly when the model
returns `none`.  `matrix.Multiply` is the model's matrix product `mulMat` for all non-empty shapes.
-/
namespace RSV.Props.C17buildMatrix
open RSV.Model

/-- `matrix.Multiply` = `mulMat` -/
theorem C17m_Multiply {n k c : Nat} (A : Mat GF256 n k) (B : Mat GF256 k c) (hn : 0 < n) (hk : 0 < k) (hc : 0 < c) :
    Gen.matrix_Multiply (rowsOfMat A) (rowsOfMat B) = some (rowsOfMat (mulMat A B), none) :=
  GenBuildMatrix.multiply_model A B hn hk hc

/-- `buildMatrix(d, total)` = `Model.buildMatrix`, both outcomes -/
theorem C17m_buildMatrix (d total : Nat) (hd : 0 < d) (h : d ≤ total) (hd55 : d < 2 ^ 55) (ht63 : total < 2 ^ 63) :
    Gen.buildMatrix (d : Int) (total : Int) =
      match Model.buildMatrix xByte d total h with
      | some M => some (rowsOfMat M, none)
      | none => some (#[], some "errSingular") :=
  GenBuildMatrix.buildMatrix_eq d total hd h hd55 ht63

/-- the executable comparison `genBuildMatrixAgrees` can only answer `true` -/
theorem C17m_genBuildMatrixAgrees (d total : Nat) (hd : 0 < d) (h : d ≤ total) (hd55 : d < 2 ^ 55)
    (ht63 : total < 2 ^ 63) : genBuildMatrixAgrees d total = true :=
  GenBuildMatrix.genBuildMatrixAgrees_true d total hd h hd55 ht63

/-! non-vacuity -/
example : genBuildMatrixAgrees 4 7 = true := C17m_genBuildMatrixAgrees 4 7 (by decide) (by decide) (by decide) (by decide)
example : ∃ M, Model.buildMatrix xByte 3 5 (by decide) = some M ∧ Gen.buildMatrix 3 5 = some (rowsOfMat M, none) := by
  have h := C17m_buildMatrix 3 5 (by decide) (by decide) (by decide) (by decide)
  have hs : (Model.buildMatrix xByte 3 5 (by decide)).isSome = true := by decide +kernel
  cases hi : Model.buildMatrix xByte 3 5 (by decide) with
  | none => rw [hi] at hs; exact absurd hs (by decide)
  | some M => rw [hi] at h; exact ⟨M, rfl, h⟩

end RSV.Props.C17buildMatrix

#print axioms RSV.Props.C17buildMatrix.C17m_Multiply
#print axioms RSV.Props.C17buildMatrix.C17m_buildMatrix
#print axioms RSV.Props.C17buildMatrix.C17m_genBuildMatrixAgrees
