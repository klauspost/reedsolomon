import RSV.Model.Frames
import RSV.Props.C02
import RSV.Props.Consts

/-!
# C09 — operations write only where the contract allows

Model: `RSV.Model.Frames` (`W`: `u` = caller memory untouched, `w` = written in place inside
`[0,len)`, `a` = replaced by a fresh allocation; the frames of Encode / Verify / Reconstruct* /
EncodeIdx / Update, and the arithmetic model `allocAligned` of `AllocAligned`).

The frames are compared with `reconSpec` through `RSV.Model.filledAt` / `reconSpec_eq`, and with
the executable model `reconstruct` (`C09_recon_matches_model`) through `C02_any`.
-/

namespace RSV.Props.C09
open RSV.Model RSV.Model.Frames

theorem mem_offs {shards each r : Nat} {u : Bool} {o : Nat}
    (h : o ∈ (allocAligned shards each r u).offs) :
    ∃ i, i < shards ∧
      o = (allocAligned shards each r u).skip + i * (allocAligned shards each r u).cap := by
  simp only [allocAligned, List.mem_map, List.mem_range] at h ⊢
  obtain ⟨i, hi, rfl⟩ := h
  exact ⟨i, hi, rfl⟩

theorem skip_le (shards each r : Nat) (u : Bool) : (allocAligned shards each r u).skip ≤ 63 := by
  show (if u && decide (r % 64 > 0) then 64 - r % 64 else 0) ≤ 63
  split
  · next h =>
    simp only [Bool.and_eq_true, decide_eq_true_eq] at h
    omega
  · omega

/-- C09 AllocAligned, for all shard counts, sizes and base alignments, in both builds:
`shards` slices of length `each` and capacity `ceil64(each)`; every slice together with its
capacity lies inside the backing array; the slices are pairwise disjoint, capacities included. -/
theorem C09_alloc (shards each r : Nat) (u : Bool) :
    let a := allocAligned shards each r u
    a.offs.length = shards ∧ a.len = each ∧ each ≤ a.cap ∧ a.cap % 64 = 0 ∧ a.cap < each + 64 ∧
    (∀ o ∈ a.offs, o + a.cap ≤ a.total) ∧
    (a.offs.Pairwise fun x y => x + a.cap ≤ y) := by
  intro a
  refine ⟨?_, rfl, ?_, ?_, ?_, ?_, ?_⟩
  · simp [a, allocAligned]
  · show each ≤ (each + 63) / 64 * 64
    omega
  · show (each + 63) / 64 * 64 % 64 = 0
    omega
  · show (each + 63) / 64 * 64 < each + 64
    omega
  · intro o ho
    obtain ⟨i, hi, rfl⟩ := mem_offs ho
    have hs : a.skip ≤ 63 := skip_le shards each r u
    have hm : (i + 1) * a.cap ≤ shards * a.cap := Nat.mul_le_mul_right _ hi
    have ht : a.total = a.cap * shards + 63 := rfl
    rw [Nat.add_mul, Nat.one_mul] at hm
    rw [Nat.mul_comm shards] at hm
    show a.skip + i * a.cap + a.cap ≤ a.total
    omega
  · show List.Pairwise _ ((List.range shards).map fun i => a.skip + i * a.cap)
    rw [List.pairwise_map]
    refine List.Pairwise.imp ?_ (List.pairwise_lt_range (n := shards))
    intro x y hxy
    have hm : (x + 1) * a.cap ≤ y * a.cap := Nat.mul_le_mul_right _ hxy
    rw [Nat.add_mul, Nat.one_mul] at hm
    omega

/-- C09 AllocAligned, default build: every slice starts at a 64-byte aligned address
(`r` = address of the backing array mod 64). -/
theorem C09_alloc_aligned (shards each r : Nat) :
    ∀ o ∈ (allocAligned shards each r true).offs, (r + o) % 64 = 0 := by
  intro o ho
  obtain ⟨i, -, rfl⟩ := mem_offs ho
  show (r + ((if true && decide (r % 64 > 0) then 64 - r % 64 else 0) + i * ((each + 63) / 64 * 64))) % 64 = 0
  rw [← Nat.mul_assoc]
  generalize i * ((each + 63) / 64) = m
  simp only [Bool.true_and, decide_eq_true_eq]
  split <;> omega

/-- the build without pointer arithmetic (`unsafeAlign = false`) does not skip: the first slice is
at offset 0 and slice `i` at `i * cap` (no alignment promise) -/
theorem C09_alloc_noskip (shards each r : Nat) :
    (allocAligned shards each r false).skip = 0 ∧
    (allocAligned shards each r false).offs =
      (List.range shards).map fun i => i * (allocAligned shards each r false).cap := by
  simp [allocAligned]

/-- C09 Encode: data untouched, parity written in place -/
theorem C09_encode_frame (d p : Nat) :
    encodeFrame d p = List.replicate d .u ++ List.replicate p .w ∧ (encodeFrame d p).length = d + p := by
  simp [encodeFrame]

theorem C09_encode_data {d p : Nat} (i : Nat) (hi : i < d) : (encodeFrame d p)[i]? = some .u := by
  simp [encodeFrame, List.getElem?_append_left, hi]

theorem C09_encode_parity {d p : Nat} (j : Nat) (hj : j < p) : (encodeFrame d p)[d + j]? = some .w := by
  simp [encodeFrame, hj]

/-- C09 Verify writes nothing -/
theorem C09_verify_frame (d p : Nat) : ∀ x ∈ verifyFrame d p, x = .u := by
  intro x hx
  exact (List.mem_replicate.mp hx).2

theorem C09_verify_length (d p : Nat) : (verifyFrame d p).length = d + p := by
  simp [verifyFrame]

/-- C09 EncodeIdx: data shards are never written -/
theorem C09_idx_frame (d p k : Nat) (i : Nat) (hi : i < d) : (idxFrame d p k)[i]? = some .u := by
  simp [idxFrame, List.getElem?_append_left, hi]

theorem C09_idx_parity (d p k : Nat) (j : Nat) (hj : j < p) :
    (idxFrame d p k)[d + j]? = some (if k = 0 then .u else .w) := by
  simp [idxFrame, hj]

/-- C09 Update: unchanged data shards are untouched -/
theorem C09_update_frame (d p : Nat) (changed : Fin d → Bool) (c : Fin d) (h : changed c = false) :
    (updateFrame d p changed)[c.val]? = some .u := by
  simp [updateFrame, List.getElem?_append_left, h]

/-- Update: the old copy of a changed data shard is written in place (it is xor-ed with the new data) -/
theorem C09_update_changed (d p : Nat) (changed : Fin d → Bool) (c : Fin d) (h : changed c = true) :
    (updateFrame d p changed)[c.val]? = some .w := by
  simp [updateFrame, List.getElem?_append_left, h]

/-- C09 Update: parity is written in place -/
theorem C09_update_parity (d p : Nat) (changed : Fin d → Bool) (j : Nat) (hj : j < p) :
    (updateFrame d p changed)[d + j]? = some .w := by
  simp [updateFrame, hj]

theorem C09_update_length (d p : Nat) (changed : Fin d → Bool) :
    (updateFrame d p changed).length = d + p := by
  simp [updateFrame]

def reconClass (d p : Nat) (present : Fin (d + p) → Bool) (mode : ReconMode)
    (capOk : Fin (d + p) → Bool) (i : Fin (d + p)) : W :=
  if !present i && filledAt d p present mode i then (if capOk i then .w else .a) else .u

theorem reconFrame_get (d p : Nat) (present : Fin (d + p) → Bool) (mode : ReconMode)
    (capOk : Fin (d + p) → Bool) (i : Fin (d + p)) :
    (reconFrame d p present mode capOk)[i.val]? = some (reconClass d p present mode capOk i) := by
  have hi := i.isLt
  rw [reconFrame, reconClass, filledAt_eq, reconShape_def]
  by_cases he : earlyB d p present mode = true
  · simp [he, hi]
  by_cases hlt : countTrue present < d
  · simp [he, hlt, not_le.2 hlt, hi]
  · simp [he, hlt, not_lt.1 hlt]

theorem C09_recon_length (d p : Nat) (present : Fin (d + p) → Bool) (mode : ReconMode)
    (capOk : Fin (d + p) → Bool) : (reconFrame d p present mode capOk).length = d + p := by
  unfold reconFrame
  split <;> simp

/-- C09 Reconstruct*: only missing shards are ever written or replaced -/
theorem C09_recon_only_missing (d p : Nat) (present : Fin (d + p) → Bool) (mode : ReconMode)
    (capOk : Fin (d + p) → Bool) (i : Fin (d + p))
    (h : (reconFrame d p present mode capOk)[i.val]? ≠ some .u) : present i = false := by
  rw [reconFrame_get] at h
  cases hp : present i with
  | false => rfl
  | true => simp [reconClass, hp] at h

/-- C09 Reconstruct*: a shard is written in place only when its capacity suffices (an implication,
whatever the name says; the converse for a missing filled shard is `reconClass`) -/
theorem C09_recon_in_place_iff (d p : Nat) (present : Fin (d + p) → Bool) (mode : ReconMode)
    (capOk : Fin (d + p) → Bool) (i : Fin (d + p))
    (h : (reconFrame d p present mode capOk)[i.val]? = some .w) : capOk i = true := by
  rw [reconFrame_get] at h
  cases hc : capOk i with
  | true => rfl
  | false =>
    unfold reconClass at h
    rw [hc] at h
    split at h <;> simp at h

/-- C09 Reconstruct*: a fresh allocation happens only for a missing shard without capacity -/
theorem C09_recon_alloc (d p : Nat) (present : Fin (d + p) → Bool) (mode : ReconMode)
    (capOk : Fin (d + p) → Bool) (i : Fin (d + p))
    (h : (reconFrame d p present mode capOk)[i.val]? = some .a) :
    capOk i = false ∧ present i = false := by
  refine ⟨?_, C09_recon_only_missing d p present mode capOk i (by rw [h]; simp)⟩
  rw [reconFrame_get] at h
  cases hc : capOk i with
  | false => rfl
  | true =>
    unfold reconClass at h
    rw [hc] at h
    split at h <;> simp at h

/-- a call that returns early or fails (`reconShape` is not `fill`) writes nothing at all -/
theorem C09_recon_noop_untouched (d p : Nat) (present : Fin (d + p) → Bool) (mode : ReconMode)
    (capOk : Fin (d + p) → Bool) (h : ∀ f, reconShape d p present mode ≠ .fill f) :
    ∀ x ∈ reconFrame d p present mode capOk, x = .u := by
  intro x hx
  unfold reconFrame at hx
  split at hx
  · next f hs => exact absurd hs (h f)
  · exact (List.mem_replicate.mp hx).2

/-- C09 consistency with the functional specification: a shard is classed `u` exactly when
`reconSpec` leaves it as it was (present → the same shard; missing and not filled → still missing).
No hypothesis on the carrier `F` is needed. -/
theorem C09_recon_matches_spec {F : Type} {d p len : Nat} (orig : Fin (d + p) → Shard F len)
    (present : Fin (d + p) → Bool) (mode : ReconMode) (capOk : Fin (d + p) → Bool)
    (out : Fin (d + p) → Option (Shard F len)) (h : reconSpec orig present mode = .ok out)
    (i : Fin (d + p)) :
    ((reconFrame d p present mode capOk)[i.val]? = some .u ↔
      out i = (if present i then some (orig i) else none)) := by
  rw [reconFrame_get, reconSpec_eq orig h i, reconClass]
  cases hp : present i <;> cases filledAt d p present mode i <;> cases capOk i <;> simp

/-- the written-or-replaced shards are exactly those the specification fills -/
theorem C09_recon_written_iff_filled {F : Type} {d p len : Nat} (orig : Fin (d + p) → Shard F len)
    (present : Fin (d + p) → Bool) (mode : ReconMode) (capOk : Fin (d + p) → Bool)
    (out : Fin (d + p) → Option (Shard F len)) (h : reconSpec orig present mode = .ok out)
    (i : Fin (d + p)) :
    ((reconFrame d p present mode capOk)[i.val]? ≠ some .u ↔
      (present i = false ∧ out i = some (orig i))) := by
  rw [reconFrame_get, reconSpec_eq orig h i, reconClass]
  cases hp : present i <;> cases filledAt d p present mode i <;> cases capOk i <;> simp

/-- C09 consistency with the executable model (any generator, MDS or not): after a successful
`reconstruct` on a codeword with erasures, a shard is classed `u` exactly when the returned slot is
the input slot. -/
theorem C09_recon_matches_model {F : Type} [Field F] [DecidableEq F] {d p len : Nat}
    (A : Mat F p d) (data : Fin d → Shard F len)
    (present : Fin (d + p) → Bool) (mode : ReconMode) (capOk : Fin (d + p) → Bool)
    (out : Fin (d + p) → Option (Shard F len))
    (h : reconstruct A (erase (encodeAll A data) present) mode = .ok out) (i : Fin (d + p)) :
    ((reconFrame d p present mode capOk)[i.val]? = some .u ↔
      out i = erase (encodeAll A data) present i) := by
  rcases RSV.Props.C02.C02_any A data present mode with e | e
  · rw [e] at h
    exact C09_recon_matches_spec (encodeAll A data) present mode capOk out h i
  · rw [e] at h; cases h

/-- a call that fails with `ErrTooFewShards` writes nothing -/
theorem C09_recon_too_few_untouched (d p : Nat) (present : Fin (d + p) → Bool) (mode : ReconMode)
    (capOk : Fin (d + p) → Bool) (h : reconShape d p present mode = .tooFew) :
    ∀ x ∈ reconFrame d p present mode capOk, x = .u :=
  C09_recon_noop_untouched d p present mode capOk (fun f hf => by rw [h] at hf; cases hf)

example : (allocAligned 3 100 17 true).offs = [47, 175, 303] ∧ (allocAligned 3 100 17 true).cap = 128 ∧
    (allocAligned 3 100 17 true).total = 447 ∧ (allocAligned 3 100 17 true).skip = 47 := by decide

example : (allocAligned 3 100 17 false).offs = [0, 128, 256] := by decide

example : (allocAligned 0 100 17 true).offs = [] ∧ (allocAligned 2 0 5 true).cap = 0 := by decide

example : encodeFrame 2 1 = [.u, .u, .w] ∧ verifyFrame 2 1 = [.u, .u, .u] := by decide

example : idxFrame 2 1 0 = [.u, .u, .u] ∧ idxFrame 2 1 3 = [.u, .u, .w] := by decide

example : updateFrame 2 1 (fun c => decide (c.val = 1)) = [.u, .w, .w] := by decide

/-- shard 0 missing, capacity available: written in place -/
example : reconFrame 2 1 (fun i => decide (i.val ≠ 0)) .all (fun _ => true) = [.w, .u, .u] := by decide

/-- shard 0 missing, no capacity: replaced by a fresh allocation -/
example : reconFrame 2 1 (fun i => decide (i.val ≠ 0)) .all (fun _ => false) = [.a, .u, .u] := by decide

/-- ReconstructData with only the parity shard missing: nothing is written -/
example : reconFrame 2 1 (fun i => decide (i.val ≠ 2)) .dataOnly (fun _ => true) = [.u, .u, .u] := by decide

/-- too few shards: nothing is written -/
example : reconFrame 2 1 (fun i => decide (i.val = 1)) .all (fun _ => true) = [.u, .u, .u] := by decide

/-- ReconstructSome asking for shard 1 only, shards 0 and 1 missing in a 2+2 code: only shard 1 is filled -/
example : reconFrame 2 2 (fun i => decide (2 ≤ i.val)) (.some [false, true, false, false] true)
    (fun i => decide (i.val = 0)) = [.u, .a, .u, .u] := by decide

/-- the alignment constants of `AllocAligned` regenerated from the Go source -/
theorem C09_alloc_constants : RSV.Gen.unsafe_alignEach = 64 ∧ RSV.Gen.unsafe_alignStart = 64 := RSV.Props.Consts.alloc_constants


end RSV.Props.C09

#print axioms RSV.Props.C09.C09_alloc
#print axioms RSV.Props.C09.C09_alloc_aligned
#print axioms RSV.Props.C09.C09_alloc_noskip
#print axioms RSV.Props.C09.C09_encode_frame
#print axioms RSV.Props.C09.C09_encode_data
#print axioms RSV.Props.C09.C09_encode_parity
#print axioms RSV.Props.C09.C09_verify_frame
#print axioms RSV.Props.C09.C09_verify_length
#print axioms RSV.Props.C09.C09_idx_frame
#print axioms RSV.Props.C09.C09_idx_parity
#print axioms RSV.Props.C09.C09_update_frame
#print axioms RSV.Props.C09.C09_update_changed
#print axioms RSV.Props.C09.C09_update_parity
#print axioms RSV.Props.C09.C09_update_length
#print axioms RSV.Props.C09.C09_recon_length
#print axioms RSV.Props.C09.C09_recon_only_missing
#print axioms RSV.Props.C09.C09_recon_in_place_iff
#print axioms RSV.Props.C09.C09_recon_alloc
#print axioms RSV.Props.C09.C09_recon_noop_untouched
#print axioms RSV.Props.C09.C09_recon_matches_spec
#print axioms RSV.Props.C09.C09_recon_written_iff_filled
#print axioms RSV.Props.C09.C09_recon_matches_model
#print axioms RSV.Props.C09.C09_recon_too_few_untouched
#print axioms RSV.Props.C09.C09_alloc_constants
