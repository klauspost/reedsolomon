import RSV.Props.C01
/-!
# Property C03 (generator part) — the generators are systematic and have the published entries

* top `d × d` square of the default, Cauchy, PAR1 and XOR generators is the identity (`C03_top_*`);
* closed forms of the parity entries: `1/(i xor j)` (Cauchy), `(c+1)^r` (PAR1), `1` (XOR),
  Lagrange basis values (default), and the defining equation of the default generator
  `G · (top Vandermonde) = Vandermonde`.

Statements about the concrete carrier `GF256`; `GF256.ofNat r` is `byte(r)`.
-/

-- some hypotheses (`0 < d`, `0 < p`, `d + p ≤ 256`) are part of the published statements but
-- not needed by every proof
set_option linter.unusedVariables false

namespace RSV.Props.C03gen
open RSV.Model RSV.CodeTheory RSV.Generators RSV.Props.C01

theorem C03_top_default (d p : ℕ) (hd : 0 < d) (hp : 0 < p) (h : d + p ≤ 256)
    (G : Mat GF256 (d + p) d)
    (hG : buildMatrix GF256.ofNat d (d + p) (Nat.le_add_right d p) = some G)
    (i : Fin (d + p)) (hi : i.val < d) (c : Fin d) :
    G.get i c = if i.val = c.val then 1 else 0 :=
  buildMatrix_top GF256.ofNat d (d + p) _ (ofNat_injOn_le (by omega)) G hG i hi c

theorem C03_top_cauchy (d p : ℕ) (i : Fin (d + p)) (hi : i.val < d) (c : Fin d) :
    (buildMatrixCauchy GF256.ofNat d (d + p)).get i c = if i.val = c.val then 1 else 0 :=
  buildMatrixCauchy_top GF256.ofNat d (d + p) i hi c

theorem C03_top_par1 (d p : ℕ) (i : Fin (d + p)) (hi : i.val < d) (c : Fin d) :
    (buildMatrixPAR1 GF256.ofNat d (d + p)).get i c = if i.val = c.val then 1 else 0 :=
  buildMatrixPAR1_top GF256.ofNat d (d + p) i hi c

theorem C03_top_xor (d p : ℕ) (i : Fin (d + p)) (hi : i.val < d) (c : Fin d) :
    (buildXorMatrix (F := GF256) d (d + p)).get i c = if i.val = c.val then 1 else 0 :=
  buildXorMatrix_top d (d + p) i hi c

/-- the published `1/(i xor j)` with `i = d + r` the shard index of the parity row -/
theorem C03_cauchy_entry (d p : ℕ) (h : d + p ≤ 256) (r : Fin p) (c : Fin d) :
    parityFn (buildMatrixCauchy GF256.ofNat d (d + p)) r c
      = (GF256.ofNat ((d + r.val) ^^^ c.val))⁻¹ := by
  unfold parityFn
  rw [buildMatrixCauchy_parity, GF256.ofNat_xor _ _ (by omega) (by omega)]

theorem C03_par1_entry (d p : ℕ) (r : Fin p) (c : Fin d) :
    parityFn (buildMatrixPAR1 GF256.ofNat d (d + p)) r c = (GF256.ofNat (c.val + 1)) ^ r.val :=
  buildMatrixPAR1_parity GF256.ofNat d p r c

theorem C03_xor_entry (d p : ℕ) (r : Fin p) (c : Fin d) :
    parityFn (buildXorMatrix (F := GF256) d (d + p)) r c = 1 :=
  buildXorMatrix_parity d p r c

/-- default generator: every entry (top and parity rows alike) is the Lagrange basis polynomial
of node `c` over the nodes `0..d-1`, evaluated at the shard index `r`; equivalently
`G = vandermonde · (top square)⁻¹`: row `r` of `G` times the top Vandermonde square is row `r`
of the Vandermonde matrix -/
theorem C03_default_entry (d p : ℕ) (hd : 0 < d) (hp : 0 < p) (h : d + p ≤ 256)
    (G : Mat GF256 (d + p) d)
    (hG : buildMatrix GF256.ofNat d (d + p) (Nat.le_add_right d p) = some G) :
    (∀ (r : Fin (d + p)) (c : Fin d),
      G.get r c = lagrAt (fun c : Fin d => GF256.ofNat c.val) (GF256.ofNat r.val) c) ∧
    (∀ (r : Fin p) (c : Fin d),
      parityFn G r c = lagrAt (fun c : Fin d => GF256.ofNat c.val) (GF256.ofNat (d + r.val)) c) ∧
    (∀ (r : Fin (d + p)) (k : Fin d),
      ∑ c : Fin d, G.get r c * (GF256.ofNat c.val) ^ k.val = (GF256.ofNat r.val) ^ k.val) := by
  have hinj := ofNat_injOn_le (n := d) (by omega)
  refine ⟨buildMatrix_entry GF256.ofNat d (d + p) _ hinj G hG, ?_,
    buildMatrix_mul_vandermonde GF256.ofNat d (d + p) _ hinj G hG⟩
  intro r c
  unfold parityFn
  rw [parityPart_get, buildMatrix_entry GF256.ofNat d (d + p) _ hinj G hG]

/-- the defining equation determines the generator: any `G'` with
`G' · (top Vandermonde) = Vandermonde` is the matrix `buildMatrix` returns -/
theorem C03_default_unique (d p : ℕ) (hd : 0 < d) (hp : 0 < p) (h : d + p ≤ 256)
    (G : Mat GF256 (d + p) d)
    (hG : buildMatrix GF256.ofNat d (d + p) (Nat.le_add_right d p) = some G)
    (G' : Fin (d + p) → Fin d → GF256)
    (hG' : ∀ (r : Fin (d + p)) (k : Fin d),
      ∑ c : Fin d, G' r c * (GF256.ofNat c.val) ^ k.val = (GF256.ofNat r.val) ^ k.val)
    (r : Fin (d + p)) (c : Fin d) : G' r c = G.get r c := by
  have hinj := ofNat_injOn_le (n := d) (by omega)
  have hy := nodes_injective GF256.ofNat d hinj
  have h1 := (C03_default_entry d p hd hp h G hG).2.2
  have hz : (fun c => G' r c - G.get r c) = 0 := by
    apply Matrix.eq_zero_of_forall_pow_sum_mul_pow_eq_zero hy
    intro k
    have := congrArg₂ (· - ·) (hG' r k) (h1 r k)
    simp only [sub_self] at this
    rw [← this, ← Finset.sum_sub_distrib]
    exact Finset.sum_congr rfl fun c _ => by ring
  exact sub_eq_zero.mp (congrFun hz c)

example : parityFn (buildMatrixCauchy GF256.ofNat 3 (3 + 2)) 1 2
    = (GF256.ofNat (4 ^^^ 2))⁻¹ := C03_cauchy_entry 3 2 (by decide) 1 2

example : ∃ G, buildMatrix GF256.ofNat 3 (3 + 2) (by decide) = some G ∧
    ∀ (i : Fin (3 + 2)) (hi : i.val < 3) (c : Fin 3), G.get i c = if i.val = c.val then 1 else 0 :=
  let ⟨G, hG, _⟩ := C01_default 3 2 (by decide) (by decide) (by decide)
  ⟨G, hG, C03_top_default 3 2 (by decide) (by decide) (by decide) G hG⟩

end RSV.Props.C03gen

#print axioms RSV.Props.C03gen.C03_top_default
#print axioms RSV.Props.C03gen.C03_top_cauchy
#print axioms RSV.Props.C03gen.C03_top_par1
#print axioms RSV.Props.C03gen.C03_top_xor
#print axioms RSV.Props.C03gen.C03_cauchy_entry
#print axioms RSV.Props.C03gen.C03_par1_entry
#print axioms RSV.Props.C03gen.C03_xor_entry
#print axioms RSV.Props.C03gen.C03_default_entry
#print axioms RSV.Props.C03gen.C03_default_unique
