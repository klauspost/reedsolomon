import RSV.Props.C17gf16
import RSV.Props.C17leo
import RSV.Proofs.Leo16.Lut
/-!
# C17 (Leopard GF(2^16), product lookup tables) — the per-multiplier tables equal the direct product

For every multiplier `log_m` Leopard builds product tables from the 4 × 16 nibble products
`tmp = nibbleProducts` (`tmp[nib·16 + x] = mulLog (x << 4·nib) log_m`):

* `mul16LUTs[log_m].Lo / .Hi` (`Leo.mul16LUT`): `Lo[i] = tmp[i&15] ^ tmp[(i>>4)+16]`,
  `Hi[i] = tmp[(i&15)+32] ^ tmp[(i>>4)+48]`, used by `mulgf16` and the reference butterflies as
  `Lo[a & 255] ^ Hi[a >> 8]`;
* `multiply256LUT[log_m]` (`Leo.mul256LUT16`): 128 bytes, the low bytes of the 4 × 16 nibble products then their high
  bytes, used by the SIMD kernels, which xor the four entries selected by the nibbles of the operand.

With `T = initLUTs P16`, the theorems hold for every multiplier `m < 65536` (including `m = 65535`, the multiplier 1)
and every operand `a < 65536`, structurally: no table is evaluated (that would be 65,536 × 65,536 cases).  They give
every entry of `tmp`, of `Lo` / `Hi` and of the 128-byte table, the composition over the four nibbles of the operand,
and hence (`C17gf16_mul16LUT_field`) that the table product is multiplication by `x^m` in GF(2)[x]/(0x1002D) under the
Cantor map.

GF(2^8): `C17leo_mul256LUT8_compose`, the composition statement for the two 16-entry tables of `multiply256LUT8`
(beside `C17leo_mul8LUT`, `C17leo_mul256LUT8` of `RSV.Props.C17leo`).
-/
namespace RSV.Props.C17gf16lut
open RSV.BF RSV.Model RSV.Proofs.Leo16 RSV.Props.C17gf16

/-- the table sizes: 256 + 256 entries, 128 bytes -/
theorem C17gf16_lut_sizes (P : Leo.Params) (T' : Leo.LUTs) (m : Nat) :
    (Leo.mul16LUT P T' m).1.size = 256 ∧ (Leo.mul16LUT P T' m).2.size = 256 ∧
    (Leo.mul256LUT16 P T' m).size = 128 := by
  simp [Leo.mul16LUT, Leo.mul256LUT16]

/-- the 4 × 16 nibble products: entry `nib·16 + x` is the product of `x` shifted to nibble position `nib` -/
theorem C17gf16_nibbleProducts (m nib x : Nat) (hn : nib < 4) (hx : x < 16) :
    (Leo.nibbleProducts Leo.P16 T m)[nib * 16 + x]! = Leo.mulLog Leo.P16 T (x <<< (4 * nib)) m ∧
    x <<< (4 * nib) < 65536 := by
  have hlt := nibble_shift_lt nib hn x hx
  refine ⟨?_, hlt⟩
  have h := Proofs.LeoField.nib_get Leo.P16 T16 m nib x hn hx
  rw [P16_order, Nat.mod_eq_of_lt hlt] at h
  exact h

/-- the model's `Lo` / `Hi` are composed from the nibble products exactly as in `initMul16LUT` (any parameters) -/
theorem C17gf16_mul16LUT_def (P : Leo.Params) (T' : Leo.LUTs) (m i : Nat) (hi : i < 256) :
    (Leo.mul16LUT P T' m).1[i]! =
      (Leo.nibbleProducts P T' m)[i &&& 15]! ^^^ (Leo.nibbleProducts P T' m)[(i >>> 4) + 16]! ∧
    (Leo.mul16LUT P T' m).2[i]! =
      (Leo.nibbleProducts P T' m)[(i &&& 15) + 32]! ^^^ (Leo.nibbleProducts P T' m)[(i >>> 4) + 48]! :=
  ⟨mul16LUT_fst P T' m i hi, mul16LUT_snd P T' m i hi⟩

/-- `mul16LUTs[log_m]`: `Lo[a & 255] ^ Hi[a >> 8]` is the direct product, every multiplier and operand -/
theorem C17gf16_mul16LUT (m a : Nat) (hm : m < 65536) (ha : a < 65536) :
    (Leo.mul16LUT Leo.P16 T m).1[a &&& 255]! ^^^ (Leo.mul16LUT Leo.P16 T m).2[a >>> 8]! =
      Leo.mulLog Leo.P16 T a m := mul16LUT_get hm ha

/-- the two halves separately: `Lo` tabulates the products of the low byte values, `Hi` of the high byte values -/
theorem C17gf16_mul16LUT_lo_hi (m i : Nat) (hm : m < 65536) (hi : i < 256) :
    (Leo.mul16LUT Leo.P16 T m).1[i]! = Leo.mulLog Leo.P16 T i m ∧
    (Leo.mul16LUT Leo.P16 T m).2[i]! = Leo.mulLog Leo.P16 T (i <<< 8) m :=
  ⟨mul16LUT_lo hm hi, mul16LUT_hi hm hi⟩

/-- the table product is Leopard's symbol product `mulSym`, i.e. multiplication by `x^m` in GF(2)[x]/(0x1002D) under
the Cantor map -/
theorem C17gf16_mul16LUT_field (m a : Nat) (hm : m < 65536) (ha : a < 65536) :
    (Leo.mul16LUT Leo.P16 T m).1[a &&& 255]! ^^^ (Leo.mul16LUT Leo.P16 T m).2[a >>> 8]! = Leo.mulSym C a m ∧
    cm ((Leo.mul16LUT Leo.P16 T m).1[a &&& 255]! ^^^ (Leo.mul16LUT Leo.P16 T m).2[a >>> 8]!) =
      pmul 16 0x1002D (cm a) (xp m) := by
  rw [C17gf16_mul16LUT m a hm ha]
  exact ⟨rfl, (C17gf16_mulLog a m ha hm).1⟩

/-- `multiply256LUT[log_m]`: 4 × 16 low bytes, then 4 × 16 high bytes, of the nibble products -/
theorem C17gf16_mul256LUT (m i : Nat) (hi : i < 64) :
    (Leo.mul256LUT16 Leo.P16 T m)[i]! =
      Leo.mulLog Leo.P16 T ((i % 16) <<< (4 * (i / 16))) m &&& 0xFF ∧
    (Leo.mul256LUT16 Leo.P16 T m)[64 + i]! =
      Leo.mulLog Leo.P16 T ((i % 16) <<< (4 * (i / 16))) m >>> 8 :=
  ⟨mul256LUT16_lo hi, mul256LUT16_hi hi⟩

/-- composition: the xor over the four nibbles of `a` of the nibble products is the direct product — as products
of the shifted nibbles, and as the four entries of `nibbleProducts` they select -/
theorem C17gf16_nibble_compose (m a : Nat) (hm : m < 65536) (ha : a < 65536) :
    Leo.mulLog Leo.P16 T (a &&& 15) m ^^^
      Leo.mulLog Leo.P16 T (((a >>> 4) &&& 15) <<< 4) m ^^^
      Leo.mulLog Leo.P16 T (((a >>> 8) &&& 15) <<< 8) m ^^^
      Leo.mulLog Leo.P16 T ((a >>> 12) <<< 12) m = Leo.mulLog Leo.P16 T a m ∧
    (Leo.nibbleProducts Leo.P16 T m)[a &&& 15]! ^^^
      (Leo.nibbleProducts Leo.P16 T m)[((a >>> 4) &&& 15) + 16]! ^^^
      (Leo.nibbleProducts Leo.P16 T m)[((a >>> 8) &&& 15) + 32]! ^^^
      (Leo.nibbleProducts Leo.P16 T m)[(a >>> 12) + 48]! = Leo.mulLog Leo.P16 T a m :=
  ⟨nibble_compose16_mul hm ha, nibble_compose16 hm ha⟩

/-- the operand is the xor of its four shifted nibbles (the bit fact behind the composition) -/
theorem C17gf16_nibbles (a : Nat) (ha : a < 65536) :
    (a &&& 15) ^^^ (((a >>> 4) &&& 15) <<< 4) ^^^ (((a >>> 8) &&& 15) <<< 8) ^^^ ((a >>> 12) <<< 12) = a := by
  have h := BF.split_low a 8
  rw [show (2 ^ 8 - 1 : Nat) = 255 from rfl, ← Proofs.LeoField.byte_nibbles (a &&& 255), ← byte_nibbles_shl8 (a >>> 8),
    and255_and15, and255_shr4, shr8_shr4, ← Nat.xor_assoc] at h
  exact h

/-- the SIMD composition: xoring the four low-byte (high-byte) entries of `multiply256LUT[log_m]` selected by the
nibbles of `a` gives the low (high) byte of the direct product -/
theorem C17gf16_mul256LUT_compose (m a : Nat) (hm : m < 65536) (ha : a < 65536) :
    (Leo.mul256LUT16 Leo.P16 T m)[a &&& 15]! ^^^
      (Leo.mul256LUT16 Leo.P16 T m)[((a >>> 4) &&& 15) + 16]! ^^^
      (Leo.mul256LUT16 Leo.P16 T m)[((a >>> 8) &&& 15) + 32]! ^^^
      (Leo.mul256LUT16 Leo.P16 T m)[(a >>> 12) + 48]! = Leo.mulLog Leo.P16 T a m &&& 0xFF ∧
    (Leo.mul256LUT16 Leo.P16 T m)[64 + (a &&& 15)]! ^^^
      (Leo.mul256LUT16 Leo.P16 T m)[64 + (((a >>> 4) &&& 15) + 16)]! ^^^
      (Leo.mul256LUT16 Leo.P16 T m)[64 + (((a >>> 8) &&& 15) + 32)]! ^^^
      (Leo.mul256LUT16 Leo.P16 T m)[64 + ((a >>> 12) + 48)]! = Leo.mulLog Leo.P16 T a m >>> 8 :=
  mul256LUT16_compose hm ha

/-- a value is the xor of its low byte and the remaining bits shifted back: the two bytes of the SIMD result determine the
product -/
theorem C17gf16_bytes (v : Nat) : (v &&& 0xFF) ^^^ ((v >>> 8) <<< 8) = v := BF.split_low v 8

open RSV.Proofs.LeoField in
/-- `multiply256LUT8[log_m]`: the xor of the two entries selected by the nibbles of `a` is the direct product -/
theorem C17leo_mul256LUT8_compose (m a : Nat) (hm : m < 256) (ha : a < 256) :
    (Leo.mul256LUT8 Leo.P8 T8 m)[a &&& 15]! ^^^ (Leo.mul256LUT8 Leo.P8 T8 m)[(a >>> 4) + 16]! =
      Leo.mulSym C8 a m := by
  have h1 := and15_lt a
  have h2 := shr4_lt ha
  rw [mul256LUT8_entry _ _ _ _ (by omega), mul256LUT8_entry _ _ _ _ (by omega)]
  exact pres8.nibbles_byte (by decide) hm ha

end RSV.Props.C17gf16lut

#print axioms RSV.Props.C17gf16lut.C17gf16_lut_sizes
#print axioms RSV.Props.C17gf16lut.C17gf16_nibbleProducts
#print axioms RSV.Props.C17gf16lut.C17gf16_mul16LUT_def
#print axioms RSV.Props.C17gf16lut.C17gf16_mul16LUT
#print axioms RSV.Props.C17gf16lut.C17gf16_mul16LUT_lo_hi
#print axioms RSV.Props.C17gf16lut.C17gf16_mul16LUT_field
#print axioms RSV.Props.C17gf16lut.C17gf16_mul256LUT
#print axioms RSV.Props.C17gf16lut.C17gf16_nibble_compose
#print axioms RSV.Props.C17gf16lut.C17gf16_nibbles
#print axioms RSV.Props.C17gf16lut.C17gf16_mul256LUT_compose
#print axioms RSV.Props.C17gf16lut.C17gf16_bytes
#print axioms RSV.Props.C17gf16lut.C17leo_mul256LUT8_compose
