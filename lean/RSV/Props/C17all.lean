import RSV.Props.C17submatrix
import RSV.Props.C17invert
import RSV.Props.C17buildMatrix
import RSV.Props.C17funcs
import RSV.Props.C17matrix
import RSV.Props.C17
import RSV.Props.C17leo
import RSV.Props.C17gf16
import RSV.Props.C17gf16lut
/-! C17 umbrella: static GF(2^8) tables (`RSV.Props.C17`); Leopard run-time tables and constants for GF(2^8)
(`RSV.Props.C17leo`) and GF(2^16) (`RSV.Props.C17gf16`, `C17gf16lut`); the regenerated Go functions equal the model
(`RSV.Props.C17funcs`, `C17matrix`, `C17submatrix`, `C17invert`, `C17buildMatrix`) -/
namespace RSV.Props.C17all

/-- Leopard's GF(2^8) product, read through the Cantor map, is the product the static tables tabulate -/
theorem C17_leopard_same_field (a b : Nat) (ha : a < 256) (hb : b < 256) :
    RSV.Model.Leo.cantorMap RSV.Model.Leo.P8 (RSV.Model.Leo.leoMul RSV.Proofs.LeoField.C8 a b)
      = RSV.gmul (RSV.Model.Leo.cantorMap RSV.Model.Leo.P8 a) (RSV.Model.Leo.cantorMap RSV.Model.Leo.P8 b) :=
  RSV.Props.C17leo.C17leo_mul a b ha hb

end RSV.Props.C17all
