import RSV.Model.Options

/-!
# C07 (options) — the derived processing parameters of `New` are usable

`RSV.Model.Options.derive` mirrors how `New` derives `perRound`, `minSplitSize`, `maxGoroutines`
from cpuid cache sizes (any integers), the thread topology, `GOMAXPROCS` and the caller's options.
The range-splitting theorems of `RSV.Props.C07` need `0 < minSplitSize`, `0 < perRound`, and the
worker loops divide by `maxGoroutines`.  Here: for every admissible input all three are positive
(`C07_derive_positive`), plus the shape of each.

Proof layout: `derive` is cut into stages (`pr3`, `round64`, `msOf`, `core`, `cap`) with
`derive_eq : derive c i = ⟨(core ..).1, msOf c i, cap .. (core ..).2⟩` by `rfl`; each stage has a
small spec proved by case split and `omega`; the two non-linear facts (`1 ≤ shardSize / perRound`,
rounding to a multiple of `P`) are `Int.le_ediv_of_mul_le` and `roundup_spec`.  `derive_spec`
collects the stage specs into one description of `derive c i`, of which every theorem below is a
consequence by linear arithmetic.

Only `1 ≤ gomaxprocs` and `1 ≤ maxGoroutines` of `Admissible` are used; the examples at the end
show both are necessary.  Nothing is assumed about cache sizes, `threadsPerCore`,
`physicalCores`, `d`, `p` beyond what is stated (division by a zero / negative divisor is
harmless because of the final `max 1024`).
-/
namespace RSV.Props.C07opts
open RSV.Model.Options

/-- `perRound3` of the model: the cache size divided by threads per core and by the shard divisor -/
def pr3 (c : Cpu) (i : In) : Int :=
  let perRound0 := if c.l2 < 128 * 1024 then 128 * 1024 else c.l2
  let (perRound1, divide) : Int × Int :=
    if i.useCodeGen && (decide (i.d > 10) || decide (i.p > 10)) then
      let pr := if c.l1d < 32 * 1024 then 32 * 1024 else c.l1d
      (pr, (if i.d > 10 then 10 else i.d) + (if i.p > 10 then 10 else i.p))
    else (perRound0, i.p + 1)
  let perRound2 := if c.threadsPerCore > 1 && i.maxGoroutines > c.physicalCores then perRound1 / c.threadsPerCore else perRound1
  perRound2 / divide

/-- `perRound5` as a function of `perRound3`: round up to 64, at least 1024 -/
def round64 (x : Int) : Int :=
  let perRound4 := ((x + 63) / 64) * 64
  if perRound4 < 1024 then 1024 else perRound4

def msOf (c : Cpu) (i : In) : Int :=
  if i.minSplitSize ≤ 0 then
    let cacheSize := if c.l1d ≤ 0 then 32 * 1024 else c.l1d
    let ms := cacheSize / (i.p + 1)
    if ms < 1024 then 1024 else ms
  else i.minSplitSize

/-- the auto-goroutine part of the model as a function of `perRound5` and `minSplit`:
`(perRound6, maxGor1)` -/
def core (P shardSize maxGor perRound5 minSplit : Int) : Int × Int :=
  if shardSize > 0 then
    if P = 1 || shardSize ≤ minSplit * 2 then (perRound5, 1)
    else
      let g0 := shardSize / perRound5
      let (g1, pr) := if g0 < P * 2 && perRound5 > minSplit * 2 then (P * 2, perRound5 / 2) else (g0, perRound5)
      let g2 := g1 + (P - 1)
      (pr, g2 - g2 % P)
  else (perRound5, maxGor)

/-- the caps for the AVX2 / GFNI code generators -/
def cap (useCodeGen useGFNI : Bool) (maxGor1 : Int) : Int :=
  let maxGor2 := if useCodeGen && maxGor1 > 8 then 8 else maxGor1
  if useGFNI && maxGor2 > 4 then 4 else maxGor2

theorem derive_eq (c : Cpu) (i : In) :
    derive c i =
      ⟨(core c.gomaxprocs i.shardSize i.maxGoroutines (round64 (pr3 c i)) (msOf c i)).1,
       msOf c i,
       cap i.useCodeGen i.useGFNI
        (core c.gomaxprocs i.shardSize i.maxGoroutines (round64 (pr3 c i)) (msOf c i)).2⟩ := rfl

theorem round64_spec (x : Int) : 1024 ≤ round64 x ∧ round64 x % 64 = 0 := by
  simp only [round64]
  split <;> omega

theorem msOf_spec (c : Cpu) (i : In) :
    (0 < i.minSplitSize → msOf c i = i.minSplitSize) ∧ (i.minSplitSize ≤ 0 → 1024 ≤ msOf c i) := by
  simp only [msOf]
  constructor
  · intro h
    rw [if_neg (by omega)]
  · intro h
    rw [if_pos h]
    split <;> omega

theorem roundup_spec (P g : Int) (hP : 1 ≤ P) (hg : P ≤ g) :
    (g - g % P) % P = 0 ∧ P ≤ g - g % P := by
  have h1 : g - g % P = P * (g / P) := by
    have := Int.mul_ediv_add_emod g P
    omega
  have h2 : 1 ≤ g / P := Int.le_ediv_of_mul_le (by omega) (by omega)
  rw [h1]
  refine ⟨Int.mul_emod_right _ _, ?_⟩
  have := Int.mul_le_mul_of_nonneg_left h2 (show 0 ≤ P by omega)
  omega

theorem cap_spec (cg gf : Bool) (g : Int) :
    cap cg gf g = g ∨ (8 < g ∧ cap cg gf g = 8) ∨ (4 < g ∧ cap cg gf g = 4) := by
  simp only [cap, Bool.and_eq_true, decide_eq_true_eq]
  split <;> split <;> omega

theorem core_spec (P s mg pr ms : Int) (hP : 1 ≤ P) (hpr : 1024 ≤ pr) :
    ((core P s mg pr ms).1 = pr ∨ (0 < s ∧ (core P s mg pr ms).1 = pr / 2)) ∧
    (s ≤ 0 → (core P s mg pr ms).2 = mg) ∧
    (0 < s → (core P s mg pr ms).2 = 1 ∨
      ((core P s mg pr ms).2 % P = 0 ∧ P ≤ (core P s mg pr ms).2)) := by
  simp only [core]
  split
  · next hs =>
    split
    · exact ⟨Or.inl rfl, fun h => absurd hs (by omega), fun _ => Or.inl rfl⟩
    · next h1 =>
      simp only [Bool.or_eq_true, decide_eq_true_eq, not_or] at h1
      split
      · refine ⟨Or.inr ⟨hs, rfl⟩, fun h => absurd hs (by omega), fun _ => Or.inr ?_⟩
        exact roundup_spec P (P * 2 + (P - 1)) hP (by omega)
      · next h2 =>
        simp only [Bool.and_eq_true, decide_eq_true_eq, not_and] at h2
        refine ⟨Or.inl rfl, fun h => absurd hs (by omega), fun _ => Or.inr ?_⟩
        apply roundup_spec P _ hP
        -- `s / pr ≥ 2·P`, or the halving was refused because `pr ≤ 2·ms < s`
        have : 1 ≤ s / pr := by
          by_cases h3 : s / pr < P * 2
          · have := h2 h3
            exact Int.le_ediv_of_mul_le (by omega) (by omega)
          · omega
        show P ≤ s / pr + (P - 1)
        omega
  · next hs =>
    exact ⟨Or.inl rfl, fun _ => rfl, fun h => absurd h hs⟩

/-- The stage specs in one statement about `derive`: `perRound` is `r` or (only with
WithAutoGoroutines) `r / 2` for a multiple `r ≥ 1024` of 64; `minSplitSize` is the caller's positive
value or at least 1024; `maxGoroutines` is `g` capped at 8 / 4, where `g` is the caller's value
without WithAutoGoroutines and otherwise 1 or a positive multiple of `GOMAXPROCS`. -/
theorem derive_spec (c : Cpu) (i : In) (hP : 1 ≤ c.gomaxprocs) :
    ∃ r g : Int, 1024 ≤ r ∧ r % 64 = 0 ∧
      ((derive c i).perRound = r ∨ (0 < i.shardSize ∧ (derive c i).perRound = r / 2)) ∧
      ((0 < i.minSplitSize → (derive c i).minSplitSize = i.minSplitSize) ∧
        (i.minSplitSize ≤ 0 → 1024 ≤ (derive c i).minSplitSize)) ∧
      (i.shardSize ≤ 0 → g = i.maxGoroutines) ∧
      (0 < i.shardSize → g = 1 ∨ (g % c.gomaxprocs = 0 ∧ c.gomaxprocs ≤ g)) ∧
      ((derive c i).maxGoroutines = g ∨ (8 < g ∧ (derive c i).maxGoroutines = 8) ∨
        (4 < g ∧ (derive c i).maxGoroutines = 4)) := by
  rw [derive_eq]
  obtain ⟨hr, hr64⟩ := round64_spec (pr3 c i)
  obtain ⟨h1, h2, h3⟩ := core_spec c.gomaxprocs i.shardSize i.maxGoroutines
    (round64 (pr3 c i)) (msOf c i) hP hr
  exact ⟨_, _, hr, hr64, h1, msOf_spec c i, h2, h3, cap_spec _ _ _⟩

/-- admissible inputs: what the Go code guarantees before the derivation -/
structure Admissible (c : Cpu) (i : In) : Prop where
  gmp : 1 ≤ c.gomaxprocs
  d : 1 ≤ i.d
  p : 1 ≤ i.p
  gor : 1 ≤ i.maxGoroutines
  -- cache sizes, threadsPerCore, physicalCores: any integers (cpuid may report 0 or -1)

/-- the worker loops divide byteCount by maxGoroutines and the range-splitting theorems (C07) need
positive minSplitSize and perRound: all three derived parameters are ≥ 1 for every admissible
input -/
theorem C07_derive_positive (c : Cpu) (i : In) (h : Admissible c i) :
    1 ≤ (derive c i).maxGoroutines ∧ 1 ≤ (derive c i).minSplitSize ∧
      512 ≤ (derive c i).perRound := by
  obtain ⟨r, g, hr, -, hpr, hms, hg0, hg1, hcap⟩ := derive_spec c i h.gmp
  have hgor := h.gor
  have hP := h.gmp
  -- each `omega` is given only the facts its bound needs
  have hg : 1 ≤ g := by clear hpr hms hcap; omega
  exact ⟨by clear hpr hms hg0 hg1; omega, by clear hpr hg0 hg1 hcap; omega,
    by clear hms hg0 hg1 hcap; omega⟩

/-- without WithAutoGoroutines the goroutine count is the caller's, only capped -/
theorem C07_derive_no_auto (c : Cpu) (i : In) (h : Admissible c i) (hs : i.shardSize ≤ 0) :
    (derive c i).maxGoroutines ≤ i.maxGoroutines ∧
      ((derive c i).maxGoroutines = i.maxGoroutines ∨ (derive c i).maxGoroutines = 8 ∨
        (derive c i).maxGoroutines = 4) := by
  obtain ⟨_, g, -, -, -, -, hg0, -, hcap⟩ := derive_spec c i h.gmp
  have := hg0 hs
  omega

/-- with WithAutoGoroutines the count is 1, or a positive multiple of GOMAXPROCS, or capped at
8 / 4 -/
theorem C07_derive_auto (c : Cpu) (i : In) (h : Admissible c i) (hs : 0 < i.shardSize) :
    (derive c i).maxGoroutines = 1 ∨
      ((derive c i).maxGoroutines % c.gomaxprocs = 0 ∧
        c.gomaxprocs ≤ (derive c i).maxGoroutines) ∨
      (derive c i).maxGoroutines = 8 ∨ (derive c i).maxGoroutines = 4 := by
  obtain ⟨_, g, -, -, -, -, -, hg1, hcap⟩ := derive_spec c i h.gmp
  rcases hcap with hc | ⟨_, hc⟩ | ⟨_, hc⟩
  · rw [hc]
    exact (hg1 hs).imp id Or.inl
  · exact Or.inr (Or.inr (Or.inl hc))
  · exact Or.inr (Or.inr (Or.inr hc))

/-- perRound is a multiple of 32 (of 64 before the over-provisioning step halves it) -/
theorem C07_derive_perRound_aligned (c : Cpu) (i : In) (h : Admissible c i) :
    (derive c i).perRound % 32 = 0 := by
  obtain ⟨r, _, -, hr64, hpr, -⟩ := derive_spec c i h.gmp
  omega

/-- minSplitSize: the caller's positive value, otherwise at least 1024 -/
theorem C07_derive_minSplit (c : Cpu) (i : In) (_h : Admissible c i) :
    (0 < i.minSplitSize → (derive c i).minSplitSize = i.minSplitSize) ∧
      (i.minSplitSize ≤ 0 → 1024 ≤ (derive c i).minSplitSize) :=
  msOf_spec c i

/-- the exact shape of `perRound`: a multiple `r` of 64 that is at least 1024, or half of it (only
with WithAutoGoroutines, by the over-provisioning step) -/
theorem C07_derive_perRound_shape (c : Cpu) (i : In) (h : Admissible c i) :
    ∃ r : Int, 1024 ≤ r ∧ r % 64 = 0 ∧
      ((derive c i).perRound = r ∨ (0 < i.shardSize ∧ (derive c i).perRound = r / 2)) :=
  let ⟨r, _, hr, hr64, hpr, _⟩ := derive_spec c i h.gmp
  ⟨r, hr, hr64, hpr⟩

/-! Concrete records (values checked against the Go code by the harness). -/

example : Admissible ⟨49152, 2097152, 1, 16, 16⟩ ⟨12, 4, 384, -1, 40000, true, true⟩ :=
  ⟨by decide, by decide, by decide, by decide⟩

/-- auto, `g0 = 11` rounded up to `16 = P`, then capped to 8 and to 4 -/
example : derive ⟨49152, 2097152, 1, 16, 16⟩ ⟨12, 4, 384, -1, 40000, true, true⟩
    = ⟨3520, 9830, 4⟩ := by decide

/-- auto, over-provisioning: `g = 2·P = 32`, `perRound` halved -/
example : derive ⟨49152, 2097152, 1, 16, 16⟩ ⟨12, 4, 384, -1, 40000, false, false⟩
    = ⟨209728, 9830, 32⟩ := by decide

/-- the halved `perRound` need not be a multiple of 64: `104864 % 64 = 32` -/
example : derive ⟨49152, 2097152, 2, 8, 16⟩ ⟨10, 4, 384, 512, 100000, false, false⟩
    = ⟨104864, 512, 32⟩ ∧ (104864 : Int) % 64 = 32 := by decide

/-- auto, large shards: `g0 = 476` rounded to `480 = 30·P`, capped to 8 by the AVX2 generator -/
example : derive ⟨49152, 2097152, 2, 8, 16⟩ ⟨10, 4, 384, 512, 100000000, true, false⟩
    = ⟨209728, 512, 8⟩ := by decide

/-- cpuid reports nothing (`-1`, `0`), no auto: the caller's 384 goroutines -/
example : derive ⟨-1, 0, 0, -1, 16⟩ ⟨10, 4, 384, -1, 0, false, false⟩
    = ⟨26240, 6553, 384⟩ := by decide

/-- `GOMAXPROCS = 1` with auto: one goroutine -/
example : derive ⟨-1, 0, 0, -1, 1⟩ ⟨10, 4, 1, -1, 1000000, true, false⟩
    = ⟨26240, 6553, 1⟩ := by decide

/-- negative `threadsPerCore`, tiny shards but above `2·minSplit`: `g0 = 0`, over-provisioned to
`2·P = 6` -/
example : derive ⟨-1, -1, -3, -1, 3⟩ ⟨1, 1, 1, 7, 15, false, false⟩
    = ⟨32768, 7, 6⟩ := by decide

/-- `1 ≤ gomaxprocs` is necessary: with `GOMAXPROCS = 0` (impossible in Go) the model gives 0 -/
example : (derive ⟨49152, 2097152, 2, 8, 0⟩ ⟨10, 4, 384, 512, 100000, false, false⟩).maxGoroutines
    = 0 := by decide

/-- `1 ≤ maxGoroutines` is necessary: `WithMaxGoroutines(0)` is ignored by Go, so the input is
never 0; the model would pass it through -/
example : (derive ⟨49152, 2097152, 2, 8, 4⟩ ⟨10, 4, 0, 512, 0, false, false⟩).maxGoroutines
    = 0 := by decide

end RSV.Props.C07opts

#print axioms RSV.Props.C07opts.derive_eq
#print axioms RSV.Props.C07opts.C07_derive_positive
#print axioms RSV.Props.C07opts.C07_derive_no_auto
#print axioms RSV.Props.C07opts.C07_derive_auto
#print axioms RSV.Props.C07opts.C07_derive_perRound_aligned
#print axioms RSV.Props.C07opts.C07_derive_perRound_shape
#print axioms RSV.Props.C07opts.C07_derive_minSplit
