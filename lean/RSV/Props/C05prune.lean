import RSV.Proofs.LCHDecode.PruneBits
import RSV.Proofs.LCHSched.Sanity
/-!
# C05 (pruned final FFT) — the bit-field optimisation of the Leopard decoders changes no output that is read

Go: when few shards are missing, `reconstruct` (`leopard8.go`, `leopard.go`) runs its final FFT through
`errorBitfield8.fftDIT8` / `errorBitfield.fftDIT`: the loops of `fftDIT8` / `fftDIT` with one extra test per block,
`if !e.isNeeded(mipLevel, r) { continue }`.  Model: `fftLayersPruned`, `reconSchedPruned`, `reconstructPruned`
(`RSV/Model/LeopardPruned.lean`), with the word-level bit fields `need8` / `need16`
(`RSV/Model/LeopardPrunedBits.lean`, `BF8` / `BF16` of `RSV/Model/BitfieldImpl.lean`).

* `C05_prune_sound`: for ANY test `need` that answers `true` on every aligned `2^lvl`-block holding a row that will be
  read (`live`), the pruned transform equals the un-pruned one on every live row (any context with `t/2 ≤ bits`, any work
  area of at least `m = 2^t` rows, any truncation `mtrunc ≤ m`).  One-sided: a spurious `true` is harmless.  Only the levels `1 ≤ lvl ≤ t` and
  the aligned block starts `r < mtrunc` the loops use are constrained.
* `C05_prune_reconstruct`: hence `reconstructPruned = reconstruct` when `need` is sound for the rows `reconstruct` reads.
* `C05_prune_bf8`, `C05_prune_bf16`: the prepared Go bit fields ARE sound for those rows (`C05_bf8_prepare`,
  `C05_bf16_prepare`: `isNeeded` after `prepare` is the block predicate), so the decoder on the `useBits` path returns
  exactly what the decoder with the full transform returns: every admissible shape, every erasure set, both modes, any
  shard contents.  Together with `C05_leo8_reconstruct_all` / `C05_leo16_reconstruct_all` the pruned decoder restores every
  erased shard.

Proof (`RSV/Proofs/LCHSched/Fft.lean`, `RSV/Proofs/LCHDecode/Prune*.lean`): the pruned generator is a `flatMap` over the
passes with a filter on the blocks (`fftLayersPruned_toList`, in `RSV/Proofs/LCHSched/Gen.lean`); forward transform, large distances first: the rows a
pass writes inside a block depend only on rows of the same block before the pass, and a `4d`-block holding a live row
lies in a `16d`-block holding it; so by induction over the passes the pruned run agrees with the clean radix-2 network on
every row of every block (of the current pass's block size) holding a live row (`fft_pass_agree_pruned`,
`fft_final_agree_pruned`, `run_fftLayersPruned`), and so does the un-pruned run (`run_fftLayers`, the case where
everything is needed).
-/
namespace RSV.Props.C05prune
open RSV.Model.Leo RSV.LCHDecode RSV.Proofs.LCHSched

/-- Pruning is sound: if `need lvl r` holds whenever the aligned `2^lvl`-block starting at `r` contains a live row,
the pruned forward transform equals the full one on every live row below `mtrunc` -/
theorem C05_prune_sound (C : Ctx) (live : Nat → Bool) (need : Nat → Nat → Bool) (shards : Array Vec)
    (len : Nat) (w : Array Vec) (mtrunc m t : Nat) (hm : m = 2 ^ t) (ht : t / 2 ≤ C.P.bits)
    (hmt : mtrunc ≤ m) (hsz : m ≤ w.size)
    (hneed : ∀ lvl r x, 1 ≤ lvl → lvl ≤ t → 2 ^ lvl ∣ r → r < mtrunc → x < mtrunc → live x = true →
      x / 2 ^ lvl = r / 2 ^ lvl → need lvl r = true)
    (x : Nat) (hx : x < mtrunc) (hlive : live x = true) :
    (run C shards len w (fftLayersPruned C need mtrunc m).toList)[x]! =
      (run C shards len w (fftLayers C mtrunc m).toList)[x]! :=
  prune_sound C live need shards len w mtrunc m t hm ht hmt hsz (.of_aligned_blocks hneed) x hx hlive

/-- the rows `reconstruct` reads: erased data positions `m + i`; erased parity positions `i < p` when `recoverAll` -/
theorem C05_reconLive_iff (d p : Nat) (missing : Nat → Bool) (recoverAll : Bool) (x : Nat) :
    reconLive d p missing recoverAll x = true ↔
      (x < ceilPow2 p ∧ recoverAll = true ∧ x < p ∧ missing (d + x) = true) ∨
      (ceilPow2 p ≤ x ∧ x < ceilPow2 p + d ∧ missing (x - ceilPow2 p) = true) :=
  reconLive_iff d p missing recoverAll x

/-- The decoder with a sound pruning test returns what the full decoder returns (any context with `T/2 ≤ bits`; `n = ceilPow2 (m + d) = 2^T`
with `m = ceilPow2 p`) -/
theorem C05_prune_reconstruct (C : Ctx) (need : Nat → Nat → Bool) (d p len : Nat) (sh : Array Vec)
    (missing : Nat → Bool) (recoverAll : Bool) (T : Nat) (hn : ceilPow2 (ceilPow2 p + d) = 2 ^ T)
    (hT : T / 2 ≤ C.P.bits) (hpm : p ≤ ceilPow2 p) (hmn : ceilPow2 p + d ≤ 2 ^ T)
    (hneed : ∀ lvl r x, 1 ≤ lvl → lvl ≤ T → 2 ^ lvl ∣ r → r < ceilPow2 p + d → x < ceilPow2 p + d →
      reconLive d p missing recoverAll x = true → x / 2 ^ lvl = r / 2 ^ lvl → need lvl r = true) :
    reconstructPruned C need d p len sh missing recoverAll = reconstruct C d p len sh missing recoverAll :=
  reconstructPruned_eq C need d p len sh missing recoverAll T hn hT hpm hmn (.of_aligned_blocks hneed)

/-- the prepared `errorBitfield8` answers `true`, at every level `≥ 1`, on every block holding a row that is read -/
theorem C05_prune_need8_sound (d p : Nat) (missing : Nat → Bool) (recoverAll : Bool)
    (hadm : ceilPow2 p + d ≤ 256) (lvl x : Nat) (hl : 1 ≤ lvl) (hx : x < ceilPow2 p + d)
    (hlive : reconLive d p missing recoverAll x = true) :
    need8 d p missing recoverAll lvl (x / 2 ^ lvl * 2 ^ lvl) = true :=
  needSound8 d p missing recoverAll lvl (RSV.Proofs.LeoSched.le_ceilPow2_of_lt (by omega)) hadm lvl x hl
    (Nat.le_refl _) hx hlive

/-- the prepared `errorBitfield` (GF(2^16)) answers `true` on every block holding a row that is read, at every level
`≥ 1` (level `0` is never queried by `fftDIT`) -/
theorem C05_prune_need16_sound (d p : Nat) (missing : Nat → Bool) (recoverAll : Bool)
    (hadm : ceilPow2 p + d ≤ 65536) (lvl x : Nat) (hl : 1 ≤ lvl) (hx : x < ceilPow2 p + d)
    (hlive : reconLive d p missing recoverAll x = true) :
    need16 d p missing recoverAll lvl (x / 2 ^ lvl * 2 ^ lvl) = true :=
  needSound16 d p missing recoverAll lvl
    (RSV.Proofs.LeoSched.le_ceilPow2_of_lt (by omega)) hadm lvl x hl (Nat.le_refl _) hx hlive

/-- GF(2^8): `reconstruct` on the `useBits` path (final FFT through the prepared `errorBitfield8`) returns exactly what
the full-FFT decoder returns — every admissible shape, every erasure set, both modes, any shard contents -/
theorem C05_prune_bf8 (d p len : Nat) (sh : Array Vec) (missing : Nat → Bool) (recoverAll : Bool)
    (hadm : ceilPow2 p + d ≤ 256) :
    reconstructBits8 (mkCtx P8) d p len sh missing recoverAll =
      reconstruct (mkCtx P8) d p len sh missing recoverAll :=
  reconstructPruned_bf8 d p len sh missing recoverAll hadm

/-- GF(2^16): the same through the prepared `errorBitfield` -/
theorem C05_prune_bf16 (d p len : Nat) (sh : Array Vec) (missing : Nat → Bool) (recoverAll : Bool)
    (hadm : ceilPow2 p + d ≤ 65536) :
    reconstructBits16 (mkCtx P16) d p len sh missing recoverAll =
      reconstruct (mkCtx P16) d p len sh missing recoverAll :=
  reconstructPruned_bf16 d p len sh missing recoverAll hadm

open RSV.Proofs.LCHSched.Sanity

/-- the block predicate for the single live row 5 -/
def toyNeed (lvl r : Nat) : Bool := RSV.Model.Bitfield.needed 8 [5] lvl r

-- with the constant-`true` test the pruned generator IS the un-pruned one (the loops are the same loops)
example : fftLayersPruned toyC (fun _ _ => true) 8 8 = fftLayers toyC 8 8 := by decide +kernel
example : fftLayersPruned toyC (fun _ _ => true) 11 16 = fftLayers toyC 11 16 := by decide +kernel
-- a real pruning: the pruned schedule is strictly shorter (odd and even `t`) …
example : (fftLayersPruned toyC toyNeed 8 8).size < (fftLayers toyC 8 8).size := by decide +kernel
example : (fftLayersPruned toyC toyNeed 16 16).size = 40 ∧ (fftLayers toyC 16 16).size = 61 := by decide +kernel
-- … it computes the same live row (an instance of `C05_prune_sound`) …
example : (run toyC #[] 1 toyW (fftLayersPruned toyC toyNeed 8 8).toList)[5]! =
    (run toyC #[] 1 toyW (fftLayers toyC 8 8).toList)[5]! :=
  C05_prune_sound toyC (fun x => x == 5) toyNeed #[] 1 toyW 8 8 3 rfl (by decide) (by decide) (by decide)
    (by
      intro lvl r x h1 _ _ _ _ hl hb
      have hx : x = 5 := by simpa using hl
      subst hx
      unfold toyNeed RSV.Model.Bitfield.needed
      by_cases h8 : lvl ≥ 8
      · rw [if_pos h8]
      · rw [if_neg h8, if_neg (by omega)]
        simp only [List.any_cons, List.any_nil, Bool.or_false, beq_iff_eq, Nat.shiftRight_eq_div_pow]
        exact hb) 5 (by decide) rfl
example : (run toyC #[] 1 toyW (fftLayersPruned toyC toyNeed 8 8).toList)[5]! =
    (run toyC #[] 1 toyW (fftLayers toyC 8 8).toList)[5]! := by decide +kernel
-- … and differs on rows that are not read (so the restriction to live rows is necessary)
example : (run toyC #[] 1 toyW (fftLayersPruned toyC toyNeed 8 8).toList)[0]! ≠
    (run toyC #[] 1 toyW (fftLayers toyC 8 8).toList)[0]! := by decide +kernel
-- an unsound test (never needed) loses the live row: the hypothesis of `C05_prune_sound` is necessary
example : (run toyC #[] 1 toyW (fftLayersPruned toyC (fun _ _ => false) 8 8).toList)[5]! ≠
    (run toyC #[] 1 toyW (fftLayers toyC 8 8).toList)[5]! := by decide +kernel
-- the word-level bit field of a decoder shape (d = 5, p = 2, data shard 1 missing: position m + 1 = 3 is set) prunes too
example : errorBitPositions 5 2 (fun i => i == 1) false = [3] := by decide +kernel
example : errorBitPositions 5 3 (fun i => i == 1 || i == 6) true = [1, 3, 5] := by decide +kernel
example : (fftLayersPruned toyC (need8 5 2 (fun i => i == 1) false) 7 8).size = 16 ∧
    (fftLayers toyC 7 8).size = 22 := by decide +kernel
example : (fftLayersPruned toyC (need16 5 2 (fun i => i == 1) false) 7 8).size = 16 := by decide +kernel

end RSV.Props.C05prune

#print axioms RSV.Props.C05prune.C05_prune_sound
#print axioms RSV.Props.C05prune.C05_reconLive_iff
#print axioms RSV.Props.C05prune.C05_prune_reconstruct
#print axioms RSV.Props.C05prune.C05_prune_need8_sound
#print axioms RSV.Props.C05prune.C05_prune_need16_sound
#print axioms RSV.Props.C05prune.C05_prune_bf8
#print axioms RSV.Props.C05prune.C05_prune_bf16
