import RSV.Proofs.Leo16.Cert
/-!
# C01 (Leopard GF(2^16) part) — Leopard 16-bit generators are MDS via the certificate

The 16-bit mirror of `RSV/Props/C01leo.lean`.  A Leopard GF(2^16) generator matrix `G` (`p × d`,
entries are Leopard symbols, i.e. Cantor-basis indices below 65536) is mapped entry-wise into
`GF65536` by the Cantor map (`Leo.mapMatrix16`).  The driver runs the generalised-Cauchy certificate
`Leo.leo16Cert` (core Lean, `RSV/Model/LeoCert16.lean`, on the core carrier `RSV/Model/GF65536.lean`) on
the matrix the Go implementation produced; the evaluation points are the images of index `r`
(parity `r`) and `m + c` (data `c`), `m = ceilPow2 p`, pairwise distinct because the Cantor map is
injective on `[0,65536)`.

`C01_leo16_transport` makes the interpretation explicit: a parity symbol computed in Leopard's own
arithmetic (`leoMul C16` through the 65,536-entry log/exp tables of `initLUTs P16`, xor) maps under
`toGF16 = GF65536.ofNat ∘ cm16` to the `GF65536` codeword equation whose MDS property is certified.
-/
namespace RSV.Props.C01leo16
open RSV.Model RSV.CodeTheory RSV.Proofs.Leo16

/-- `p ≤ ceilPow2 p` whenever the result fits -/
theorem C01_leo16_ceilPow2 (p : ℕ) (h : Leo.ceilPow2 p ≤ 65536) : p ≤ Leo.ceilPow2 p :=
  Proofs.LeoSched.le_ceilPow2_of_lt (Nat.lt_of_le_of_lt h (by decide))

/-- the evaluation points are pairwise distinct -/
theorem C01_leo16_points (d p : ℕ) (h : d + Leo.ceilPow2 p ≤ 65536) :
    Function.Injective (Leo.leoX16 p) ∧ Function.Injective (Leo.leoY16 d (Leo.ceilPow2 p)) ∧
    ∀ r c, Leo.leoX16 p r ≠ some (Leo.leoY16 d (Leo.ceilPow2 p) c) := by
  have hpm : p ≤ Leo.ceilPow2 p := Proofs.LeoSched.le_ceilPow2_of_lt (by omega)
  exact ⟨leoX16_inj (by omega), leoY16_inj h, leoX16_ne_leoY16 hpm h⟩

/-- a Leopard GF(2^16) generator accepted by the certificate is MDS -/
theorem C01_leo16_cert (d p : ℕ) (G : Array (Array ℕ)) (h : d + Leo.ceilPow2 p ≤ 65536)
    (hc : Leo.leo16Cert d p G = true) :
    RSV.CodeTheory.MDS
      (fun (r : Fin p) (c : Fin d) => (Leo.mapMatrix16 (p := p) (d := d) G).get r c) :=
  leo16Cert_sound d p G h hc

/-- the certificate runs on the field of `RSV/Proofs/Leo16/Field.lean`: the core operations of the
carrier (`RSV/Model/GF65536.lean`) are those of the `Field` instance, by `rfl` -/
theorem C01_leo16_carrier (a b : GF65536) :
    (a + b).val = a.val ^^^ b.val ∧ (a - b).val = a.val ^^^ b.val ∧
    (a * b).val = RSV.BF.pmul 16 0x1002D a.val b.val ∧ (a⁻¹).val = ginv16 a.val ∧
    a⁻¹ = a ^ 65534 :=
  ⟨rfl, rfl, rfl, rfl, GF65536.inv_eq_pow a⟩

/-- transport: the xor-sum of Leopard products `⊕_c G[r][c] ⊗ t[c]` maps to the `GF65536` sum of
products of the images -/
theorem C01_leo16_transport {d : ℕ} (g t : Fin d → ℕ) (hg : ∀ c, g c < 65536)
    (ht : ∀ c, t c < 65536) :
    GF65536.ofNat (cm16 ((List.finRange d).foldl
        (fun acc c => acc ^^^ Leo.leoMul C16 (g c) (t c)) 0)) =
      ∑ c, GF65536.ofNat (cm16 (g c)) * GF65536.ofNat (cm16 (t c)) := by
  have := toGF16_leoDot g t hg ht
  simp only [← ofNat_cm16] at this
  exact this

/-- … hence parity row `r` of a Leopard generator, computed in Leopard's arithmetic on a message `t`,
is coordinate `inr r` of the `GF65536` codeword of the mapped matrix on the mapped message -/
theorem C01_leo16_transport_cw {d p : ℕ} (G : Array (Array ℕ)) (t : Fin d → ℕ)
    (hG : ∀ (r : Fin p) (c : Fin d), (G[r.val]!)[c.val]! < 65536) (ht : ∀ c, t c < 65536)
    (r : Fin p) :
    GF65536.ofNat (cm16 ((List.finRange d).foldl
        (fun acc c => acc ^^^ Leo.leoMul C16 ((G[r.val]!)[c.val]!) (t c)) 0)) =
      cw (fun (r : Fin p) (c : Fin d) => (Leo.mapMatrix16 (p := p) (d := d) G).get r c)
        (fun c => GF65536.ofNat (cm16 (t c))) (Sum.inr r) := by
  rw [cw_inr, C01_leo16_transport (fun c => (G[r.val]!)[c.val]!) t (hG r) ht]
  simp [Leo.mapMatrix16, cm16]

/-- consequence: for an accepted generator, a message of Leopard symbols is determined by any `d` of
the `d + p` symbols (data symbols and parity symbols computed in Leopard's arithmetic) -/
theorem C01_leo16_any_d {d p : ℕ} (G : Array (Array ℕ)) (h : d + Leo.ceilPow2 p ≤ 65536)
    (hc : Leo.leo16Cert d p G = true)
    (hG : ∀ (r : Fin p) (c : Fin d), (G[r.val]!)[c.val]! < 65536)
    (S : Finset (Fin d ⊕ Fin p)) (hS : S.card = d) (t t' : Fin d → ℕ)
    (ht : ∀ c, t c < 65536) (ht' : ∀ c, t' c < 65536)
    (hdata : ∀ c, Sum.inl c ∈ S → t c = t' c)
    (hpar : ∀ r, Sum.inr r ∈ S →
      (List.finRange d).foldl (fun acc c => acc ^^^ Leo.leoMul C16 ((G[r.val]!)[c.val]!) (t c)) 0 =
      (List.finRange d).foldl (fun acc c => acc ^^^ Leo.leoMul C16 ((G[r.val]!)[c.val]!) (t' c)) 0) :
    t = t' :=
  Proofs.LeoField.eq_of_MDS (fun a => GF65536.ofNat (cm16 a)) 65536 ofNat_cm16_inj (C01_leo16_cert d p G h hc) _
    (fun t ht r => C01_leo16_transport_cw G t hG ht r) S hS t t' ht ht' hdata hpar

/-! The certificate accepts the Leopard GF(2^16) generator for `d = 3, p = 2`
(`Leo.encode (mkCtx P16) 3 2` on the unit vectors gives `[[3, 2, 5], [2, 3, 4]]`), and rejects a
perturbed matrix -/

example : Leo.leo16Cert 3 2 #[#[3, 2, 5], #[2, 3, 4]] = true := by decide +kernel

example : Leo.leo16Cert 3 2 #[#[3, 2, 5], #[2, 3, 5]] = false := by decide +kernel

example : Leo.leo16Cert 1 1 #[#[1]] = true := by decide +kernel

/-- … so that matrix is MDS over `GF65536` -/
theorem C01_leo16_example :
    RSV.CodeTheory.MDS (fun (r : Fin 2) (c : Fin 3) =>
      (Leo.mapMatrix16 (p := 2) (d := 3) #[#[3, 2, 5], #[2, 3, 4]]).get r c) :=
  C01_leo16_cert 3 2 _ (by decide +kernel) (by decide +kernel)

end RSV.Props.C01leo16

#print axioms RSV.Props.C01leo16.C01_leo16_ceilPow2
#print axioms RSV.Props.C01leo16.C01_leo16_points
#print axioms RSV.Props.C01leo16.C01_leo16_cert
#print axioms RSV.Props.C01leo16.C01_leo16_carrier
#print axioms RSV.Props.C01leo16.C01_leo16_transport
#print axioms RSV.Props.C01leo16.C01_leo16_transport_cw
#print axioms RSV.Props.C01leo16.C01_leo16_any_d
#print axioms RSV.Props.C01leo16.C01_leo16_example
