import RSV.Props.C03gen
import RSV.Proofs.Columns
/-!
# C03 — Encode produces exactly the specified GF(2^8) code and leaves data untouched

Generator identities are in `RSV.Props.C03gen`; here: what Encode does with a generator.
`encodeAll A data` is the model of the shard set after `Encode`.
-/
namespace RSV.Props.C03
open RSV.Model

variable {F : Type} [Field F] {d p len : ℕ}

/-- byte `k` of parity shard `r` is `Σ_c A[r][c] · data[c][k]` -/
theorem C03_encode_formula (A : Mat F p d) (data : Fin d → Shard F len) (r : Fin p) (k : Fin len) :
    (encodeSpec A data r)[k] = ∑ c, A.get r c * (data c)[k] := encodeSpec_getElem A data r k

/-- Encode leaves the data shards unchanged -/
theorem C03_data_untouched (A : Mat F p d) (data : Fin d → Shard F len) (i : Fin (d + p)) (h : i.val < d) :
    encodeAll A data i = data ⟨i.val, h⟩ := encodeAll_of_lt A data i h

theorem C03_parity (A : Mat F p d) (data : Fin d → Shard F len) (i : Fin (d + p)) (h : ¬ i.val < d) :
    encodeAll A data i = encodeSpec A data ⟨i.val - d, by omega⟩ := encodeAll_of_ge A data i h

/-- column-locality: a parity byte depends only on the data bytes at the same offset — so slicing or
concatenating shard sets commutes with encoding (two data sets, possibly of different lengths,
that agree in column `k` / `k'` give the same parity byte there) -/
theorem C03_local {len' : ℕ} (A : Mat F p d) (data : Fin d → Shard F len) (data' : Fin d → Shard F len')
    (k : Fin len) (k' : Fin len') (h : ∀ c, (data c)[k] = (data' c)[k']) (r : Fin p) :
    (encodeSpec A data r)[k] = (encodeSpec A data' r)[k'] := by
  rw [encodeSpec_getElem, encodeSpec_getElem]
  exact Finset.sum_congr rfl fun c _ => by rw [h c]

/-- linearity in the data (xor of two data sets encodes to the xor of the parities) -/
theorem C03_linear (A : Mat F p d) (data data' : Fin d → Shard F len) (r : Fin p) (k : Fin len) :
    (encodeSpec A (fun c => Vector.ofFn fun j => (data c)[j] + (data' c)[j]) r)[k]
      = (encodeSpec A data r)[k] + (encodeSpec A data' r)[k] := by
  rw [encodeSpec_getElem, encodeSpec_getElem, encodeSpec_getElem, ← Finset.sum_add_distrib]
  refine Finset.sum_congr rfl fun c _ => ?_
  rw [← mul_add]
  exact congrArg _ (Vector.getElem_ofFn _)

/-- the field of the codec: multiplication of `GF256` is multiplication of polynomials over GF(2)
modulo `x^8+x^4+x^3+x^2+1`, addition is xor -/
theorem C03_field (a b : GF256) : (a * b).val = BF.pmul 8 0x11D a.val b.val ∧ (a + b).val = a.val ^^^ b.val :=
  ⟨rfl, rfl⟩

example : (GF256.ofNat 2 * GF256.ofNat 128).val = 0x1D := by decide

end RSV.Props.C03
