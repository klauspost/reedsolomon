import RSV.Props.C17leo
import RSV.Proofs.LeoPres.Linear
/-!
# C04 / C05 for GF(2^8): xor-linearity of Leopard Encode / Reconstruct on byte shards

`RSV.Props.C04.C04_linear` assumes `MulLinear C`, which quantifies over all naturals and therefore
cannot be instantiated by a table context (`mulSym` reads `T.log[a]!`).  The bounded hypothesis
`MulLinearOn C B` (`RSV/Proofs/LeoSchedBounded.lean`) can: `C04_mulLinearOn_gf8` is its instance for the
GF(2^8) context `C8` with `B = 256` (`LeoPres.mulLinearOn`, `RSV/Proofs/LeoPres/Linear.lean`).
`C8 = Leo.mkCtx Leo.P8` by definition (`C8_eq_mkCtx`), the context used by the driver.

The remaining hypotheses of the `gf8` corollaries are per-configuration executable checks
(`allInRange … = true`, `allLogsBelow 256 … = true`: the schedule addresses rows in range and all
multipliers are bytes), well-formedness (all rows of one length) and "all symbols are bytes".
-/
namespace RSV.Props.C04gf8
open RSV.Model RSV.Model.Leo RSV.Proofs.LeoSched RSV.Proofs.LeoField

/-- the context of the field theorems is the model's `mkCtx P8` -/
theorem C8_eq_mkCtx : C8 = Leo.mkCtx Leo.P8 := rfl

/-- the bounded algebraic hypothesis holds for the GF(2^8) tables -/
theorem C04_mulLinearOn_gf8 : MulLinearOn C8 256 := pres8.mulLinearOn

theorem C04_modulus_gf8 : C8.P.modulus < 256 := by decide

/-- byte symbols stay bytes -/
theorem C04_run_bytes_gf8 {len : Nat} {shards w : Array Vec} {steps : List Step}
    (bw : SymsBelow 256 w) (bs : SymsBelow 256 shards) (hl : allLogsBelow 256 steps = true) :
    SymsBelow 256 (run C8 shards len w steps) :=
  run_symsBelow C8 C04_mulLinearOn_gf8 bw bs ((allLogsBelow_iff 256 steps).mp hl)

/-- `run` over GF(2^8) is xor-linear on byte inputs, for any schedule in range with byte multipliers -/
theorem C04_linear_gf8 {len : Nat} {s₁ s₂ w₁ w₂ : Array Vec} {steps : List Step}
    (hw₁ : WF len w₁) (hw₂ : WF len w₂) (hs₁ : WF len s₁) (hs₂ : WF len s₂)
    (bw₁ : SymsBelow 256 w₁) (bw₂ : SymsBelow 256 w₂) (bs₁ : SymsBelow 256 s₁) (bs₂ : SymsBelow 256 s₂)
    (hws : w₁.size = w₂.size) (hss : s₁.size = s₂.size)
    (hr : allInRange w₁.size s₁.size steps = true) (hl : allLogsBelow 256 steps = true) :
    run C8 (xorRows s₁ s₂) len (xorRows w₁ w₂) steps =
      xorRows (run C8 s₁ len w₁ steps) (run C8 s₂ len w₂ steps) :=
  run_xorRows_on C8 C04_mulLinearOn_gf8 hw₁ hw₂ hs₁ hs₂ bw₁ bw₂ bs₁ bs₂ hws hss
    ((allInRange_iff _ _ steps).mp hr) ((allLogsBelow_iff 256 steps).mp hl)

/-- Leopard GF(2^8) Encode is xor-linear on byte shards -/
theorem C04_encode_linear_gf8 {len : Nat} (d p : Nat) {s₁ s₂ : Array Vec}
    (hs₁ : WF len s₁) (hs₂ : WF len s₂) (bs₁ : SymsBelow 256 s₁) (bs₂ : SymsBelow 256 s₂)
    (hss : s₁.size = s₂.size)
    (hr : allInRange (2 * ceilPow2 p) s₁.size (encodeSched C8 d p).toList = true)
    (hl : allLogsBelow 256 (encodeSched C8 d p).toList = true) :
    encode C8 d p len (xorRows s₁ s₂) = xorRows (encode C8 d p len s₁) (encode C8 d p len s₂) :=
  encode_xorRows_on C8 C04_mulLinearOn_gf8 d p hs₁ hs₂ bs₁ bs₂ hss
    ((allInRange_iff _ _ _).mp hr) ((allLogsBelow_iff 256 _).mp hl)

/-- the parity shards of byte shards are byte shards -/
theorem C04_encode_bytes_gf8 {len : Nat} (d p : Nat) {data : Array Vec} (bs : SymsBelow 256 data)
    (hl : allLogsBelow 256 (encodeSched C8 d p).toList = true) :
    SymsBelow 256 (encode C8 d p len data) :=
  encode_symsBelow C8 C04_mulLinearOn_gf8 d p bs ((allLogsBelow_iff 256 _).mp hl)

/-- all-zero data encodes to all-zero parity -/
theorem C04_encode_zero_gf8 {len nsh : Nat} (d p : Nat)
    (hr : allInRange (2 * ceilPow2 p) nsh (encodeSched C8 d p).toList = true) :
    encode C8 d p len (zeroRows nsh len) = (zeroRows (2 * ceilPow2 p) len).extract 0 p :=
  encode_zeroRows C8 d p ((allInRange_iff _ _ _).mp hr)

/-- Leopard GF(2^8) Reconstruct is xor-linear on byte shards, for a fixed erasure set -/
theorem C05_reconstruct_linear_gf8 {len : Nat} (d p : Nat) {s₁ s₂ : Array Vec}
    (missing : Nat → Bool) (recoverAll : Bool)
    (hs₁ : WF len s₁) (hs₂ : WF len s₂) (bs₁ : SymsBelow 256 s₁) (bs₂ : SymsBelow 256 s₂)
    (hss : s₁.size = s₂.size) (hp : p ≤ 2 ^ 64) (hn : ceilPow2 p + d ≤ 2 ^ 64)
    (hr : allInRange (ceilPow2 (ceilPow2 p + d)) s₁.size
      (reconSched C8 d p missing (errLocs C8 d p missing)).toList = true)
    (hl : allLogsBelow 256 (reconSched C8 d p missing (errLocs C8 d p missing)).toList = true) :
    reconstruct C8 d p len (xorRows s₁ s₂) missing recoverAll =
      Array.zipWith (optZip xorVec) (reconstruct C8 d p len s₁ missing recoverAll)
        (reconstruct C8 d p len s₂ missing recoverAll) :=
  reconstruct_xorRows_on C8 C04_mulLinearOn_gf8 C04_modulus_gf8 d p missing recoverAll
    hs₁ hs₂ bs₁ bs₂ hss (RSV.Proofs.LeoSched.le_ceilPow2 p hp) (RSV.Proofs.LeoSched.le_ceilPow2 _ hn)
    ((allInRange_iff _ _ _).mp hr) ((allLogsBelow_iff 256 _).mp hl)

end RSV.Props.C04gf8

#print axioms RSV.Props.C04gf8.C8_eq_mkCtx
#print axioms RSV.Props.C04gf8.C04_mulLinearOn_gf8
#print axioms RSV.Props.C04gf8.C04_modulus_gf8
#print axioms RSV.Props.C04gf8.C04_run_bytes_gf8
#print axioms RSV.Props.C04gf8.C04_linear_gf8
#print axioms RSV.Props.C04gf8.C04_encode_linear_gf8
#print axioms RSV.Props.C04gf8.C04_encode_bytes_gf8
#print axioms RSV.Props.C04gf8.C04_encode_zero_gf8
#print axioms RSV.Props.C04gf8.C05_reconstruct_linear_gf8
