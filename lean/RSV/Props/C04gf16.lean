import RSV.Proofs.Leo16.Mul
import RSV.Proofs.LeoPres.Linear
/-!
# C04 / C05 for GF(2^16): xor-linearity of Leopard Encode / Reconstruct on 16-bit symbol shards

The GF(2^16) counterpart of `RSV/Props/C04gf8.lean`.  `C04_mulLinearOn_gf16` instantiates the bounded
hypothesis `MulLinearOn C B` of `RSV/Proofs/LeoSchedBounded.lean` for the model's real GF(2^16) context
`C16 = Leo.mkCtx Leo.P16` with `B = 65536`; it is proved structurally from the loops of `initLUTs`
(`RSV/Proofs/LeoPres.lean`, instantiated in `RSV/Proofs/Leo16/Mul.lean`), no 65,536-entry table is evaluated.

The remaining hypotheses of the corollaries are per-configuration executable checks
(`allInRange … = true`, `allLogsBelow 65536 … = true`), well-formedness (all rows of one length) and
"all symbols are below 65536".
-/
namespace RSV.Props.C04gf16
open RSV.Model RSV.Model.Leo RSV.Proofs.LeoSched RSV.Proofs.Leo16

/-- the context of the field theorems is the model's `mkCtx P16` -/
theorem C16_eq_mkCtx : C16 = Leo.mkCtx Leo.P16 := rfl

/-- the bounded algebraic hypothesis holds for the GF(2^16) tables -/
theorem C04_mulLinearOn_gf16 : MulLinearOn (Leo.mkCtx Leo.P16) 65536 := pres16.mulLinearOn

theorem C04_modulus_gf16 : C16.P.modulus < 65536 := by
  show Leo.P16.modulus < 65536; decide

/-- 16-bit symbols stay 16-bit symbols -/
theorem C04_run_syms_gf16 {len : Nat} {shards w : Array Vec} {steps : List Step}
    (bw : SymsBelow 65536 w) (bs : SymsBelow 65536 shards)
    (hl : allLogsBelow 65536 steps = true) :
    SymsBelow 65536 (run C16 shards len w steps) :=
  run_symsBelow C16 pres16.mulLinearOn bw bs ((allLogsBelow_iff 65536 steps).mp hl)

/-- `run` over GF(2^16) is xor-linear on 16-bit inputs, for any schedule in range with 16-bit
multipliers -/
theorem C04_linear_gf16 {len : Nat} {s₁ s₂ w₁ w₂ : Array Vec} {steps : List Step}
    (hw₁ : WF len w₁) (hw₂ : WF len w₂) (hs₁ : WF len s₁) (hs₂ : WF len s₂)
    (bw₁ : SymsBelow 65536 w₁) (bw₂ : SymsBelow 65536 w₂) (bs₁ : SymsBelow 65536 s₁)
    (bs₂ : SymsBelow 65536 s₂)
    (hws : w₁.size = w₂.size) (hss : s₁.size = s₂.size)
    (hr : allInRange w₁.size s₁.size steps = true) (hl : allLogsBelow 65536 steps = true) :
    run C16 (xorRows s₁ s₂) len (xorRows w₁ w₂) steps =
      xorRows (run C16 s₁ len w₁ steps) (run C16 s₂ len w₂ steps) :=
  run_xorRows_on C16 pres16.mulLinearOn hw₁ hw₂ hs₁ hs₂ bw₁ bw₂ bs₁ bs₂ hws hss
    ((allInRange_iff _ _ steps).mp hr) ((allLogsBelow_iff 65536 steps).mp hl)

/-- Leopard GF(2^16) Encode is xor-linear on 16-bit symbol shards -/
theorem C04_encode_linear_gf16 {len : Nat} (d p : Nat) {s₁ s₂ : Array Vec}
    (hs₁ : WF len s₁) (hs₂ : WF len s₂) (bs₁ : SymsBelow 65536 s₁) (bs₂ : SymsBelow 65536 s₂)
    (hss : s₁.size = s₂.size)
    (hr : allInRange (2 * ceilPow2 p) s₁.size (encodeSched C16 d p).toList = true)
    (hl : allLogsBelow 65536 (encodeSched C16 d p).toList = true) :
    encode C16 d p len (xorRows s₁ s₂) =
      xorRows (encode C16 d p len s₁) (encode C16 d p len s₂) :=
  encode_xorRows_on C16 pres16.mulLinearOn d p hs₁ hs₂ bs₁ bs₂ hss
    ((allInRange_iff _ _ _).mp hr) ((allLogsBelow_iff 65536 _).mp hl)

/-- the parity shards of 16-bit symbol shards are 16-bit symbol shards -/
theorem C04_encode_syms_gf16 {len : Nat} (d p : Nat) {data : Array Vec}
    (bs : SymsBelow 65536 data)
    (hl : allLogsBelow 65536 (encodeSched C16 d p).toList = true) :
    SymsBelow 65536 (encode C16 d p len data) :=
  encode_symsBelow C16 pres16.mulLinearOn d p bs ((allLogsBelow_iff 65536 _).mp hl)

/-- all-zero data encodes to all-zero parity -/
theorem C04_encode_zero_gf16 {len nsh : Nat} (d p : Nat)
    (hr : allInRange (2 * ceilPow2 p) nsh (encodeSched C16 d p).toList = true) :
    encode C16 d p len (zeroRows nsh len) = (zeroRows (2 * ceilPow2 p) len).extract 0 p :=
  encode_zeroRows C16 d p ((allInRange_iff _ _ _).mp hr)

/-- Leopard GF(2^16) Reconstruct is xor-linear on 16-bit symbol shards, for a fixed erasure set -/
theorem C05_reconstruct_linear_gf16 {len : Nat} (d p : Nat) {s₁ s₂ : Array Vec}
    (missing : Nat → Bool) (recoverAll : Bool)
    (hs₁ : WF len s₁) (hs₂ : WF len s₂) (bs₁ : SymsBelow 65536 s₁) (bs₂ : SymsBelow 65536 s₂)
    (hss : s₁.size = s₂.size) (hp : p ≤ 2 ^ 64) (hn : ceilPow2 p + d ≤ 2 ^ 64)
    (hr : allInRange (ceilPow2 (ceilPow2 p + d)) s₁.size
      (reconSched C16 d p missing (errLocs C16 d p missing)).toList = true)
    (hl : allLogsBelow 65536
      (reconSched C16 d p missing (errLocs C16 d p missing)).toList = true) :
    reconstruct C16 d p len (xorRows s₁ s₂) missing recoverAll =
      Array.zipWith (optZip xorVec) (reconstruct C16 d p len s₁ missing recoverAll)
        (reconstruct C16 d p len s₂ missing recoverAll) :=
  reconstruct_xorRows_on C16 pres16.mulLinearOn C04_modulus_gf16 d p missing recoverAll
    hs₁ hs₂ bs₁ bs₂ hss (RSV.Proofs.LeoSched.le_ceilPow2 p hp)
    (RSV.Proofs.LeoSched.le_ceilPow2 _ hn)
    ((allInRange_iff _ _ _).mp hr) ((allLogsBelow_iff 65536 _).mp hl)

end RSV.Props.C04gf16

#print axioms RSV.Props.C04gf16.C16_eq_mkCtx
#print axioms RSV.Props.C04gf16.C04_mulLinearOn_gf16
#print axioms RSV.Props.C04gf16.C04_modulus_gf16
#print axioms RSV.Props.C04gf16.C04_run_syms_gf16
#print axioms RSV.Props.C04gf16.C04_linear_gf16
#print axioms RSV.Props.C04gf16.C04_encode_linear_gf16
#print axioms RSV.Props.C04gf16.C04_encode_syms_gf16
#print axioms RSV.Props.C04gf16.C04_encode_zero_gf16
#print axioms RSV.Props.C04gf16.C05_reconstruct_linear_gf16
