import RSV.Proofs.LCHBridge.EncodeThm
/-!
# C04 (Leopard, structural part) — `encode` IS the Lin–Chung–Han code, and that code is MDS

Generic in the table context `C`, the field `K` and the field reading `F : FieldCtx C K` (symbols ↦ field
elements, `mulSym` ↦ multiplication by a power of the generator; instances for `mkCtx P8` / `mkCtx P16` are
supplied separately), under `SkewOK F` (the skew table `fftSkew` holds the logarithms of the LCH twiddle factors
`Ŵ_i(ω_b)`, sentinel `modulus` for `0`):

* `C04_encode_is_lch_code` — for EVERY admissible shape (`0 < d`, `p ≤ 2^64`, `ceilPow2 p = 2^t`,
  `d + ceilPow2 p ≤ 2^F.k`, which is Leopard's `d + ceilPow2 p ≤ order`), every well-formed bounded input, every
  parity row `r < p` and symbol position `s < len`, the symbol produced by the executable schedule model
  `encode` (radix-4 loops, truncation, groups of `m` shards, table arithmetic) is the parity coordinate of the
  systematic codeword of the explicit matrix `encMatrix (beta F) F.k t p d`, entry
  `v_{c / m} / (ω_r - ω_{m + c})`;
* `C04_lch_generator_mds` — that matrix is MDS (any `d` coordinates of a codeword determine the message);
* `C04_encode_lch_all` — both together without the auxiliary exponent `t` (`ceilPow2 p` is always some `2^t`);
* `C04_encode_any_d` — consequently any `d` of the `d + p` symbols (data symbols and parity symbols computed in
  Leopard's own arithmetic) at a symbol position determine the data symbols there.

No certificate is run and no shape is enumerated: the statements quantify over all `(d, p)`.
Non-vacuity: the hypotheses on `(d, p, t)` are satisfiable (`C04_lch_shape_example`); the hypotheses `F`, `SkewOK F`
are discharged for the two real contexts in `RSV.Proofs.LCHBridge.Instances` / `Skew*`.
-/
namespace RSV.Props.C04lch
open RSV RSV.Model.Leo RSV.LCH RSV.LCHBridge RSV.Proofs.LeoSched

variable {C : Ctx} {K : Type} [Field K]

/-- the encoder computes the code generated by `encMatrix` -/
theorem C04_encode_is_lch_code (F : FieldCtx C K) (hS : SkewOK F) {d p t len s : ℕ} {data : Array Vec}
    (hd : 0 < d) (hp64 : p ≤ 2 ^ 64) (hm : ceilPow2 p = 2 ^ t) (hadm : d + ceilPow2 p ≤ 2 ^ F.k)
    (hdsz : d ≤ data.size) (hwd : WF len data) (hbd : SymsBelow (2 ^ F.k) data) (r : Fin p) (hs : s < len) :
    F.φ (((encode C d p len data)[r.val]!)[s]!) =
      ∑ c : Fin d, encMatrix (beta F) F.k t p d r c * F.φ ((data[c.val]!)[s]!) :=
  encode_eq_encMatrix hS hd hp64 hm hadm hdsz hwd hbd r hs

/-- codeword form of `C04_encode_is_lch_code` -/
theorem C04_encode_is_lch_codeword (F : FieldCtx C K) (hS : SkewOK F) {d p t len s : ℕ} {data : Array Vec}
    (hd : 0 < d) (hp64 : p ≤ 2 ^ 64) (hm : ceilPow2 p = 2 ^ t) (hadm : d + ceilPow2 p ≤ 2 ^ F.k)
    (hdsz : d ≤ data.size) (hwd : WF len data) (hbd : SymsBelow (2 ^ F.k) data) (r : Fin p) (hs : s < len) :
    F.φ (((encode C d p len data)[r.val]!)[s]!) =
      CodeTheory.cw (encMatrix (beta F) F.k t p d) (fun c => F.φ ((data[c.val]!)[s]!)) (Sum.inr r) :=
  encode_eq_cw hS hd hp64 hm hadm hdsz hwd hbd r hs

/-- the generator is MDS for every admissible shape -/
theorem C04_lch_generator_mds (F : FieldCtx C K) {d p t : ℕ} (hd : 0 < d) (hp64 : p ≤ 2 ^ 64)
    (hm : ceilPow2 p = 2 ^ t) (hadm : d + ceilPow2 p ≤ 2 ^ F.k) :
    CodeTheory.MDS (encMatrix (beta F) F.k t p d) :=
  encode_generator_mds F hd hp64 hm hadm

/-- any `d` of the `d + p` symbols determine the data symbols -/
theorem C04_encode_any_d (F : FieldCtx C K) (hS : SkewOK F) {d p t len s : ℕ} {data data' : Array Vec}
    (hd : 0 < d) (hp64 : p ≤ 2 ^ 64) (hm : ceilPow2 p = 2 ^ t) (hadm : d + ceilPow2 p ≤ 2 ^ F.k)
    (hdsz : d ≤ data.size) (hwd : WF len data) (hbd : SymsBelow (2 ^ F.k) data)
    (hdsz' : d ≤ data'.size) (hwd' : WF len data') (hbd' : SymsBelow (2 ^ F.k) data') (hs : s < len)
    (S : Finset (Fin d ⊕ Fin p)) (hcard : S.card = d)
    (hdata : ∀ c : Fin d, Sum.inl c ∈ S → (data[c.val]!)[s]! = (data'[c.val]!)[s]!)
    (hpar : ∀ r : Fin p, Sum.inr r ∈ S →
      ((encode C d p len data)[r.val]!)[s]! = ((encode C d p len data')[r.val]!)[s]!) :
    ∀ c : Fin d, (data[c.val]!)[s]! = (data'[c.val]!)[s]! :=
  encode_any_d hS hd hp64 hm hadm hdsz hwd hbd hdsz' hwd' hbd' hs S hcard hdata hpar

/-- closed form without the auxiliary exponent: `ceilPow2 p` is always a power of two `2^t`, and for that `t` the
matrix is MDS and `encode` computes its code, on every well-formed bounded input -/
theorem C04_encode_lch_all (F : FieldCtx C K) (hS : SkewOK F) {d p : ℕ} (hd : 0 < d) (hp64 : p ≤ 2 ^ 64)
    (hadm : d + ceilPow2 p ≤ 2 ^ F.k) :
    ∃ t, ceilPow2 p = 2 ^ t ∧ CodeTheory.MDS (encMatrix (beta F) F.k t p d) ∧
      ∀ (len : ℕ) (data : Array Vec), d ≤ data.size → WF len data → SymsBelow (2 ^ F.k) data →
        ∀ (r : Fin p) (s : ℕ), s < len →
          F.φ (((encode C d p len data)[r.val]!)[s]!) =
            CodeTheory.cw (encMatrix (beta F) F.k t p d) (fun c => F.φ ((data[c.val]!)[s]!)) (Sum.inr r) := by
  obtain ⟨t, hm⟩ := RSV.Proofs.LeoSched.ceilPow2_pow2 p
  exact ⟨t, hm, encode_generator_mds F hd hp64 hm hadm,
    fun len data h1 h2 h3 r s hs => encode_eq_cw hS hd hp64 hm hadm h1 h2 h3 r hs⟩

/-- the shape hypotheses are satisfiable, e.g. `(d, p) = (10, 4)` and `(d, p) = (190, 50)` for `k = 8` -/
theorem C04_lch_shape_example :
    (ceilPow2 4 = 2 ^ 2 ∧ 10 + ceilPow2 4 ≤ 2 ^ 8) ∧ (ceilPow2 50 = 2 ^ 6 ∧ 190 + ceilPow2 50 ≤ 2 ^ 8) := by
  rw [ceilPow2_eq_two_pow (n := 4) (t := 2) (by decide) (by decide) (by decide),
    ceilPow2_eq_two_pow (n := 50) (t := 6) (by decide) (by decide) (by decide)]
  decide

end RSV.Props.C04lch

#print axioms RSV.Props.C04lch.C04_encode_is_lch_code
#print axioms RSV.Props.C04lch.C04_encode_is_lch_codeword
#print axioms RSV.Props.C04lch.C04_lch_generator_mds
#print axioms RSV.Props.C04lch.C04_encode_any_d
#print axioms RSV.Props.C04lch.C04_encode_lch_all
#print axioms RSV.Props.C04lch.C04_lch_shape_example
