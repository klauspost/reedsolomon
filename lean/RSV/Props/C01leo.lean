import RSV.Proofs.LeoField
/-!
# C01 (Leopard part) — Leopard GF(2^8) generators are MDS via the certificate

A Leopard generator matrix `G` (`p × d`, entries are Leopard symbols, i.e. Cantor-basis indices) is
mapped entry-wise into `GF256` by the Cantor map (`Leo.mapMatrix`).  The driver runs the
generalised-Cauchy certificate `Leo.leo8Cert` on the matrix the Go implementation produced; the
evaluation points are the images of index `r` (parity `r`) and `m + c` (data `c`), `m = ceilPow2 p`,
which are pairwise distinct because the Cantor map is injective on `[0,256)`.

`C01_leo8_transport` makes the interpretation explicit: a parity symbol computed in Leopard's own
arithmetic (`leoMul`, xor) maps under `toGF = GF256.ofNat ∘ cm` to the `GF256` codeword equation
whose MDS property is certified.
-/
namespace RSV.Props.C01leo
open RSV.Model RSV.CodeTheory RSV.Proofs.LeoField

/-- `p ≤ ceilPow2 p` unless the loop stopped at its cap `2^64` (it doubles at most 64 times) -/
theorem C01_leo8_ceilPow2 (p : ℕ) : p ≤ Leo.ceilPow2 p ∨ Leo.ceilPow2 p = 2 ^ 64 := Proofs.LeoSched.ceilPow2_spec p

/-- the evaluation points are pairwise distinct -/
theorem C01_leo8_points (d p : ℕ) (h : d + Leo.ceilPow2 p ≤ 256) :
    Function.Injective (Leo.leoX p) ∧ Function.Injective (Leo.leoY d (Leo.ceilPow2 p)) ∧
    ∀ r c, Leo.leoX p r ≠ some (Leo.leoY d (Leo.ceilPow2 p) c) := by
  have hpm : p ≤ Leo.ceilPow2 p := Proofs.LeoSched.le_ceilPow2_of_lt (by omega)
  exact ⟨leoX_inj (by omega), leoY_inj h, leoX_ne_leoY hpm h⟩

/-- a Leopard GF(2^8) generator accepted by the certificate is MDS -/
theorem C01_leo8_cert (d p : ℕ) (G : Array (Array ℕ)) (h : d + Leo.ceilPow2 p ≤ 256)
    (hc : Leo.leo8Cert d p G = true) :
    RSV.CodeTheory.MDS (fun (r : Fin p) (c : Fin d) => (Leo.mapMatrix (p := p) (d := d) G).get r c) :=
  leo8Cert_sound d p G h hc

/-- transport: the xor-sum of Leopard products `⊕_c G[r][c] ⊗ t[c]` maps to the `GF256` sum of
products of the images -/
theorem C01_leo8_transport {d : ℕ} (g t : Fin d → ℕ) (hg : ∀ c, g c < 256) (ht : ∀ c, t c < 256) :
    GF256.ofNat (cm ((List.finRange d).foldl (fun acc c => acc ^^^ Leo.leoMul C8 (g c) (t c)) 0)) =
      ∑ c, GF256.ofNat (cm (g c)) * GF256.ofNat (cm (t c)) :=
  toGF_leoDot g t hg ht

/-- … hence parity row `r` of a Leopard generator, computed in Leopard's arithmetic on a message `t`,
is coordinate `inr r` of the `GF256` codeword of the mapped matrix on the mapped message -/
theorem C01_leo8_transport_cw {d p : ℕ} (G : Array (Array ℕ)) (t : Fin d → ℕ)
    (hG : ∀ (r : Fin p) (c : Fin d), (G[r.val]!)[c.val]! < 256) (ht : ∀ c, t c < 256) (r : Fin p) :
    GF256.ofNat (cm ((List.finRange d).foldl
        (fun acc c => acc ^^^ Leo.leoMul C8 ((G[r.val]!)[c.val]!) (t c)) 0)) =
      cw (fun (r : Fin p) (c : Fin d) => (Leo.mapMatrix (p := p) (d := d) G).get r c)
        (fun c => GF256.ofNat (cm (t c))) (Sum.inr r) := by
  rw [cw_inr, C01_leo8_transport (fun c => (G[r.val]!)[c.val]!) t (hG r) ht]
  simp [Leo.mapMatrix]

/-- consequence: for an accepted generator, a message of Leopard symbols is determined by any `d` of
the `d + p` symbols (data symbols and parity symbols computed in Leopard's arithmetic) -/
theorem C01_leo8_any_d {d p : ℕ} (G : Array (Array ℕ)) (h : d + Leo.ceilPow2 p ≤ 256)
    (hc : Leo.leo8Cert d p G = true) (hG : ∀ (r : Fin p) (c : Fin d), (G[r.val]!)[c.val]! < 256)
    (S : Finset (Fin d ⊕ Fin p)) (hS : S.card = d) (t t' : Fin d → ℕ)
    (ht : ∀ c, t c < 256) (ht' : ∀ c, t' c < 256)
    (hdata : ∀ c, Sum.inl c ∈ S → t c = t' c)
    (hpar : ∀ r, Sum.inr r ∈ S →
      (List.finRange d).foldl (fun acc c => acc ^^^ Leo.leoMul C8 ((G[r.val]!)[c.val]!) (t c)) 0 =
      (List.finRange d).foldl (fun acc c => acc ^^^ Leo.leoMul C8 ((G[r.val]!)[c.val]!) (t' c)) 0) :
    t = t' :=
  eq_of_MDS toGF 256 (fun _ _ => toGF_inj) (C01_leo8_cert d p G h hc) _
    (fun t ht r => C01_leo8_transport_cw G t hG ht r) S hS t t' ht ht' hdata hpar

end RSV.Props.C01leo

#print axioms RSV.Props.C01leo.C01_leo8_ceilPow2
#print axioms RSV.Props.C01leo.C01_leo8_points
#print axioms RSV.Props.C01leo.C01_leo8_cert
#print axioms RSV.Props.C01leo.C01_leo8_transport
#print axioms RSV.Props.C01leo.C01_leo8_transport_cw
#print axioms RSV.Props.C01leo.C01_leo8_any_d
