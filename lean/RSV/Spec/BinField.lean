/-!
# L0: GF(2^k) from first principles (core Lean only)

Carry-less shift-and-reduce arithmetic on natural numbers below `2^k`.
`poly` is the full reduction polynomial including the `x^k` term (0x11D for k = 8,
0x1002D for k = 16).  Nothing in this file comes from the repository.
-/
namespace RSV.BF

/-- multiply by `x` modulo `poly`, on `k`-bit values -/
def xtime (k poly a : Nat) : Nat :=
  if a.testBit (k-1) then (a <<< 1) ^^^ poly else a <<< 1

/-- Russian-peasant multiply: fuel = number of bits of `b` still to consume -/
def pmulAux (k poly : Nat) : Nat → Nat → Nat → Nat
  | 0, _, _ => 0
  | n+1, a, b => (if b.testBit 0 then a else 0) ^^^ pmulAux k poly n (xtime k poly a) (b >>> 1)

/-- product of two `k`-bit values in GF(2)[x]/(poly) -/
def pmul (k poly a b : Nat) : Nat := pmulAux k poly k a b

/-- `a^n` by repeated multiplication -/
def ppow (k poly a : Nat) : Nat → Nat
  | 0 => 1
  | n+1 => pmul k poly (ppow k poly a n) a

theorem xor_xor_xor_comm (a b c d : Nat) : (a ^^^ b) ^^^ (c ^^^ d) = (a ^^^ c) ^^^ (b ^^^ d) := by
  ac_rfl

theorem ite_bxor (p q : Bool) (v : Nat) :
    (if (p ^^ q) then v else 0) = (if p then v else 0) ^^^ (if q then v else 0) := by
  cases p <;> cases q <;> simp

theorem ite_xor (p : Bool) (v w : Nat) :
    (if p then v ^^^ w else 0) = (if p then v else 0) ^^^ (if p then w else 0) := by
  cases p <;> simp

theorem xtime_eq (k poly a : Nat) :
    xtime k poly a = (a <<< 1) ^^^ (if a.testBit (k-1) then poly else 0) := by
  unfold xtime; split <;> simp

theorem xtime_xor (k poly a b : Nat) :
    xtime k poly (a ^^^ b) = xtime k poly a ^^^ xtime k poly b := by
  rw [xtime_eq, xtime_eq, xtime_eq, Nat.testBit_xor, Nat.shiftLeft_xor_distrib, ite_bxor,
    xor_xor_xor_comm]

theorem pmulAux_xor_left (k poly n : Nat) : ∀ a a' b,
    pmulAux k poly n (a ^^^ a') b = pmulAux k poly n a b ^^^ pmulAux k poly n a' b := by
  induction n with
  | zero => intro a a' b; simp [pmulAux]
  | succ n ih =>
    intro a a' b
    simp only [pmulAux, xtime_xor, ih, ite_xor, xor_xor_xor_comm]

theorem pmulAux_xor_right (k poly n : Nat) : ∀ a b b',
    pmulAux k poly n a (b ^^^ b') = pmulAux k poly n a b ^^^ pmulAux k poly n a b' := by
  induction n with
  | zero => intro a b b'; simp [pmulAux]
  | succ n ih =>
    intro a b b'
    simp only [pmulAux, Nat.shiftRight_xor_distrib, ih, Nat.testBit_xor, ite_bxor, xor_xor_xor_comm]

theorem pmul_xor_left (k poly a a' b : Nat) :
    pmul k poly (a ^^^ a') b = pmul k poly a b ^^^ pmul k poly a' b :=
  pmulAux_xor_left k poly k a a' b

theorem pmul_xor_right (k poly a b b' : Nat) :
    pmul k poly a (b ^^^ b') = pmul k poly a b ^^^ pmul k poly a b' :=
  pmulAux_xor_right k poly k a b b'

theorem two_pow_add_eq_xor {i r : Nat} (h : r < 2^i) : 2^i + r = 2^i ^^^ r := by
  apply Nat.eq_of_testBit_eq; intro j
  have h1 := Nat.testBit_two_pow_mul_add 1 h j
  rw [Nat.mul_one] at h1
  rw [h1, Nat.testBit_xor, Nat.testBit_two_pow]
  by_cases hj : j < i
  · simp [hj, Nat.ne_of_gt hj]
  · have : r.testBit j = false :=
      Nat.testBit_lt_two_pow (Nat.lt_of_lt_of_le h (Nat.pow_le_pow_right (by decide) (by omega)))
    rw [if_neg hj, this, Bool.xor_false]
    by_cases hij : i = j
    · subst hij; simp
    · have : j - i = (j - i - 1) + 1 := by omega
      rw [this, Nat.testBit_succ]; simp [hij]

/-- A table `f` that splits along the leading bit of its index (`f (2^i + r) = f (2^i) ^^^ f r` for `r < 2^i`:
`2^k - 1` equations, which a kernel can check) and agrees with an additive `g` on the basis agrees with `g`
below `2^k`. -/
theorem ext_of_split (f g : Nat → Nat) (k : Nat) (f0 : f 0 = 0)
    (hf : ∀ i, i < k → ∀ r, r < 2^i → f (2^i + r) = f (2^i) ^^^ f r)
    (hg : ∀ a b, g (a ^^^ b) = g a ^^^ g b)
    (hb : ∀ i, i < k → f (2^i) = g (2^i)) : ∀ a, a < 2^k → f a = g a := by
  have g0 : g 0 = 0 := by simpa using hg 0 0
  induction k with
  | zero => intro a ha; obtain rfl : a = 0 := by simpa using ha
            rw [f0, g0]
  | succ k ih =>
    intro a ha
    have ih' := ih (fun i hi => hf i (by omega)) (fun i hi => hb i (by omega))
    by_cases hk : a < 2^k
    · exact ih' a hk
    · have hr : a - 2^k < 2^k := by rw [Nat.pow_succ] at ha; omega
      have ha' : a = 2^k + (a - 2^k) := by omega
      rw [ha', hf k (by omega) _ hr, two_pow_add_eq_xor hr, hg, hb k (by omega), ih' _ hr]

theorem ext_of_basis (f g : Nat → Nat)
    (hf : ∀ a b, f (a ^^^ b) = f a ^^^ f b) (hg : ∀ a b, g (a ^^^ b) = g a ^^^ g b)
    (k : Nat) (hb : ∀ i, i < k → f (2^i) = g (2^i)) : ∀ a, a < 2^k → f a = g a :=
  ext_of_split f g k (by simpa using hf 0 0) (fun i _ r hr => by rw [two_pow_add_eq_xor hr, hf]) hg hb

end RSV.BF
