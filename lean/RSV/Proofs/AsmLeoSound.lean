import RSV.Proofs.AsmLeoLoop
/-!
Checker for the remaining amd64 kernels, the whole function (single-loop shape).
-/
namespace RSV.Asm.Leo

/-- what `checkKernel` establishes: as for the matrix kernels, with the guard between `pre1` and `pre2` taking
`σ1` to `σ1'`, and the epilogues being `VZEROUPPER`s only -/
structure Checked (c : Ctx) (sh : Shape) (σ1 σ1' σ0 H σb : SymState) : Prop where
  vzA : ∀ i, i ∈ sh.epiA → i = .vzeroupper
  vzB : ∀ i, i ∈ sh.epiB → i = .vzeroupper
  gEnd : ∀ l, sh.guard.lEnd = some l → sh.lEnd = some l
  gNone : sh.guard.lEnd = none → c.kd.exact = true
  endNe : ∀ l, sh.lEnd = some l → l ≠ sh.lLoop
  scale : sh.scale = 1 ∨ (sh.scale = c.kd.B ∧ c.kd.exact = true)
  jaSub : sh.ja = true → sh.dec ≠ 0
  decLt : sh.dec < M64
  Bpos : 0 < c.kd.B
  run1 : symRun c.kd false sh.pre1 initSym = some σ1
  stores1 : σ1.stores = []
  guard : guardOK c.kd sh.guard σ1 = some σ1'
  run2 : symRun c.kd false sh.pre2 σ1' = some σ0
  storesH : H.stores = []
  stores0 : σ0.stores = []
  init : initOK c.kd σ0 H = true
  runb : symRun c.kd true sh.body H = some σb
  ctr : σb.gp sh.rc = .ctr sh.scale 0
  stepok : stepOK c.kd H (σb.setGp sh.rc (.ctr sh.scale 1)) = true
  cov : covers c.kd σb.stores = true
  clampG : ∀ r, 16 ≤ r → H.gp r = .unk
  clampV : ∀ v, 32 ≤ v → H.vec v = .unk

theorem allVz_mem {l : List Instr} (h : allVz l = true) : ∀ i, i ∈ l → i = .vzeroupper := by
  intro i hi
  simpa using List.all_eq_true.mp h i hi

theorem checkLoop_unpack {kd : KD} {sh : Shape} {σ0 H : SymState} (h : checkLoop kd sh σ0 H = true) :
    H.stores = [] ∧ σ0.stores = [] ∧ initOK kd σ0 H = true ∧ ∃ σb, symRun kd true sh.body H = some σb ∧
      σb.gp sh.rc = .ctr sh.scale 0 ∧ stepOK kd H (σb.setGp sh.rc (.ctr sh.scale 1)) = true ∧
      covers kd σb.stores = true := by
  unfold checkLoop at h
  simp only [Bool.and_eq_true, decide_eq_true_eq] at h
  obtain ⟨⟨⟨hH, h0⟩, hinit⟩, h⟩ := h
  split at h
  · cases h
  · rename_i σb hrunb
    simp only [Bool.and_eq_true, decide_eq_true_eq] at h
    exact ⟨hH, h0, hinit, σb, hrunb, h.1.1, h.1.2, h.2⟩

theorem clamp_gp (σ : SymState) (r : Nat) (hr : 16 ≤ r) : (clamp σ).gp r = .unk := if_neg (Nat.not_lt.mpr hr)
theorem clamp_vec (σ : SymState) (v : Nat) (hv : 32 ≤ v) : (clamp σ).vec v = .unk := if_neg (Nat.not_lt.mpr hv)

theorem checkKernel_unpack {c : Ctx} {prog : Program} (h : checkKernel prog c.kd = true) :
    ∃ sh σ1 σ1' σ0 H σb, prog = sh.assemble ∧ Checked c sh σ1 σ1' σ0 H σb := by
  unfold checkKernel at h
  split at h
  · cases h
  · rename_i sh _
    simp only [Bool.and_eq_true, decide_eq_true_eq] at h
    obtain ⟨⟨hasm, hshape⟩, h⟩ := h
    split at h
    · cases h
    · rename_i σ1 hrun1
      simp only [Bool.and_eq_true, decide_eq_true_eq] at h
      obtain ⟨h1st, h⟩ := h
      split at h
      · cases h
      · rename_i σ1' hguard
        split at h
        · cases h
        · rename_i σ0 hrun2
          obtain ⟨hH, h0, hinit, σb, hrunb, hrc, hstep, hcov⟩ := checkLoop_unpack h
          unfold shapeOK at hshape
          simp only [Bool.and_eq_true, decide_eq_true_eq, Bool.or_eq_true, Bool.not_eq_true'] at hshape
          obtain ⟨⟨⟨⟨⟨⟨⟨hA, hB⟩, hg⟩, hl⟩, hsc⟩, hja⟩, hdec⟩, hBpos⟩ := hshape
          refine ⟨sh, σ1, σ1', σ0, _, σb, hasm.symm,
            { vzA := allVz_mem hA, vzB := allVz_mem hB, gEnd := ?_, gNone := ?_, endNe := ?_, scale := hsc,
              jaSub := ?_, decLt := hdec, Bpos := hBpos, run1 := hrun1, stores1 := h1st, guard := hguard,
              run2 := hrun2, storesH := hH, stores0 := h0, init := hinit, runb := hrunb, ctr := hrc,
              stepok := hstep, cov := hcov, clampG := clamp_gp _, clampV := clamp_vec _ }⟩
          · intro l hl'
            rw [hl'] at hg
            simp only [Bool.and_eq_true, decide_eq_true_eq] at hg
            exact hg.1
          · intro hn
            rw [hn] at hg
            exact hg
          · intro l hl'
            rw [hl'] at hl
            simpa using hl
          · intro hj
            rcases hja with h1 | h2
            · rw [hj] at h1; cases h1
            · exact h2

theorem guard_noLabel (g : Guard) : ∀ i, i ∈ g.instrs → ∀ l, i ≠ .label l := by
  intro i hi l
  cases g <;> simp [Guard.instrs] at hi <;> rcases hi with rfl | rfl <;> simp

theorem guard_sound {c : Ctx} {sh : Shape} {σ1 σ1' σ0 H σb : SymState} (hc : Contract c)
    (hk : Checked c sh σ1 σ1' σ0 H σb) {prog A C : List Instr} {E : Nat}
    (hp : prog = A ++ sh.guard.instrs ++ C) (hfind : ∀ l, sh.guard.lEnd = some l → findLabel prog l = some E)
    {s1 : State} (hpc : s1.pc = A.length) (hsim : Sim c 0 σ1 s1) :
    (c.cnt = 0 ∧ ∃ s', run c.env prog 2 s1 = some s' ∧ s'.pc = E ∧ s'.mem = s1.mem) ∨
    (0 < c.cnt ∧ ∃ s', run c.env prog sh.guard.instrs.length s1 = some s' ∧ s'.pc = (A ++ sh.guard.instrs).length ∧
      Sim c 0 σ1' s') := by
  have hg := hk.guard
  -- both guards are `i0 ; JZ l` where `i0` leaves the count in `r` and sets `ZF` iff it is zero
  have key : ∀ (i0 : Instr) (l : Nat) (s2 : State), sh.guard.instrs = [i0, .jz l] → sh.guard.lEnd = some l →
      isPlain i0 = true → stepInstr c.env i0 s1 = some s2 → s2.zf = some (c.cnt == 0) → s2.mem = s1.mem →
      (∀ p, Sim c 0 σ1' (s2.setPc p)) →
      (c.cnt = 0 ∧ ∃ s', run c.env prog 2 s1 = some s' ∧ s'.pc = E ∧ s'.mem = s1.mem) ∨
      (0 < c.cnt ∧ ∃ s', run c.env prog sh.guard.instrs.length s1 = some s' ∧
        s'.pc = (A ++ sh.guard.instrs).length ∧ Sim c 0 σ1' s') := fun i0 l s2 hgi hle hpl hst hz hmem hsim2 => by
    rw [hgi] at hp ⊢
    have hrun := jz_guard (env := c.env) (cnt := c.cnt) (C := C) (by rw [hp]; simp) hpl (hfind l hle) hpc hst hz
    by_cases hz0 : c.cnt = 0
    · rw [if_pos hz0] at hrun
      exact Or.inl ⟨hz0, _, hrun, rfl, hmem⟩
    · rw [if_neg hz0] at hrun
      exact Or.inr ⟨by omega, _, hrun, by simp [State.setPc], hsim2 _⟩
  cases hgd : sh.guard with
  | none =>
    rw [hgd] at hg
    cases hg
    have he := hk.gNone (by rw [hgd]; rfl)
    exact Or.inr ⟨(cnt_exact hc he).2, s1, rfl, by simpa [Guard.instrs] using hpc, hsim⟩
  | testq r l =>
    rw [hgd] at hg
    simp only [guardOK] at hg
    split at hg
    · rename_i hr
      cases hg
      have hv : s1.gp r = .num c.cnt := hsim.gpAt hr
      rw [← hgd]
      exact key (.testq r r) l (setFlags s1 (some (c.cnt == 0)) (some false)) (by rw [hgd]; rfl) (by rw [hgd]; rfl) rfl
        (by simp only [stepInstr, hv, Nat.and_self]) rfl rfl (fun p => (hsim.setFlags _ _).withPc p)
    · cases hg
  | shrq imm r l =>
    rw [hgd] at hg
    simp only [guardOK] at hg
    split at hg
    · rename_i hcond
      obtain ⟨hr, hpos, hlt, hpow⟩ := hcond
      cases hg
      have hv : s1.gp r = .num c.N := hsim.gpAt hr
      have hcnt : c.N >>> imm = c.cnt := by
        simp only [Ctx.cnt, ← hpow, Nat.shiftRight_eq_div_pow]
      rw [← hgd]
      exact key (.shrqImm imm r) l
        (setFlags (setGp s1 r (.num c.cnt)) (some (c.cnt == 0)) (some (c.N.testBit (imm - 1))))
        (by rw [hgd]; rfl) (by rw [hgd]; rfl) rfl
        (by simp only [stepInstr, hv, if_pos (And.intro hpos hlt), hcnt]) rfl rfl
        (fun p => ((hsim.setGp r (g := .cnt) rfl).setFlags _ _).withPc p)
    · cases hg

theorem checked_sound {c : Ctx} {sh : Shape} {σ1 σ1' σ0 H σb : SymState} (hc : Contract c)
    (hk : Checked c sh σ1 σ1' σ0 H σb) (s0 : State) (hpc0 : s0.pc = 0) (hmem0 : s0.mem = c.m0) :
    ∃ sf, (∀ fuel, sh.assemble.length * (c.cnt + 1) ≤ fuel → exec c.env sh.assemble fuel s0 = some sf) ∧
      c.rows.MemInv c.cnt [] sf.mem := by
  have hwf := covers_wf hk.cov hk.Bpos
  have hsim0 : Sim c 0 initSym s0 :=
    ⟨fun _ => trivial, fun _ => trivial, hmem0 ▸ c.rows.memInv_init, Rows.storesOK_nil⟩
  -- positions in the assembled program
  have a0 : sh.assemble = [] ++ sh.pre1 ++ (sh.guard.instrs ++ (sh.pre2 ++ (.label sh.lLoop :: (sh.body ++
      (sh.decInstr :: sh.jccInstr :: (sh.epiA ++ (sh.endInstrs ++ (sh.epiB ++ [.ret])))))))) := rfl
  have a1 := at_skip a0
  have a2 := at_skip a1
  have a3 := at_skip (at_next (at_next (at_skip (at_next a2))))
  -- (opaque, so that no defeq check evaluates the length of this prefix)
  obtain ⟨P, hP⟩ : ∃ P : List Instr, P = [] ++ sh.pre1 ++ sh.guard.instrs ++ sh.pre2 ++ [Instr.label sh.lLoop] ++ sh.body ++
    [sh.decInstr] ++ [sh.jccInstr] ++ sh.epiA := ⟨_, rfl⟩
  have a3' : sh.assemble = P ++ (sh.endInstrs ++ (sh.epiB ++ [.ret])) := hP ▸ a3
  have a4 := at_skip a3'
  have a5 := at_skip a4
  have hlen : sh.assemble.length = sh.pre1.length + sh.guard.instrs.length + sh.pre2.length + sh.body.length +
      sh.epiA.length + sh.endInstrs.length + sh.epiB.length + 4 := by
    rw [a0]; simp; omega
  have hnl1 := symRun_noLabel hk.run1
  have hnl2 := symRun_noLabel hk.run2
  have hnlb := symRun_noLabel hk.runb
  have hgl : ∀ l, Instr.label l ∉ sh.guard.instrs := fun l hm => guard_noLabel _ _ hm l rfl
  have hloop : LoopAt c sh.assemble ([] ++ sh.pre1 ++ sh.guard.instrs ++ sh.pre2) sh.lLoop sh.body sh.dec sh.rc sh.ja
      (sh.epiA ++ (sh.endInstrs ++ (sh.epiB ++ [.ret]))) H σb :=
    { asm := a2, scale := hk.scale, jaSub := hk.jaSub, decLt := hk.decLt, Bpos := hk.Bpos, storesH := hk.storesH,
      runb := hk.runb, ctr := hk.ctr, stepok := hk.stepok, cov := hk.cov, clampG := hk.clampG, clampV := hk.clampV,
      find := findLabel_at a2 (by simp [hnl1, hnl2, hgl]) }
  -- the end label, if there is one, sits behind the first `VZEROUPPER`s
  have hasmL : ∀ l, sh.lEnd = some l → sh.assemble = P ++ Instr.label l :: (sh.epiB ++ [.ret]) := fun l hl => by
    rw [a3']; simp [Shape.endInstrs, hl]
  have findEnd : ∀ l, sh.lEnd = some l → findLabel sh.assemble l = some P.length := by
    intro l hl
    refine findLabel_at (hasmL l hl) ?_
    have hvz : Instr.label l ∉ sh.epiA := fun hm => nomatch hk.vzA _ hm
    have hdj : Instr.label l ≠ sh.decInstr ∧ Instr.label l ≠ sh.jccInstr := by
      unfold Shape.decInstr Shape.jccInstr; constructor <;> split <;> simp
    rw [hP]
    simp [hnl1, hnl2, hnlb, hgl, hvz, hdj, hk.endNe l hl]
  -- from behind the first `VZEROUPPER`s to `RET`
  have epilogue : ∀ s : State, s.pc = P.length →
      ∃ sf, exec c.env sh.assemble (sh.endInstrs.length + sh.epiB.length + 1) s = some sf ∧ sf.mem = s.mem := by
    intro s hpc
    have hend : ∃ s1, run c.env sh.assemble sh.endInstrs.length s = some s1 ∧
        s1.pc = (P ++ sh.endInstrs).length ∧ s1.mem = s.mem := by
      cases hl : sh.lEnd with
      | none => exact ⟨s, by simp [Shape.endInstrs, hl, run], by simpa [Shape.endInstrs, hl] using hpc, rfl⟩
      | some l =>
        have hs := step_at_plain (env := c.env) (s := s) (s' := s) (hasmL l hl) hpc rfl rfl
        exact ⟨s.setPc (P.length + 1), by simp [Shape.endInstrs, hl, run, hs], by simp [Shape.endInstrs, hl, State.setPc], rfl⟩
    obtain ⟨s1, hrun1, hpc1, hmem1⟩ := hend
    obtain ⟨s2, hrun2, hpc2, hmem2⟩ := run_vz (env := c.env) sh.epiB _ [.ret] s1 hk.vzB a5 hpc1
    exact ⟨s2, exec_halt (run_trans hrun1 hrun2) (step_at_ret a5 (by rw [hpc2]; simp; omega)), by rw [hmem2, hmem1]⟩
  obtain ⟨s1, hrun1, hpc1, hsim1⟩ := symRun_sound hc hwf (it := 0) (loop := false) (by simp) sh.pre1 [] _ initSym σ1 s0
    a0 (by simpa using hpc0) hsim0 hk.run1
  rcases guard_sound hc hk a1 (fun l hl => findEnd l (hk.gEnd l hl))
    (by simpa using hpc1) hsim1 with
    ⟨hz, s2, hrun2, hpc2, hmem2⟩ | ⟨hpos, s2, hrun2, hpc2, hsim2⟩
  · -- early exit
    obtain ⟨sf, hfin, hmemf⟩ := epilogue s2 hpc2
    refine ⟨sf, fun fuel hf => exec_mono ((exec_of_run (run_trans hrun1 hrun2) _).trans hfin) fuel ?_, ?_⟩
    · rw [hlen, hz] at hf; simp at hf ⊢; omega
    · rw [hz, hmemf, hmem2]
      exact hk.stores1 ▸ hsim1.mem
  · -- the loop
    obtain ⟨s4, hrun4, hpc4, hsim4⟩ := symRun_sound hc hwf (it := 0) (loop := false) (by simp) sh.pre2 _ _ σ1' σ0
      s2 a2 hpc2 hsim2 hk.run2
    have hsimH := initOK_sound hc hk.init hk.clampG hk.clampV hk.storesH hk.stores0 hsim4
    obtain ⟨s5, hrun5, hsim5, hpc5⟩ := loop_all hc hloop hpos (by rw [hpc4]; simp; omega) hsimH
    obtain ⟨s6, hrun6, hpc6, hmem6⟩ := run_vz (env := c.env) sh.epiA _ _ s5 hk.vzA a3 (by rw [hpc5]; simp; omega)
    obtain ⟨sf, hfin, hmemf⟩ := epilogue s6 (by rw [hpc6, hP]; simp; omega)
    have hrun := run_trans (run_trans (run_trans (run_trans hrun1 hrun2) hrun4) hrun5) hrun6
    refine ⟨sf, fun fuel hf => exec_mono ((exec_of_run hrun _).trans hfin) fuel ?_, ?_⟩
    · have := steps_bound (L := sh.assemble.length) (cnt := c.cnt) (b := sh.body.length + 3)
        (k := sh.pre1.length + sh.guard.instrs.length + sh.pre2.length + sh.epiA.length +
          (sh.endInstrs.length + sh.epiB.length + 1)) (by omega) (by omega)
      simp at this ⊢
      omega
    · rw [hmemf, hmem6]
      exact hk.storesH ▸ hsim5.mem

end RSV.Asm.Leo
