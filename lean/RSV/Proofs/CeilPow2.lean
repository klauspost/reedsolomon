import RSV.Model.Leopard
/-! `Leo.ceilPow2 n` is the least power of two `≥ n`, capped at `2^64`. -/
namespace RSV.Proofs.LeoSched
open RSV.Model.Leo

theorem ceilPow2_eq (n : Nat) :
    ceilPow2 n = (List.range' 0 64 1).foldl (fun k _ => if k < n then k * 2 else k) 1 := by
  have hf : (fun (_ : Nat) (s : Nat) => (if s < n then pure (ForInStep.yield (s * 2))
        else pure (ForInStep.yield s) : Id (ForInStep Nat))) =
      fun _ s => pure (ForInStep.yield (if s < n then s * 2 else s)) := by
    funext _ s; split <;> rfl
  simp only [ceilPow2, Std.Legacy.Range.forIn_eq_forIn_range', Std.Legacy.Range.size, hf,
    List.forIn_pure_yield_eq_foldl]
  rfl

/-- Doubling from `2 ^ j` while below `n`, one round per element of `l`, ends at `2 ^ e`.  If rounds were left over
(`e < j + l.length`) the loop stopped because `n` was reached; if it doubled at all (`j < e`), the value before
the last doubling was still below `n`: so `2 ^ e` is the least power of two `≥ n`, unless the rounds ran out. -/
theorem foldl_double (n : Nat) (l : List Nat) (j : Nat) :
    ∃ e, j ≤ e ∧ e ≤ j + l.length ∧
      l.foldl (fun k _ => if k < n then k * 2 else k) (2 ^ j) = 2 ^ e ∧
      (e < j + l.length → n ≤ 2 ^ e) ∧ (j < e → 2 ^ (e - 1) < n) := by
  induction l generalizing j with
  | nil => exact ⟨j, Nat.le_refl _, Nat.le_refl _, rfl, fun h => absurd h (Nat.lt_irrefl _),
      fun h => absurd h (Nat.lt_irrefl _)⟩
  | cons a l ih =>
    simp only [List.foldl_cons, List.length_cons]
    by_cases h : 2 ^ j < n
    · rw [if_pos h, ← Nat.pow_succ]
      obtain ⟨e, h1, h2, h3, h4, h5⟩ := ih (j + 1)
      refine ⟨e, by omega, by omega, h3, fun h' => h4 (by omega), fun _ => ?_⟩
      by_cases he : j + 1 < e
      · exact h5 he
      · rw [show e - 1 = j by omega]; exact h
    · rw [if_neg h]
      obtain ⟨e, h1, h2, h3, h4, h5⟩ := ih j
      -- the fold is stationary from here: `j < e` would give `2 ^ j ≤ 2 ^ (e - 1) < n`
      have he : e = j := by
        by_cases hje : j < e
        · have := Nat.pow_le_pow_right (n := 2) (by decide) (show j ≤ e - 1 by omega)
          have := h5 hje
          omega
        · omega
      subst he
      exact ⟨e, Nat.le_refl _, by omega, h3, fun _ => Nat.le_of_not_lt h,
        fun h => absurd h (Nat.lt_irrefl _)⟩

/-- `e` is capped at 64 because the loop doubles at most 64 times. -/
theorem ceilPow2_char (n : Nat) :
    ∃ e, e ≤ 64 ∧ ceilPow2 n = 2 ^ e ∧ (e < 64 → n ≤ 2 ^ e) ∧ (0 < e → 2 ^ (e - 1) < n) := by
  obtain ⟨e, -, h2, h3, h4, h5⟩ := foldl_double n (List.range' 0 64 1) 0
  rw [List.length_range', Nat.zero_add] at h2 h4
  exact ⟨e, h2, (ceilPow2_eq n).trans h3, h4, h5⟩

theorem ceilPow2_spec (n : Nat) : n ≤ ceilPow2 n ∨ ceilPow2 n = 2 ^ 64 := by
  obtain ⟨e, he, h1, h2, -⟩ := ceilPow2_char n
  by_cases h64 : e < 64
  · exact .inl (h1 ▸ h2 h64)
  · exact .inr (by rw [h1, show e = 64 by omega])

theorem le_ceilPow2 (n : Nat) (h : n ≤ 2 ^ 64) : n ≤ ceilPow2 n :=
  (ceilPow2_spec n).elim id fun h64 => h64 ▸ h

theorem le_ceilPow2_of_lt {n : Nat} (h : ceilPow2 n < 2 ^ 64) : n ≤ ceilPow2 n :=
  (ceilPow2_spec n).resolve_right (Nat.ne_of_lt h)

theorem ceilPow2_le_two_pow {n t : Nat} (h : n ≤ 2 ^ t) : ceilPow2 n ≤ 2 ^ t := by
  obtain ⟨e, -, he, -, hlt⟩ := ceilPow2_char n
  rw [he]
  apply Nat.pow_le_pow_right (by decide)
  by_cases h0 : 0 < e
  · have := (Nat.pow_lt_pow_iff_right (by decide)).mp (Nat.lt_of_lt_of_le (hlt h0) h); omega
  · omega

theorem ceilPow2_eq_two_pow {n t : Nat} (ht : t ≤ 64) (h1 : n ≤ 2 ^ t) (h2 : 0 < t → 2 ^ (t - 1) < n) :
    ceilPow2 n = 2 ^ t := by
  apply Nat.le_antisymm (ceilPow2_le_two_pow h1)
  obtain ⟨e, -, he, hle, -⟩ := ceilPow2_char n
  rw [he]
  apply Nat.pow_le_pow_right (by decide)
  by_cases h0 : 0 < t
  · by_cases h64 : e < 64
    · have := (Nat.pow_lt_pow_iff_right (by decide)).mp (Nat.lt_of_lt_of_le (h2 h0) (hle h64)); omega
    · omega
  · omega

theorem ceilPow2_pow2 (p : Nat) : ∃ e, ceilPow2 p = 2 ^ e :=
  let ⟨e, _, h, _⟩ := ceilPow2_char p; ⟨e, h⟩

end RSV.Proofs.LeoSched
