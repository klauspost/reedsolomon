import RSV.Proofs.AsmLeoSound
/-!
Checker for the remaining amd64 kernels: the two-loop shape of `galMulSSSE3` / `galMulSSSE3Xor`
(aligned and unaligned loop selected by the pointers' low bits).
-/
namespace RSV.Asm

/-- the dispatch `ORQ ra, rb ; CMPQ rb, $0 ; JNZ l` on two numbers: behind the `JNZ` if both are zero, at `l` otherwise;
`rb` is overwritten -/
theorem SimG.or_jnz {G V : Type} {gR : G → Val → Prop} {vR : V → (Nat → Nat) → Prop} {R : Rows} {it : Nat}
    {gp : Reg → G} {vec : Nat → V} {stores : List (Nat × Nat)} {s : State} {env : Env} {prog A C : List Instr} {ra rb : Reg} {l E x y : Nat} {g : G}
    (h : SimG gR vR R it gp vec stores s) (hg : ∀ v, gR g v)
    (hp : prog = A ++ .orqRR ra rb :: .cmpqImm rb 0 :: .jnz l :: C) (hfind : findLabel prog l = some E)
    (hpc : s.pc = A.length) (ha : s.gp ra = .num x) (hb : s.gp rb = .num y) :
    ∃ s', run env prog 3 s = some s' ∧
      s'.pc = (if y ||| x = 0 then (A ++ [Instr.orqRR ra rb] ++ [Instr.cmpqImm rb 0] ++ [Instr.jnz l]).length else E) ∧
      SimG gR vR R it (fun k => if k = rb then g else gp k) vec stores s' := by
  obtain ⟨v, hv⟩ : ∃ v, v = y ||| x := ⟨_, rfl⟩
  rw [← hv]
  have h1 := step_at_plain (env := env) hp hpc rfl
    (s' := Asm.setFlags (Asm.setGp s rb (.num v)) (some (v == 0)) (some false)) (by simp only [stepInstr, ha, hb, hv])
  obtain ⟨s1, hs1⟩ : ∃ s1, s1 = (Asm.setFlags (Asm.setGp s rb (.num v)) (some (v == 0)) (some false)).setPc (A.length + 1) :=
    ⟨_, rfl⟩
  rw [← hs1] at h1
  have hsim1 : SimG gR vR R it (fun k => if k = rb then g else gp k) vec stores s1 :=
    hs1 ▸ ((h.setGp rb (hg _)).setFlags _ _).withPc _
  have hg1 : s1.gp rb = .num v := by rw [hs1]; simp [State.setPc, Asm.setFlags, Asm.setGp]
  have h2 := step_at_plain (env := env) (s := s1) (at_next hp) (by rw [hs1]; simp [State.setPc]) rfl
    (s' := Asm.setFlags s1 (some (v == 0)) (some (decide (v < 0))))
    (by simp only [stepInstr, hg1, if_pos (by decide : 0 < M64)])
  have h3 := step_at_jnz (env := env) (b := v == 0)
    (s := (Asm.setFlags s1 (some (v == 0)) (some (decide (v < 0)))).setPc ((A ++ [Instr.orqRR ra rb]).length + 1))
    (at_next (at_next hp)) (by simp [State.setPc]) rfl
  refine ⟨_, run_trans (run_trans (run_one h1) (run_one h2)) (run_one (h3.trans ?_)), State.setPc_pc _ _,
    ((hsim1.setFlags (some (v == 0)) (some (decide (v < 0)))).withPc ((A ++ [Instr.orqRR ra rb]).length + 1)).withPc _⟩
  by_cases hv0 : v = 0
  · simp [hv0]
  · rw [jump_eq hfind]; simp [hv0]

end RSV.Asm

namespace RSV.Asm.Leo

/-- the same call, with the rows known to be 16-byte aligned -/
def Ctx.al (c : Ctx) : Ctx := { c with kd := { c.kd with aligned := true } }

theorem evalE_al (c : Ctx) (base q : Nat) (e : E) : evalE c.al base q e = evalE c base q e := by
  induction e with
  | zero => rfl
  | old r o => rfl
  | xor a b iha ihb => simp only [evalE, iha, ihb]
  | look t o h x ih => simp only [evalE, ih]; rfl
  | aff m x ih => simp only [evalE, ih]; rfl

theorem rows_al (c : Ctx) : c.al.rows = c.rows := by
  unfold Ctx.rows
  congr 1
  funext k p
  exact evalE_al c _ _ _

theorem GRefines_al (c : Ctx) (it : Nat) : GRefines c.al it = GRefines c it := by
  funext g v; cases g <;> rfl

theorem VRefines_al (c : Ctx) (it : Nat) : VRefines c.al it = VRefines c it := by
  funext x r
  cases x <;> simp only [VRefines, VSym.den, evalE_al] <;> rfl

/-- only `Contract.aligned` looks at the flag -/
theorem Sim_al {c : Ctx} {it : Nat} {σ : SymState} {s : State} : Sim c.al it σ s = Sim c it σ s := by
  unfold Sim; rw [rows_al, GRefines_al, VRefines_al]

theorem Contract_al {c : Ctx} (hc : Contract c) (ha : ∀ k, k < c.kd.rows → c.env.base (c.rowReg k) % 16 = 0) :
    Contract c.al :=
  { hc with aligned := fun _ => ha }

structure Checked2 (c : Ctx) (sh : Shape2) (σ1 H1 σb1 H2 σb2 : SymState) (a b : Nat) : Prop where
  l12 : sh.l1 ≠ sh.l2
  l1e : sh.l1 ≠ sh.lEnd
  l2e : sh.l2 ≠ sh.lEnd
  Bpos : 0 < c.kd.B
  rows : c.kd.rows = 2
  run1 : symRun c.kd false sh.pre1 initSym = some σ1
  stores1 : σ1.stores = []
  cntReg : σ1.gp sh.rc = .cnt
  hra : σ1.gp sh.ra = .algn a
  hrb : σ1.gp sh.rb = .algn b
  hab : (a = 0 ∧ b = 1) ∨ (a = 1 ∧ b = 0)
  storesH1 : H1.stores = []
  init1 : initOK c.al.kd (σ1.setGp sh.rb .unk) H1 = true
  runb1 : symRun c.al.kd true sh.body1 H1 = some σb1
  ctr1 : σb1.gp sh.rc = .ctr 1 0
  stepok1 : stepOK c.al.kd H1 (σb1.setGp sh.rc (.ctr 1 1)) = true
  cov1 : covers c.al.kd σb1.stores = true
  clampG1 : ∀ r, 16 ≤ r → H1.gp r = .unk
  clampV1 : ∀ v, 32 ≤ v → H1.vec v = .unk
  storesH2 : H2.stores = []
  init2 : initOK c.kd (σ1.setGp sh.rb .unk) H2 = true
  runb2 : symRun c.kd true sh.body2 H2 = some σb2
  ctr2 : σb2.gp sh.rc = .ctr 1 0
  stepok2 : stepOK c.kd H2 (σb2.setGp sh.rc (.ctr 1 1)) = true
  cov2 : covers c.kd σb2.stores = true
  clampG2 : ∀ r, 16 ≤ r → H2.gp r = .unk
  clampV2 : ∀ v, 32 ≤ v → H2.vec v = .unk

theorem checkKernel2_unpack {c : Ctx} {prog : Program} (h : checkKernel2 prog c.kd = true) :
    ∃ sh σ1 H1 σb1 H2 σb2 a b, prog = sh.assemble ∧ Checked2 c sh σ1 H1 σb1 H2 σb2 a b := by
  unfold checkKernel2 at h
  split at h
  · cases h
  · rename_i sh _
    simp only [Bool.and_eq_true, decide_eq_true_eq] at h
    obtain ⟨⟨⟨⟨⟨⟨hasm, h12⟩, h1e⟩, h2e⟩, hB⟩, hrows⟩, h⟩ := h
    split at h
    · cases h
    · rename_i σ1 hrun1
      simp only [Bool.and_eq_true, decide_eq_true_eq] at h
      obtain ⟨⟨⟨hs1, hrc⟩, hal⟩, hl1, hl2⟩ := h
      split at hal
      · rename_i a b hra hrb
        simp only [decide_eq_true_eq] at hal
        obtain ⟨hH1, _, hinit1, σb1, hrunb1, hrc1, hstep1, hcov1⟩ := checkLoop_unpack hl1
        obtain ⟨hH2, _, hinit2, σb2, hrunb2, hrc2, hstep2, hcov2⟩ := checkLoop_unpack hl2
        exact ⟨sh, σ1, _, σb1, _, σb2, a, b, hasm.symm, h12, h1e, h2e, hB, hrows, hrun1, hs1, hrc, hra, hrb, hal,
          hH1, hinit1, hrunb1, hrc1, hstep1, hcov1, clamp_gp _, clamp_vec _,
          hH2, hinit2, hrunb2, hrc2, hstep2, hcov2, clamp_gp _, clamp_vec _⟩
      · cases hal

theorem aligned_of_bits {c : Ctx} {k : Nat} (h : c.alignBits k = 0) : c.env.base (c.rowReg k) % 16 = 0 := by
  unfold Ctx.alignBits at h
  rw [and15_eq_mod, Nat.add_zero, Nat.mod_mod_of_dvd _ (by decide : 16 ∣ M64)] at h
  exact h

theorem checked2_sound {c : Ctx} {sh : Shape2} {σ1 H1 σb1 H2 σb2 : SymState} {a b : Nat} (hc : Contract c)
    (hk : Checked2 c sh σ1 H1 σb1 H2 σb2 a b) (s0 : State) (hpc0 : s0.pc = 0) (hmem0 : s0.mem = c.m0) :
    ∃ sf, (∀ fuel, sh.assemble.length * (c.cnt + 1) ≤ fuel → exec c.env sh.assemble fuel s0 = some sf) ∧
      c.rows.MemInv c.cnt [] sf.mem := by
  have hwf := covers_wf hk.cov2 hk.Bpos
  have hsim0 : Sim c 0 initSym s0 :=
    ⟨fun _ => trivial, fun _ => trivial, hmem0 ▸ c.rows.memInv_init, Rows.storesOK_nil⟩
  -- positions in the assembled program
  have b0 : sh.assemble = [] ++ sh.pre1 ++ (Instr.cmpqImm sh.rc 0 :: Instr.jz sh.lEnd :: Instr.orqRR sh.ra sh.rb ::
      Instr.cmpqImm sh.rb 0 :: Instr.jnz sh.l2 :: Instr.label sh.l1 :: (sh.body1 ++ (Instr.subqImm 1 sh.rc ::
      Instr.jnz sh.l1 :: Instr.jmp sh.lEnd :: Instr.label sh.l2 :: (sh.body2 ++ (Instr.subqImm 1 sh.rc ::
      Instr.jnz sh.l2 :: [Instr.label sh.lEnd, Instr.ret]))))) := rfl
  have b2 := at_next (at_next b0)
  have b3 := at_next b2
  have b4 := at_next b3
  have b5 := at_next b4
  have b6 := at_next (at_next (at_skip (at_next b5)))
  have b7 := at_next b6
  have b8 := at_next (at_next (at_skip (at_next b7)))
  have hlen : sh.assemble.length = sh.pre1.length + sh.body1.length + sh.body2.length + 14 := by
    rw [b0]; simp; omega
  have hn1 := symRun_noLabel hk.run1
  have hnb1 := symRun_noLabel hk.runb1
  have hnb2 := symRun_noLabel hk.runb2
  have find1 := findLabel_at b5 (by simp [hn1])
  have find2 := findLabel_at b7 (by simp [hn1, hnb1, hk.l12.symm])
  have findE := findLabel_at b8 (by simp [hn1, hnb1, hnb2, hk.l1e.symm, hk.l2e.symm])
  obtain ⟨s1, hrun1, hpc1, hsim1⟩ := symRun_sound hc hwf (it := 0) (loop := false) (by simp) sh.pre1 [] _ initSym σ1 s0
    b0 (by simpa using hpc0) hsim0 hk.run1
  -- CMPQ c, $0 ; JEQ end
  have hgc : s1.gp sh.rc = .num c.cnt := hsim1.gpAt hk.cntReg
  have hrunA := jz_guard (env := c.env) (cnt := c.cnt) b0 rfl findE (by simpa using hpc1)
    (s2 := setFlags s1 (some (c.cnt == 0)) (some (decide (c.cnt < 0))))
    (by simp only [stepInstr, hgc, if_pos (by decide : 0 < M64)]) rfl
  by_cases hz : c.cnt = 0
  · -- early exit
    rw [if_pos hz] at hrunA
    obtain ⟨sf, hex, hmf⟩ := exec_finish (run_trans hrun1 hrunA) b8 (State.setPc_pc _ _)
    refine ⟨sf, fun fuel hf => hex fuel ?_, ?_⟩
    · rw [hlen, hz] at hf; omega
    · rw [hz, hmf, State.setPc_mem, State.setPc_mem]
      exact hk.stores1 ▸ hsim1.mem
  · rw [if_neg hz] at hrunA
    have hpos : 0 < c.cnt := by omega
    obtain ⟨sB, hsB⟩ : ∃ sB, sB = ((setFlags s1 (some (c.cnt == 0)) (some (decide (c.cnt < 0)))).setPc
      (([] ++ sh.pre1).length + 1)).setPc ([] ++ sh.pre1 ++ [Instr.cmpqImm sh.rc 0] ++ [Instr.jz sh.lEnd]).length := ⟨_, rfl⟩
    rw [← hsB] at hrunA
    have hsimB : Sim c 0 σ1 sB := hsB ▸ ((hsim1.setFlags _ _).withPc _).withPc _
    have hpcB : sB.pc = ([] ++ sh.pre1 ++ [Instr.cmpqImm sh.rc 0] ++ [Instr.jz sh.lEnd]).length :=
      hsB ▸ State.setPc_pc _ _
    -- ORQ a, b ; CMPQ b, $0 ; JNZ unaligned
    obtain ⟨sD, hrunD, hpcD, hsimD⟩ := hsimB.or_jnz (env := c.env) (g := GSym.unk) (fun _ => trivial) b2 find2 hpcB
      (hsimB.gpAt hk.hra) (hsimB.gpAt hk.hrb)
    have hsimD : Sim c 0 (σ1.setGp sh.rb .unk) sD := hsimD
    have hrun5 := run_trans (run_trans hrun1 hrunA) hrunD
    have h0st : (σ1.setGp sh.rb GSym.unk).stores = [] := hk.stores1
    by_cases hv0 : c.alignBits b ||| c.alignBits a = 0
    · -- aligned loop: both rows are 16-byte aligned since the `OR` of their low bits is zero
      rw [if_pos hv0] at hpcD
      have hbits := Nat.or_eq_zero_iff.mp hv0
      have hal : ∀ k, k < c.kd.rows → c.env.base (c.rowReg k) % 16 = 0 := by
        intro k hkr
        rw [hk.rows] at hkr
        have hk01 : k = 0 ∨ k = 1 := by omega
        rcases hk.hab with ⟨ha, hb⟩ | ⟨ha, hb⟩ <;> rcases hk01 with rfl | rfl
        · exact aligned_of_bits (ha ▸ hbits.2)
        · exact aligned_of_bits (hb ▸ hbits.1)
        · exact aligned_of_bits (hb ▸ hbits.1)
        · exact aligned_of_bits (ha ▸ hbits.2)
      have hcA := Contract_al hc hal
      have hsimH := initOK_sound hcA hk.init1 hk.clampG1 hk.clampV1 hk.storesH1 h0st (Eq.mpr Sim_al hsimD)
      have hloop : LoopAt c.al sh.assemble _ sh.l1 sh.body1 1 sh.rc false _ _ σb1 :=
        { asm := b5, find := find1, scale := Or.inl rfl, jaSub := (fun h => nomatch h), decLt := (by decide),
          Bpos := hk.Bpos, storesH := hk.storesH1, runb := hk.runb1, ctr := hk.ctr1, stepok := hk.stepok1, cov := hk.cov1,
          clampG := hk.clampG1, clampV := hk.clampV1 }
      obtain ⟨s6, hrun6, hsim6, hpc6⟩ := loop_all hcA hloop hpos hpcD hsimH
      have hcnt : c.al.cnt = c.cnt := rfl
      rw [hcnt] at hrun6 hsim6
      -- JMP end
      have hsF := step_at_jmp (env := c.env) (s := s6) b6 (by rw [hpc6]; simp; omega)
      rw [jump_eq findE] at hsF
      have hrun := run_trans (run_trans hrun5 hrun6) (run_one hsF)
      obtain ⟨sf, hex, hmf⟩ := exec_finish hrun b8 (State.setPc_pc _ _)
      refine ⟨sf, fun fuel hf => hex fuel ?_, ?_⟩
      · have := steps_bound (L := sh.assemble.length) (cnt := c.cnt) (b := sh.body1.length + 3)
          (k := sh.pre1.length + 8) (by omega) (by omega)
        omega
      · have h6 : Sim c c.cnt H1 s6 := Eq.mp Sim_al hsim6
        have hm := h6.mem
        rw [hk.storesH1] at hm
        rw [hmf, State.setPc_mem]
        exact hm
    · -- unaligned loop
      rw [if_neg hv0] at hpcD
      have hsimH := initOK_sound hc hk.init2 hk.clampG2 hk.clampV2 hk.storesH2 h0st hsimD
      have hloop : LoopAt c sh.assemble _ sh.l2 sh.body2 1 sh.rc false _ _ σb2 :=
        { asm := b7, find := find2, scale := Or.inl rfl, jaSub := (fun h => nomatch h), decLt := (by decide),
          Bpos := hk.Bpos, storesH := hk.storesH2, runb := hk.runb2, ctr := hk.ctr2, stepok := hk.stepok2, cov := hk.cov2,
          clampG := hk.clampG2, clampV := hk.clampV2 }
      obtain ⟨s6, hrun6, hsim6, hpc6⟩ := loop_all hc hloop hpos hpcD hsimH
      have hrun := run_trans hrun5 hrun6
      obtain ⟨sf, hex, hmf⟩ := exec_finish hrun b8 (by rw [hpc6]; simp; omega)
      refine ⟨sf, fun fuel hf => hex fuel ?_, hmf ▸ hk.storesH2 ▸ hsim6.mem⟩
      have := steps_bound (L := sh.assemble.length) (cnt := c.cnt) (b := sh.body2.length + 3)
        (k := sh.pre1.length + 7) (by omega) (by omega)
      omega

end RSV.Asm.Leo
