import RSV.Proofs.AsmSem
/-!
Matrix-kernel checker: address computation and the general-register instructions — each accepted
symbolic step is matched by a concrete step.
-/
namespace RSV.Asm
open RSV.Model.Kernels

variable {c : Ctx} {it : Nat} {σ σ' : SymState} {s : State} {loop : Bool}

abbrev StepOK (c : Ctx) (it : Nat) (i : Instr) (σ' : SymState) (s : State) : Prop :=
  StepTo c.env i s (Sim c it σ')

theorem Cfg.B_cases (cfg : Cfg) : cfg.B = 32 ∨ cfg.B = 64 := gran_cases cfg.fam cfg.O

theorem B_pos (c : Ctx) : 0 < c.cfg.B := by
  rcases c.cfg.B_cases with h | h <;> omega

theorem lin_imm (c : Ctx) (it k : Nat) : c.lin it 0 0 k = k % M64 := linVal_imm _ _ _ _

theorem lin_const (c : Ctx) (it k : Nat) (h : k < M64) : c.lin it 0 0 k = k := linVal_const _ _ _ _ h

theorem lin_small (c : Ctx) (it a t k : Nat) (h : a * c.env.start + t * (c.cfg.B * it) + k < M64) :
    c.lin it a t k = a * c.env.start + t * (c.cfg.B * it) + k := linVal_small _ _ _ _ _ _ h

theorem symAddr_sound (h : Sim c it σ s) {m : Mem} {r : Region} {a t k : Nat}
    (ha : symAddr σ m = some (r, a, t, k)) : addr s m = some (r, c.lin it a t k) := by
  cases m with
  | bd disp base =>
    simp only [symAddr] at ha
    split at ha
    · rename_i heq
      cases ha
      rw [addr_bd (h.gpAt heq), Ctx.lin, linVal_add]; rfl
    · cases ha
  | bi base idx =>
    simp only [symAddr] at ha
    split at ha
    · rename_i heq heq2
      cases ha
      rw [addr_bi (h.gpAt heq) (h.gpAt heq2), Ctx.lin, Ctx.lin, linVal_add_lin]; rfl
    · cases ha

theorem dataAddr_block (hc : Contract c) (hit : it < c.cnt) {m : Mem} {r : Region} {w k : Nat}
    (ha : addr s m = some (r, c.lin it 1 1 k)) (hle : k + w ≤ c.cfg.B) (hd : c.env.isData r = true)
    (hsz : c.env.start + c.env.n ≤ c.env.size r) : dataAddr c.env s m w = some (r, c.rows.cur it + k) := by
  have hb : c.rows.cur it + c.cfg.B ≤ c.env.start + c.env.n := c.rows.cur_bound hit
  have hnw := hc.no_wrap
  have hk : c.lin it 1 1 k = c.rows.cur it + k := by
    rw [lin_small] <;> rw [c.rows_cur] at * <;> omega
  rw [hk] at ha
  exact dataAddr_of_addr ha hd (by omega)

/-- the three kinds of access `symData` admits; `hl`: inside the loop the block lies within the slices -/
theorem symData_sound (hc : Contract c) (h : Sim c it σ s) {m : Mem} {w k : Nat} {r : Region}
    (hd : symData c.cfg loop σ m w = some (r, k)) :
    match r with
    | .matrix => dataAddr c.env s m w = some (r, k) ∧ k + w ≤ c.cfg.matSize
    | .inp _ => (loop = true → it < c.cnt) → dataAddr c.env s m w = some (r, c.rows.cur it + k)
    | .out i => (loop = true → it < c.cnt) →
        dataAddr c.env s m w = some (r, c.rows.cur it + k) ∧ k + w ≤ c.cfg.B ∧ i < c.cfg.O
    | _ => True := by
  unfold symData at hd
  split at hd
  · cases hd
  · rename_i r' a t k' heq
    have ha := symAddr_sound h heq
    split at hd
    · split at hd
      · rename_i hcond
        obtain ⟨rfl, rfl, hle, hlt⟩ := hcond
        cases hd
        rw [lin_const _ _ _ (by omega)] at ha
        have := hc.mat_size
        exact ⟨dataAddr_of_addr ha rfl (by omega), hle⟩
      · cases hd
    · split at hd
      · rename_i j hcond
        obtain ⟨hloop, rfl, rfl, hj, hle⟩ := hcond
        cases hd
        exact fun hl => dataAddr_block hc (hl hloop) ha hle (by simp [Env.isData, hc.inputs_eq, hj]) (hc.in_size _ hj)
      · cases hd
    · split at hd
      · rename_i i hcond
        obtain ⟨hloop, rfl, rfl, hi, hle⟩ := hcond
        cases hd
        exact fun hl => ⟨dataAddr_block hc (hl hloop) ha hle (by simp [Env.isData, hc.outputs_eq, hi])
          (hc.out_size _ hi), hle, hi⟩
      · cases hd
    · cases hd

theorem symData_matrix (hc : Contract c) (h : Sim c it σ s) {m : Mem} {w k : Nat}
    (hd : symData c.cfg loop σ m w = some (.matrix, k)) :
    dataAddr c.env s m w = some (.matrix, k) ∧ k + w ≤ c.cfg.matSize := symData_sound hc h hd

theorem symData_inp (hc : Contract c) (h : Sim c it σ s) (hl : loop = true → it < c.cnt)
    {m : Mem} {w k j : Nat} (hd : symData c.cfg loop σ m w = some (.inp j, k)) :
    dataAddr c.env s m w = some (.inp j, c.rows.cur it + k) := symData_sound hc h hd hl

theorem symData_out (hc : Contract c) (h : Sim c it σ s) (hl : loop = true → it < c.cnt)
    {m : Mem} {w k i : Nat} (hd : symData c.cfg loop σ m w = some (.out i, k)) :
    dataAddr c.env s m w = some (.out i, c.rows.cur it + k) ∧ k + w ≤ c.cfg.B ∧ i < c.cfg.O :=
  symData_sound hc h hd hl

theorem step_movqFrame (hc : Contract c) (h : Sim c it σ s) {a : FrameArg} {d : Reg}
    (hs : symStep c.cfg loop (.movqFrame a d) σ = some σ') : StepOK c it (.movqFrame a d) σ' s := by
  simp only [symStep, Option.some.injEq] at hs
  subst hs
  refine ⟨_, rfl, h.setGp d ?_⟩
  have := hc.no_wrap
  cases a <;> simp only [GRefines]
  case matrixBase => rw [lin_const]; rfl; decide
  case inBase => rw [lin_const]; rfl; decide
  case outBase => rw [lin_const]; rfl; decide
  case start =>
    rw [lin_small]
    · simp [linV]
    · simp; omega

theorem step_movqImm (h : Sim c it σ s) {imm : Nat} {d : Reg}
    (hs : symStep c.cfg loop (.movqImm imm d) σ = some σ') : StepOK c it (.movqImm imm d) σ' s := by
  simp only [symStep, Option.some.injEq] at hs
  subst hs
  refine ⟨_, rfl, h.setGp d ?_⟩
  simp only [GRefines, lin_imm]; rfl

theorem step_movqLoad (hc : Contract c) (h : Sim c it σ s) {m : Mem} {d : Reg}
    (hs : symStep c.cfg loop (.movqLoad m d) σ = some σ') : StepOK c it (.movqLoad m d) σ' s := by
  simp only [symStep] at hs
  split at hs
  -- the data pointer of input, then of output, `k / 24`: field 0 of the `k / 24`-th Go slice header (24 bytes each)
  iterate 2
    · rename_i a t k heq
      have ha := symAddr_sound h heq
      split at hs
      · rename_i hcond
        obtain ⟨rfl, rfl, hk, hmod, hlt⟩ := hcond
        cases hs
        rw [lin_const _ _ _ hk] at ha
        refine ⟨_, ?_, h.setGp d rfl⟩
        simp only [stepInstr, ha, hc.inputs_eq, hc.outputs_eq]
        rw [if_pos ⟨hmod, hlt⟩, lin_const _ _ _ (by decide)]
        rfl
      · cases hs
  · cases hs

theorem step_addqImm (h : Sim c it σ s) {imm : Nat} {d : Reg}
    (hs : symStep c.cfg loop (.addqImm imm d) σ = some σ') : StepOK c it (.addqImm imm d) σ' s := by
  simp only [symStep] at hs
  split at hs
  · rename_i heq
    cases hs
    exact h.addqImm c.env (h.gpAt heq) (by simp only [GRefines, Ctx.lin, linVal_add])
  · cases hs

theorem step_addqReg (h : Sim c it σ s) {src d : Reg}
    (hs : symStep c.cfg loop (.addqReg src d) σ = some σ') : StepOK c it (.addqReg src d) σ' s := by
  simp only [symStep] at hs
  split at hs
  · rename_i heq heq2
    cases hs
    exact h.addqReg c.env (Or.inl ⟨h.gpAt heq, h.gpAt heq2⟩) (by simp only [GRefines, Ctx.lin, linVal_add_lin])
  · rename_i heq heq2
    cases hs
    exact h.addqReg c.env (Or.inr ⟨h.gpAt heq, h.gpAt heq2⟩)
      (by simp only [GRefines, Ctx.lin, linVal_add_lin, Nat.add_comm])
  · cases hs

theorem step_shrqImm (h : Sim c it σ s) {imm : Nat} {d : Reg}
    (hs : symStep c.cfg loop (.shrqImm imm d) σ = some σ') : StepOK c it (.shrqImm imm d) σ' s := by
  simp only [symStep] at hs
  split at hs
  · rename_i heq
    split at hs
    · rename_i hcond
      cases hs
      have hg : s.gp d = .num c.env.n := h.gpAt heq
      -- `2 ^ imm = B ≥ 32` excludes a shift by zero, which the machine does not model
      have hpos : 0 < imm := by
        rcases Nat.eq_zero_or_pos imm with h0 | h0
        · have h2 := hcond.2
          rw [h0] at h2
          rcases c.cfg.B_cases with hB | hB <;> omega
        · exact h0
      refine ⟨_, by simp only [stepInstr, hg, if_pos (And.intro hpos hcond.1)]; rfl, (h.setGp d ?_).setFlags _ _⟩
      simp only [GRefines, Ctx.cnt, ← hcond.2, Nat.shiftRight_eq_div_pow]
    · cases hs
  · cases hs

theorem step_movqToX (h : Sim c it σ s) {src : Reg} {x : Nat}
    (hs : symStep c.cfg loop (.movqToX src x) σ = some σ') : StepOK c it (.movqToX src x) σ' s := by
  simp only [symStep] at hs
  split at hs
  · rename_i a t k heq
    split at hs
    · rename_i hcond
      obtain ⟨rfl, rfl, hk⟩ := hcond
      cases hs
      have hg := h.gpAt heq
      simp only [GRefines, linV] at hg
      rw [lin_const _ _ _ (by unfold M64; omega)] at hg
      exact ⟨movqX s x k, by simp only [stepInstr, hg], h.movqX x k (fun _ hr => hr) hk⟩
    · cases hs
  · cases hs

end RSV.Asm
