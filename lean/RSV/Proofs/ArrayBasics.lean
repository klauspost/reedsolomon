/-! Arrays read with `a[i]!` and written with `set!` (core only). -/
namespace RSV.Proofs.Arr

theorem get!_lt {α} [Inhabited α] (a : Array α) (i : Nat) (h : i < a.size) : a[i]! = a[i] :=
  getElem!_pos a i h

theorem get!_ge {α} [Inhabited α] (a : Array α) (i : Nat) (h : a.size ≤ i) : a[i]! = default :=
  getElem!_neg a i (Nat.not_lt.mpr h)

theorem ext! {α} [Inhabited α] {a b : Array α} (hs : a.size = b.size)
    (h : ∀ i, i < a.size → a[i]! = b[i]!) : a = b := by
  apply Array.ext hs
  intro i h1 h2
  have := h i h1
  rwa [get!_lt a i h1, get!_lt b i h2] at this

@[simp] theorem size_set! {α} (a : Array α) (d : Nat) (v : α) : (a.set! d v).size = a.size := by
  simp [Array.set!_eq_setIfInBounds]

theorem get!_set! {α} [Inhabited α] (a : Array α) (d i : Nat) (v : α) :
    (a.set! d v)[i]! = if d = i ∧ d < a.size then v else a[i]! := by
  simp only [Array.set!_eq_setIfInBounds, getElem!_def, Array.getElem?_setIfInBounds]
  by_cases hd : d = i
  · subst hd; by_cases h : d < a.size <;> simp [h]
  · simp [hd]

theorem get!_set!_self {α} [Inhabited α] (a : Array α) (d : Nat) (v : α) (h : d < a.size) :
    (a.set! d v)[d]! = v := by rw [get!_set!, if_pos ⟨rfl, h⟩]

theorem get!_set!_ne {α} [Inhabited α] (a : Array α) (d i : Nat) (v : α) (h : d ≠ i) :
    (a.set! d v)[i]! = a[i]! := by rw [get!_set!, if_neg (fun hh => h hh.1)]

theorem get!_zipWith {α β γ} [Inhabited α] [Inhabited β] [Inhabited γ] (g : α → β → γ)
    (a : Array α) (b : Array β) (i : Nat) (ha : i < a.size) (hb : i < b.size) :
    (Array.zipWith g a b)[i]! = g a[i]! b[i]! := by
  rw [get!_lt _ i (by simp [Array.size_zipWith]; omega), get!_lt a i ha, get!_lt b i hb]; simp

theorem zipWith_set! {α β γ} (g : α → β → γ) (a : Array α) (b : Array β) (d : Nat) (x : α) (y : β)
    (hs : a.size = b.size) :
    Array.zipWith g (a.set! d x) (b.set! d y) = (Array.zipWith g a b).set! d (g x y) := by
  apply Array.ext
  · simp [Array.set!_eq_setIfInBounds, Array.size_zipWith]
  · intro i h1 h2
    simp only [Array.set!_eq_setIfInBounds, Array.size_zipWith, Array.size_setIfInBounds] at h1 h2
    have hia : i < a.size := by omega
    have hib : i < b.size := by omega
    simp only [Array.set!_eq_setIfInBounds, Array.getElem_zipWith,
      Array.getElem_setIfInBounds hia, Array.getElem_setIfInBounds hib]
    rw [Array.getElem_setIfInBounds (by simp [Array.size_zipWith]; omega)]
    by_cases hd : d = i <;> simp [hd]

theorem get!_extract {α} [Inhabited α] (x : Array α) (a b i : Nat) (hi : i < b - a) (hb : b ≤ x.size) :
    (x.extract a b)[i]! = x[a + i]! := by
  rw [get!_lt _ i (by simp [Array.size_extract]; omega), get!_lt x (a + i) (by omega)]
  simp

theorem get!_append {α} [Inhabited α] (x y : Array α) (i : Nat) :
    (x ++ y)[i]! = if i < x.size then x[i]! else y[i - x.size]! := by
  by_cases h : i < (x ++ y).size
  · rw [get!_lt _ i h, Array.getElem_append]
    have h' : i < x.size + y.size := by simpa using h
    by_cases h1 : i < x.size
    · simp [h1]
    · simp only [h1, dite_false, if_false]; rw [get!_lt y (i - x.size) (by omega)]
  · have h' : x.size + y.size ≤ i := by simpa using h
    rw [get!_ge _ i (by simpa using h'), if_neg (by omega), get!_ge y _ (by omega)]

theorem get!_replicate {α} [Inhabited α] (n : Nat) (v : α) (i : Nat) (h : i < n) :
    (Array.replicate n v)[i]! = v := by
  simp [h]

end RSV.Proofs.Arr
