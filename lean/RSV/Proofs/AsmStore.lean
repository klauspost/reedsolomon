import RSV.Proofs.AsmStepV
import RSV.Proofs.Tables
/-!
Matrix-kernel checker: an accepted xor list evaluates to the specified byte (`Tables.gfni_ok` and
`Tables.gmul_nibbles` on the contract's matrix), the store, and the simulation lemmas for one instruction
and for straight-line segments.
-/
namespace RSV.Asm
open RSV.Model.Kernels

variable {c : Ctx} {it : Nat} {σ σ' : SymState} {s : State} {loop : Bool}

theorem recipe_eval (hc : Contract c) {i o j k : Nat} (hi : i < c.cfg.O) (hj : j < c.cfg.I) (hk : k < c.cfg.w) :
    xorl ((recipe c.cfg i o j).map (evalAtom c it k)) = gmul (c.A i j) (c.inp it j o k) := by
  have hx : c.inp it j o k < 256 := hc.bytes _ _
  by_cases hfam : c.cfg.fam = .avx2
  · have hk32 : k < 32 := by unfold Cfg.w at hk; rw [hfam] at hk; exact hk
    simp only [recipe, hfam, List.map, evalAtom, xorl, Nat.xor_zero, Bool.false_eq_true, if_false, if_true]
    generalize c.inp it j o k = x at hx
    have hlo := hc.mat_avx2 hfam i j hi hj _ (and15_lt x)
    have hhi := hc.mat_avx2 hfam i j hi hj _ (shr4_lt hx)
    -- the 32-byte look-up repeats each table, so both 16-byte lanes read the same entries
    have hq : k / 16 = 0 ∨ k / 16 = 1 := by omega
    rcases hq with hq | hq <;> rw [hq]
    · rw [show avx2Slot c.cfg.O i j + (16 * 0 + (x &&& 15)) = avx2Slot c.cfg.O i j + (x &&& 15) by omega,
        show avx2Slot c.cfg.O i j + 32 + (16 * 0 + (x >>> 4)) = avx2Slot c.cfg.O i j + 32 + (x >>> 4) by omega,
        hlo.1, hhi.2.2.1, Tables.gmul_nibbles]
    · rw [show avx2Slot c.cfg.O i j + (16 * 1 + (x &&& 15)) = avx2Slot c.cfg.O i j + 16 + (x &&& 15) by omega,
        show avx2Slot c.cfg.O i j + 32 + (16 * 1 + (x >>> 4)) = avx2Slot c.cfg.O i j + 48 + (x >>> 4) by omega,
        hlo.2.1, hhi.2.2.2, Tables.gmul_nibbles]
  · have hr : recipe c.cfg i o j = [.aff (gfniSlot c.cfg.O i j * 8) j o] := by
      unfold recipe; cases hf : c.cfg.fam <;> first | rfl | exact absurd hf hfam
    simp only [hr, List.map, evalAtom, xorl, Nat.xor_zero]
    rw [affineB_congr _ _ _ (hc.mat_gfni hfam i j hi hj), affineB_byteAt,
      Tables.gfni_ok _ _ (hc.coeff i j) hx]

theorem flatMap_eval (e : Atom → Nat) (f : Nat → List Atom) (g : Nat → Nat) (L : List Nat)
    (h : ∀ j, j ∈ L → xorl ((f j).map e) = g j) : xorl ((L.flatMap f).map e) = xorl (L.map g) := by
  induction L with
  | nil => rfl
  | cons a L ih =>
    simp only [List.flatMap_cons, List.map_append, xorl_append, List.map_cons, xorl]
    rw [h a (by simp), ih (fun j hj => h j (by simp [hj]))]

theorem expected_eval (hc : Contract c) {i o k : Nat} (hi : i < c.cfg.O) (hk : k < c.cfg.w) :
    xorl ((expected c.cfg i o).map (evalAtom c it k)) = c.spec i (c.rows.cur it + o + k) := by
  unfold expected Ctx.spec
  rw [List.map_append, xorl_append, xorl_append]
  congr 1
  · cases c.cfg.xor <;> simp [evalAtom]
  · exact flatMap_eval _ _ _ _ fun j hj => recipe_eval hc hi (List.mem_range.mp hj) hk

theorem step_vstore (hc : Contract c) (h : Sim c it σ s) (hl : loop = true → it < c.cnt)
    {src : VReg} {m : Mem} (hs : symStep c.cfg loop (.vstore src m) σ = some σ') :
    StepOK c it (.vstore src m) σ' s := by
  simp only [symStep] at hs
  split at hs
  · rename_i i k w l heq heq2
    obtain ⟨ha, hkB, hi⟩ := symData_out hc h hl heq
    split at hs
    · rename_i hcond
      obtain ⟨hsw, rfl, hperm, hnew⟩ := hcond
      cases hs
      have hv : Desc c.cfg.w _ (s.vec src.idx) := h.vecAt heq2
      rw [hsw] at ha hkB
      refine ⟨_, by simp only [stepInstr, hsw, ha]; rfl,
        h.store (k := i) (o := k) (v := src.idx) ⟨trivial, hi, hkB, trivial⟩
          (fun _ _ e => by cases e; rfl) ?_⟩
      intro q hq
      rw [hv q hq]
      show xorl (l.map (evalAtom c it q)) = c.spec i (c.rows.cur it + k + q)
      rw [xorl_perm ((List.isPerm_iff.mp hperm).map _)]
      exact expected_eval hc hi hq
    · cases hs
  · cases hs

theorem symStep_plain {cfg : Cfg} {i : Instr} (hs : symStep cfg loop i σ = some σ') :
    isPlain i = true ∧ ∀ l, i ≠ .label l := by
  cases i with
  | ret | jz | jnz | ja | jmp | label => cases hs
  | _ => exact ⟨rfl, fun _ h => nomatch h⟩

theorem symStep_sound (hc : Contract c) (hl : loop = true → it < c.cnt) (h : Sim c it σ s)
    {i : Instr} (hs : symStep c.cfg loop i σ = some σ') : StepOK c it i σ' s := by
  cases i with
  | movqFrame a d => exact step_movqFrame hc h hs
  | movqLoad m d => exact step_movqLoad hc h hs
  | movqImm imm d => exact step_movqImm h hs
  | movqToX src x => exact step_movqToX h hs
  | addqImm imm d => exact step_addqImm h hs
  | addqReg src d => exact step_addqReg h hs
  | shrqImm imm d => exact step_shrqImm h hs
  | vload m d => exact step_vload hc h hl hs
  | vstore src m => exact step_vstore hc h hl hs
  | vpshufb idx tab d => exact step_vpshufb hc h hs
  | vxor a b d => exact step_vxor h hs
  | vpand a b d => exact step_vpand h hs
  | vpsrlq imm src d => exact step_vpsrlq hc h hs
  | vpbroadcastb src d => exact step_vpbroadcastb h hs
  | vbcast8 m d => exact step_vbcast8 hc h hs
  | affine imm mt src d => exact step_affine h hs
  | affineBcst imm m src d => exact step_affineBcst hc h hs
  | _ => cases hs

theorem symRun_eq (cfg : Cfg) (seg : List Instr) (σ : SymState) :
    symRun cfg loop seg σ = runSym (symStep cfg loop) seg σ := by
  induction seg generalizing σ with
  | nil => rfl
  | cons i seg ih => simp only [symRun, runSym]; split <;> simp [*]

theorem symRun_noLabel {cfg : Cfg} {seg : List Instr} (h : symRun cfg loop seg σ = some σ') (l : Nat) :
    Instr.label l ∉ seg := fun hm =>
  runSym_forall (stepS := symStep cfg loop) (fun _ _ _ hs => (symStep_plain hs).2) (symRun_eq cfg seg σ ▸ h) _ hm l rfl

theorem symRun_sound (hc : Contract c) (hl : loop = true → it < c.cnt) {prog : Program} (seg : List Instr)
    (A C : List Instr) (σ σ' : SymState) (s : State) (hp : prog = A ++ seg ++ C) (hpc : s.pc = A.length)
    (h : Sim c it σ s) (hs : symRun c.cfg loop seg σ = some σ') :
    ∃ s', run c.env prog seg.length s = some s' ∧ s'.pc = A.length + seg.length ∧ Sim c it σ' s' :=
  runSym_sound (R := Sim c it) (fun _ _ p h => h.withPc p)
    (fun _ _ _ _ hs h => ⟨(symStep_plain hs).1, symStep_sound hc hl h hs⟩) seg A C σ σ' s hp hpc h
    (symRun_eq c.cfg seg σ ▸ hs)

end RSV.Asm
