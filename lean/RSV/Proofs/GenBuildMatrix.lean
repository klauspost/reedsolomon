import RSV.Proofs.GenInvert
/-!
# The regenerated `buildMatrix` (`vandermonde`, `SubMatrix`, `Invert`, `Multiply`) equals the model's

`Gen.buildMatrix` is composed from the closed forms of its four callees; the inner product that `Multiply`
accumulates by xor (`xsum`) is the model's `finSum` on the byte values.
-/
namespace RSV.GenBuildMatrix
open RSV.Gen RSV.Model RSV.GenMatrix RSV.GenGauss RSV.GenSubMatrix RSV.GenInvert

def entM {n m : Nat} (A : Mat GF256 n m) : Nat → Nat → Nat :=
  fun i j => if h : i < n ∧ j < m then (A.get ⟨i, h.1⟩ ⟨j, h.2⟩).val else 0

theorem entM_fin {n m : Nat} (A : Mat GF256 n m) (i : Fin n) (j : Fin m) : entM A i.val j.val = (A.get i j).val := by
  unfold entM
  rw [dif_pos ⟨i.isLt, j.isLt⟩]

theorem rowsOfMat_eq_arr {n m : Nat} (A : Mat GF256 n m) : rowsOfMat A = arr n m (entM A) :=
  (arr_eq_rowsOfMat A _ (entM_fin A)).symm

theorem finSum_val : ∀ (k : Nat) (f : Fin k → GF256),
    (finSum f).val = xsum (fun t => if h : t < k then (f ⟨t, h⟩).val else 0) k := by
  intro k
  induction k with
  | zero => intro f; rfl
  | succ k ih =>
    intro f
    show (finSum (fun i : Fin k => f i.castSucc)).val ^^^ (f (Fin.last k)).val = _
    rw [ih]
    show _ = xsum _ k ^^^ (if h : k < k + 1 then (f ⟨k, h⟩).val else 0)
    rw [dif_pos (Nat.lt_succ_self k)]
    congr 1
    apply xsum_congr
    intro t ht
    rw [dif_pos ht, dif_pos (by omega)]
    rfl

theorem entM_mulMat {n k c : Nat} (A : Mat GF256 n k) (B : Mat GF256 k c) (r j : Nat) (hr : r < n) (hj : j < c) :
    xsum (fun i => galMultiply (entM A r i) (entM B i j)) k = entM (mulMat A B) r j := by
  have h := entM_fin (mulMat A B) ⟨r, hr⟩ ⟨j, hj⟩
  rw [h]
  simp only [mulMat, Mat.get_ofFn]
  rw [finSum_val]
  apply xsum_congr
  intro t ht
  rw [dif_pos ht, ← galMultiply_val, ← entM_fin A ⟨r, hr⟩ ⟨t, ht⟩, ← entM_fin B ⟨t, ht⟩ ⟨j, hj⟩]

theorem multiply_model {n k c : Nat} (A : Mat GF256 n k) (B : Mat GF256 k c) (hn : 0 < n) (hk : 0 < k) (hc : 0 < c) :
    matrix_Multiply (rowsOfMat A) (rowsOfMat B) = some (rowsOfMat (mulMat A B), none) := by
  rw [rowsOfMat_eq_arr A, rowsOfMat_eq_arr B, multiply_arr n k c _ _ hn hk hc, rowsOfMat_eq_arr (mulMat A B)]
  exact congrArg (fun x => some (x, (none : Option String))) (arr_congr fun r j hr hj => entM_mulMat A B r j hr hj)

theorem matOfRows_top {total d : Nat} (h : d ≤ total) (A : Mat GF256 total d) :
    matOfRows (arr d d (entM A)) d = topSquare h A := by
  apply Mat.ext_get
  intro i j
  simp only [matOfRows, topSquare, Mat.get_ofFn]
  rw [getElem!_arr i.isLt j.isLt, entM_fin A ⟨i.val, Nat.lt_of_lt_of_le i.isLt h⟩ j, GF256.ofNat_val_self]

theorem buildMatrix_eq (d total : Nat) (hd : 0 < d) (h : d ≤ total) (hd55 : d < 2 ^ 55)
    (ht63 : total < 2 ^ 63) :
    Gen.buildMatrix (d : Int) (total : Int) =
      match Model.buildMatrix xByte d total h with
      | some M => some (rowsOfMat M, none)
      | none => some (#[], some "errSingular") := by
  unfold Gen.buildMatrix
  rw [vandermonde_eq total d (by omega) hd hd55]
  simp only [Option.bind_eq_bind]
  rw [Option.bind_some, if_neg (fun hh => hh rfl)]
  rw [rowsOfMat_eq_arr, submatrix_top total d _ hd h (by omega), Option.bind_some, if_neg (fun hh => hh rfl)]
  have hinv := matrix_Invert_eq_model d hd (by omega) (arr d d (entM (Model.vandermonde xByte total d)))
    (size_arr _ _ _)
    (by
      intro i hi
      have h1 : i < (arr d d (entM (Model.vandermonde xByte total d))).size := by simpa using hi
      rw [getElem!_pos _ i h1, getElem_arr, size_mkRow])
    (by
      intro i j hi hj
      rw [getElem!_arr hi hj, entM_fin (Model.vandermonde xByte total d) ⟨i, by omega⟩ ⟨j, hj⟩]
      exact GF256.isLt _)
  rw [hinv, matOfRows_top h]
  have hbm : Model.buildMatrix xByte d total h =
      (Model.invert (topSquare h (Model.vandermonde xByte total d))).map
        (fun inv => mulMat (Model.vandermonde xByte total d) inv) := rfl
  rw [hbm]
  cases hi : Model.invert (topSquare h (Model.vandermonde xByte total d)) with
  | none =>
    show ((some ((#[] : Array (Array Nat)), some "errSingular")).bind _) = some (#[], some "errSingular")
    rw [Option.bind_some, if_pos (Option.some_ne_none _)]
    rfl
  | some B =>
    show ((some (rowsOfMat B, (none : Option String))).bind _) =
      some (rowsOfMat (mulMat (Model.vandermonde xByte total d) B), none)
    rw [Option.bind_some, if_neg (fun hh => hh rfl), ← rowsOfMat_eq_arr,
      multiply_model _ B (by omega) hd hd, Option.bind_some]
    rfl

/-- the executable comparison `genBuildMatrixAgrees` can only answer `true` -/
theorem genBuildMatrixAgrees_true (d total : Nat) (hd : 0 < d) (h : d ≤ total) (hd55 : d < 2 ^ 55)
    (ht63 : total < 2 ^ 63) : genBuildMatrixAgrees d total = true := by
  unfold genBuildMatrixAgrees
  rw [dif_pos h, Int.ofNat_eq_natCast, Int.ofNat_eq_natCast, buildMatrix_eq d total hd h hd55 ht63]
  cases hi : Model.buildMatrix xByte d total h with
  | none => rfl
  | some M => simp

end RSV.GenBuildMatrix
