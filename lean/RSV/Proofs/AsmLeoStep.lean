import RSV.Proofs.AsmLeoSem
/-!
Checker for the remaining amd64 kernels: address computation and the general-register instructions.
-/
namespace RSV.Asm.Leo

variable {c : Ctx} {it : Nat} {σ σ' : SymState} {s : State} {loop : Bool}

abbrev StepOK (c : Ctx) (it : Nat) (i : Instr) (σ' : SymState) (s : State) : Prop :=
  StepTo c.env i s (Sim c it σ')

theorem lin_imm (c : Ctx) (it k : Nat) : c.lin it 0 0 k = k % M64 := linVal_imm _ _ _ _

theorem lin_const (c : Ctx) (it k : Nat) (h : k < M64) : c.lin it 0 0 k = k := linVal_const _ _ _ _ h

theorem lin_small (c : Ctx) (it a t k : Nat) (h : a * (24 * c.dist) + t * (c.kd.B * it) + k < M64) :
    c.lin it a t k = a * (24 * c.dist) + t * (c.kd.B * it) + k := linVal_small _ _ _ _ _ _ h

theorem symAddr_sound (h : Sim c it σ s) {m : Mem} {b : SBase} {a t k : Nat}
    (ha : symAddr σ m = some (b, a, t, k)) : addr s m = some (c.sbReg b, c.lin it a t k) := by
  cases m with
  | bd disp base =>
    simp only [symAddr] at ha
    split at ha
    · rename_i heq
      cases ha
      rw [addr_bd (h.gpAt heq), Ctx.lin, linVal_add]; rfl
    · cases ha
  | bi base idx =>
    simp only [symAddr] at ha
    split at ha
    · rename_i heq heq2
      cases ha
      rw [addr_bi (h.gpAt heq) (h.gpAt heq2), Ctx.lin, Ctx.lin, linVal_add_lin]; rfl
    · cases ha

theorem symData_tab (hc : Contract c) (h : Sim c it σ s) {m : Mem} {w k t : Nat}
    (hd : symData c.kd loop σ m w = some (.tab t, k)) : dataAddr c.env s m w = some (.tab t, k) := by
  unfold symData at hd
  split at hd
  · cases hd
  · rename_i b a t' k' heq
    have ha := symAddr_sound h heq
    split at hd
    · split at hd
      · rename_i t'' hcond
        obtain ⟨rfl, rfl, hle, hlt⟩ := hcond
        cases hd
        rw [lin_const _ _ _ (by omega)] at ha
        have := hc.tab_size t
        exact dataAddr_of_addr ha rfl (by omega)
      · cases hd
    · split at hd <;> cases hd
    · cases hd

theorem symData_row (hc : Contract c) (h : Sim c it σ s) (hl : loop = true → it < c.cnt)
    {m : Mem} {w k r : Nat} (hd : symData c.kd loop σ m w = some (.row r, k)) :
    dataAddr c.env s m w = some (c.rowReg r, c.rows.cur it + k) ∧ k + w ≤ c.kd.B ∧ r < c.kd.rows ∧
      w = c.kd.w ∧ k % c.kd.w = 0 := by
  unfold symData at hd
  split at hd
  · cases hd
  · rename_i b a t' k' heq
    have ha := symAddr_sound h heq
    split at hd
    · split at hd <;> cases hd
    · split at hd
      · rename_i r' hcond
        obtain ⟨hloop, rfl, rfl, hr, hle, hw, hmod⟩ := hcond
        cases hd
        have hb : c.rows.cur it + c.kd.B ≤ 0 + c.N := c.rows.cur_bound (hl hloop)
        have hsz := hc.row_size r hr
        have hnl := hc.n_lt
        have hk : c.lin it 0 1 k = c.rows.cur it + k := by
          rw [lin_small] <;> rw [c.rows_cur] at * <;> omega
        rw [hk] at ha
        have hid : c.env.isData (c.rowReg r) = true := by simp [Ctx.rowReg, Env.isData, hc.row_lt r hr]
        exact ⟨dataAddr_of_addr ha hid (by omega), hle, hr, hw, hmod⟩
      · cases hd
    · cases hd

theorem step_movqFP (hc : Contract c) (h : Sim c it σ s) {off : Nat} {d : Reg}
    (hs : symStep c.kd loop (.movqFP off d) σ = some σ') : StepOK c it (.movqFP off d) σ' s := by
  simp only [symStep] at hs
  split at hs
  · rename_i b heq
    cases hs
    refine ⟨_, by simp only [stepInstr, hc.frame_ok _ _ heq]; rfl, h.setGp d ?_⟩
    simp only [GRefines, Ctx.argVal]
    rw [lin_const]; rfl; decide
  · rename_i heq
    cases hs
    exact ⟨_, by simp only [stepInstr, hc.frame_ok _ _ heq]; rfl, h.setGp d rfl⟩
  · rename_i heq
    cases hs
    refine ⟨_, by simp only [stepInstr, hc.frame_ok _ _ heq]; rfl, h.setGp d ?_⟩
    simp only [GRefines, Ctx.argVal]
    have := hc.dist_lt
    rw [lin_small]
    · simp [linV]
    · simp; omega
  · cases hs

theorem step_movqImm (h : Sim c it σ s) {imm : Nat} {d : Reg}
    (hs : symStep c.kd loop (.movqImm imm d) σ = some σ') : StepOK c it (.movqImm imm d) σ' s := by
  simp only [symStep, Option.some.injEq] at hs
  subst hs
  refine ⟨_, rfl, h.setGp d ?_⟩
  simp only [GRefines, lin_imm]; rfl

theorem step_xorqRR (h : Sim c it σ s) {a d : Reg}
    (hs : symStep c.kd loop (.xorqRR a d) σ = some σ') : StepOK c it (.xorqRR a d) σ' s := by
  simp only [symStep] at hs
  split at hs
  · rename_i hEq
    cases hs
    refine ⟨_, by simp only [stepInstr, if_pos hEq]; rfl, (h.setGp d ?_).setFlags _ _⟩
    simp only [GRefines, lin_imm]; rfl
  · cases hs

theorem row0 (c : Ctx) : c.rowReg 0 = .out 0 := by simp [Ctx.rowReg]

theorem step_movqLoad (hc : Contract c) (h : Sim c it σ s) {m : Mem} {d : Reg}
    (hs : symStep c.kd loop (.movqLoad m d) σ = some σ') : StepOK c it (.movqLoad m d) σ' s := by
  simp only [symStep] at hs
  split at hs
  · rename_i a t k heq
    have ha := symAddr_sound h heq
    have hlt := hc.hdr_lt
    split at hs
    · -- the data pointer of row `a`: slot `24·(a·dist)` of the slice-header array
      rename_i hcond
      obtain ⟨rfl, rfl, hr⟩ := hcond
      cases hs
      have hro := hc.row_lt a hr
      have hv : c.lin it a 0 0 = 24 * (a * c.dist) := by
        have e : a * (24 * c.dist) = 24 * (a * c.dist) := Nat.mul_left_comm _ _ _
        rw [lin_small] <;> omega
      rw [hv] at ha
      refine ⟨setGp s d (.ptr (c.rowReg a) 0), ?_, h.setGp d ?_⟩
      · simp only [stepInstr, ha, Ctx.sbReg]
        rw [Nat.mul_div_cancel_left _ (by decide : 0 < 24), if_pos ⟨Nat.mul_mod_right _ _, hro⟩]
        rfl
      · simp only [GRefines]; rw [lin_const]; rfl; decide
    · split at hs
      · -- the length field of the first slice header
        rename_i hcond
        obtain ⟨rfl, rfl, rfl, hlen, hrows⟩ := hcond
        cases hs
        have hro := hc.row_lt 0 hrows
        rw [lin_const _ _ _ (by decide)] at ha
        refine ⟨setGp s d (.num c.N), ?_, h.setGp d rfl⟩
        simp only [stepInstr, ha, Ctx.sbReg]
        have h9 : True ∧ 8 / 24 < c.env.outputs := ⟨trivial, by omega⟩
        have := hc.hdr_len hlen
        rw [row0] at this
        rw [if_pos h9, show (8 : Nat) / 24 = 0 from rfl, this, if_neg (by omega)]
      · cases hs
  · cases hs

theorem step_addqImm (h : Sim c it σ s) {imm : Nat} {d : Reg}
    (hs : symStep c.kd loop (.addqImm imm d) σ = some σ') : StepOK c it (.addqImm imm d) σ' s := by
  simp only [symStep] at hs
  split at hs
  · rename_i heq
    cases hs
    exact h.addqImm c.env (h.gpAt heq) (by simp only [GRefines, Ctx.lin, linVal_add])
  · cases hs

theorem step_addqReg (h : Sim c it σ s) {src d : Reg}
    (hs : symStep c.kd loop (.addqReg src d) σ = some σ') : StepOK c it (.addqReg src d) σ' s := by
  simp only [symStep] at hs
  split at hs
  · rename_i heq heq2
    cases hs
    exact h.addqReg c.env (Or.inl ⟨h.gpAt heq, h.gpAt heq2⟩) (by simp only [GRefines, Ctx.lin, linVal_add_lin])
  · rename_i heq heq2
    cases hs
    exact h.addqReg c.env (Or.inr ⟨h.gpAt heq, h.gpAt heq2⟩)
      (by simp only [GRefines, Ctx.lin, linVal_add_lin, Nat.add_comm])
  · cases hs

theorem step_shrqImm (h : Sim c it σ s) {imm : Nat} {d : Reg}
    (hs : symStep c.kd loop (.shrqImm imm d) σ = some σ') : StepOK c it (.shrqImm imm d) σ' s := by
  simp only [symStep] at hs
  split at hs
  · rename_i heq
    split at hs
    · rename_i hcond
      cases hs
      have hg : s.gp d = .num c.N := h.gpAt heq
      refine ⟨_, by simp only [stepInstr, hg, if_pos (And.intro hcond.1 hcond.2.1)]; rfl,
        (h.setGp d ?_).setFlags _ _⟩
      simp only [GRefines, Ctx.cnt, ← hcond.2.2, Nat.shiftRight_eq_div_pow]
    · cases hs
  · cases hs

theorem step_movqToX (h : Sim c it σ s) {src : Reg} {x : Nat}
    (hs : symStep c.kd loop (.movqToX src x) σ = some σ') : StepOK c it (.movqToX src x) σ' s := by
  simp only [symStep] at hs
  split at hs
  · rename_i a t k heq
    split at hs
    · rename_i hcond
      obtain ⟨rfl, rfl, hk⟩ := hcond
      cases hs
      have hg := h.gpAt heq
      simp only [GRefines, Option.map, linV] at hg
      rw [lin_const _ _ _ (by unfold M64; omega)] at hg
      exact ⟨movqX s x k, by simp only [stepInstr, hg], h.movqX x k (fun _ hr => hr) hk⟩
    · cases hs
  · cases hs

theorem step_movqRR (h : Sim c it σ s) {src d : Reg}
    (hs : symStep c.kd loop (.movqRR src d) σ = some σ') : StepOK c it (.movqRR src d) σ' s := by
  simp only [symStep, Option.some.injEq] at hs
  subst hs
  exact ⟨_, rfl, h.setGp d (h.gp src)⟩

theorem step_andqImm (h : Sim c it σ s) {imm : Nat} {d : Reg}
    (hs : symStep c.kd loop (.andqImm imm d) σ = some σ') : StepOK c it (.andqImm imm d) σ' s := by
  simp only [symStep] at hs
  split at hs
  · rename_i k a t k' heq
    split at hs
    · rename_i hcond
      obtain ⟨rfl, rfl, rfl, rfl⟩ := hcond
      cases hs
      have hg := h.gpAt heq
      simp only [GRefines, Option.map, linV, Ctx.sbReg] at hg
      rw [lin_const _ _ _ (by decide)] at hg
      exact ⟨_, by simp only [stepInstr, hg]; rfl, (h.setGp d (g := .algn k) rfl).setFlags _ _⟩
    · cases hs
  · cases hs

end RSV.Asm.Leo
