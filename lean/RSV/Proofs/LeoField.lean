import RSV.Proofs.LeoPres
import RSV.Proofs.CeilPow2
import RSV.Proofs.GF256Field
import RSV.Proofs.LeoField.Loops
import RSV.Proofs.LeoField.Nibbles
import RSV.Proofs.LeoField.Lits
import RSV.Proofs.LeoField.Image
/-!
# Leopard's GF(2^8) is `GF256` through the Cantor map

`pres8 : LeoPres P8 Pinv8 8` instantiates the structural theory of `RSV/Proofs/LeoPres.lean` (`x` is primitive
modulo 0x11D, `Pinv8` is the inverse Cantor basis: 8 + 8 evaluations); the facts about `T8 = initLUTs P8`,
`mulLog`, `leoMul` below are its corollaries in the vocabulary of `RSV.Spec.GF256` (`gmul`, `gpow`).  Then the
nibble tables, the image `toGF` in `GF256`, and the MDS certificate for Leopard generators.
-/
namespace RSV.Proofs.LeoField
open RSV.Model RSV.BF

def T8 : Leo.LUTs := Leo.initLUTs Leo.P8
def C8 : Leo.Ctx := Leo.mkCtx Leo.P8
abbrev cm : Nat → Nat := Leo.cantorMap Leo.P8

/-- inverse basis: `cm (Pinv8.cantor[i]) = 2^i` -/
def Pinv8 : Leo.Params := ⟨8, 0, #[1, 104, 92, 100, 114, 240, 86, 18]⟩

theorem pres8 : LeoPres Leo.P8 Pinv8 8 where
  prim := prim8
  cantor := ⟨rfl, rfl, by decide, by decide, by decide +kernel, by decide +kernel, by decide +kernel,
    by decide +kernel⟩

theorem gpow_two (n : Nat) : gpow 2 n = xpow 8 poly8 n := (basis8.xpow_eq_ppow n).symm

theorem cm_one : cm 1 = 1 := pres8.cantor.one

theorem log_spec {i : Nat} (h0 : i ≠ 0) (hi : i < 256) : gpow 2 (T8.log[i]!) = cm i := by
  rw [gpow_two]; exact pres8.log_spec h0 hi

theorem log_lt {i : Nat} (h0 : i ≠ 0) (hi : i < 256) : T8.log[i]! < 255 := pres8.log_lt h0 hi

theorem log_zero : T8.log[0]! = 255 := pres8.log_zero

theorem exp_lt (k : Nat) : T8.exp[k]! < 256 := by
  by_cases hk : k ≤ 255
  · exact pres8.exp_lt hk
  · rw [getElem!_neg T8.exp k (by rw [show T8.exp.size = 256 from pres8.exp_size]; omega)]; decide

theorem cm_exp {k : Nat} (hk : k ≤ 255) : cm (T8.exp[k]!) = gpow 2 k := by
  rw [gpow_two]; exact pres8.cm_exp hk

theorem addMod_eq {x y : Nat} (hx : x ≤ 255) (hy : y ≤ 255) :
    Leo.addMod Leo.P8 x y = if x + y < 256 then x + y else x + y - 255 := pres8.addMod_eq hx hy

theorem gpow_addMod {x y : Nat} (hx : x ≤ 255) (hy : y ≤ 255) :
    gpow 2 (Leo.addMod Leo.P8 x y) = gmul (gpow 2 x) (gpow 2 y) := by
  rw [gpow_two, gpow_two, gpow_two]; exact (pres8.xpow_addMod hx hy).trans (basis8.xpow_add x y)

theorem mulLog_lt (a m : Nat) : Leo.mulLog Leo.P8 T8 a m < 256 := pres8.mulLog_lt a m

theorem cm_mulLog {a m : Nat} (ha : a < 256) (hm : m < 256) :
    cm (Leo.mulLog Leo.P8 T8 a m) = gmul (cm a) (gpow 2 m) := by
  rw [gpow_two]; exact pres8.cm_mulLog ha hm

theorem cm_mulSym {a m : Nat} (ha : a < 256) (hm : m < 256) :
    cm (Leo.mulSym C8 a m) = gmul (cm a) (gpow 2 m) := cm_mulLog ha hm

theorem mulLog_xor {a b m : Nat} (ha : a < 256) (hb : b < 256) (hm : m < 256) :
    Leo.mulLog Leo.P8 T8 (a ^^^ b) m = Leo.mulLog Leo.P8 T8 a m ^^^ Leo.mulLog Leo.P8 T8 b m :=
  pres8.mulLog_xor ha hb hm

theorem mulSym_xor {a b m : Nat} (ha : a < 256) (hb : b < 256) (hm : m < 256) :
    Leo.mulSym C8 (a ^^^ b) m = Leo.mulSym C8 a m ^^^ Leo.mulSym C8 b m := mulLog_xor ha hb hm

theorem mul8LUT_entry (P : Leo.Params) (T : Leo.LUTs) (m a : Nat) (ha : a < 256) :
    (Leo.mul8LUT P T m)[a]! =
      (Leo.nibbleProducts P T m)[a &&& 15]! ^^^ (Leo.nibbleProducts P T m)[(a >>> 4) + 16]! := by
  unfold Leo.mul8LUT
  simp [ha]

theorem mul256LUT8_entry (P : Leo.Params) (T : Leo.LUTs) (m x : Nat) (hx : x < 32) :
    (Leo.mul256LUT8 P T m)[x]! = (Leo.nibbleProducts P T m)[x]! := by
  unfold Leo.mul256LUT8
  simp [hx]

/-- the 256-entry product table composed from the two 16-entry nibble tables is the direct product -/
theorem mul8LUT_get {m a : Nat} (hm : m < 256) (ha : a < 256) :
    (Leo.mul8LUT Leo.P8 T8 m)[a]! = Leo.mulSym C8 a m :=
  (mul8LUT_entry _ _ _ _ ha).trans (pres8.nibbles_byte (by decide) hm ha)

/-- the two 16-entry nibble tables (`multiply256LUT8`) are products of `x` and `x <<< 4` -/
theorem mul256LUT8_get {m x : Nat} (hx : x < 16) :
    (Leo.mul256LUT8 Leo.P8 T8 m)[x]! = Leo.mulSym C8 x m ∧
    (Leo.mul256LUT8 Leo.P8 T8 m)[x + 16]! = Leo.mulSym C8 (x <<< 4) m := by
  have ho : Leo.P8.order = 256 := rfl
  have hs : x <<< 4 < 256 := by rw [Nat.shiftLeft_eq]; omega
  constructor
  · rw [mul256LUT8_entry _ _ _ _ (by omega), nib_0 _ _ _ _ hx, ho, Nat.mod_eq_of_lt (by omega)]; rfl
  · rw [mul256LUT8_entry _ _ _ _ (by omega), nib_1 _ _ _ _ hx, ho, Nat.mod_eq_of_lt hs]; rfl

/-- Leopard symbol ↦ `GF256` element -/
def toGF (a : Nat) : GF256 := GF256.ofNat (cm a)

theorem toGF_val (a : Nat) : (toGF a).val = cm a := Nat.mod_eq_of_lt (pres8.cantor.cm_lt a)

theorem toGF_inj {a b : Nat} (ha : a < 256) (hb : b < 256) (h : toGF a = toGF b) : a = b :=
  pres8.cantor.cm_inj ha hb (GF256.ofNat_injOn _ _ (pres8.cantor.cm_lt a) (pres8.cantor.cm_lt b) h)

theorem toGF_xor (a b : Nat) : toGF (a ^^^ b) = toGF a + toGF b :=
  (congrArg GF256.ofNat (cantorMap_xor Leo.P8 a b)).trans
    (GF256.ofNat_xor _ _ (pres8.cantor.cm_lt a) (pres8.cantor.cm_lt b))

theorem toGF_zero : toGF 0 = 0 := congrArg GF256.ofNat (cantorMap_zero Leo.P8)

theorem toGF_leoMul {a b : Nat} (ha : a < 256) (hb : b < 256) :
    toGF (Leo.leoMul C8 a b) = toGF a * toGF b :=
  GF256.ext (by rw [GF256.mul_val, toGF_val, toGF_val, toGF_val]; exact pres8.cm_leoMul ha hb)

/-- xor-sum of Leopard products over a list of positions -/
def leoDot {ι : Type} (l : List ι) (g t : ι → Nat) : Nat :=
  l.foldl (fun acc c => acc ^^^ Leo.leoMul C8 (g c) (t c)) 0

theorem toGF_leoDot {d : ℕ} (g t : Fin d → Nat) (hg : ∀ c, g c < 256) (ht : ∀ c, t c < 256) :
    toGF (leoDot (List.finRange d) g t) = ∑ c, toGF (g c) * toGF (t c) :=
  map_xorDot_fin toGF 256 (Leo.leoMul C8) toGF_xor (fun _ _ => toGF_leoMul) toGF_zero g t hg ht

theorem leoY_inj {d m : ℕ} (h : d + m ≤ 256) : Function.Injective (Leo.leoY d m) :=
  injective_shift toGF 256 (fun _ _ => toGF_inj) h

theorem leoX_inj {p : ℕ} (h : p ≤ 256) : Function.Injective (Leo.leoX p) :=
  injective_some toGF 256 (fun _ _ => toGF_inj) h

theorem leoX_ne_leoY {d p m : ℕ} (hpm : p ≤ m) (h : d + m ≤ 256) (r : Fin p) (c : Fin d) :
    Leo.leoX p r ≠ some (Leo.leoY d m c) :=
  some_ne_shift toGF 256 (fun _ _ => toGF_inj) hpm h r c

theorem leo8Cert_sound (d p : ℕ) (G : Array (Array ℕ)) (h : d + Leo.ceilPow2 p ≤ 256)
    (hc : Leo.leo8Cert d p G = true) :
    RSV.CodeTheory.MDS (fun (r : Fin p) (c : Fin d) => (Leo.mapMatrix (p := p) (d := d) G).get r c) := by
  have hpm : p ≤ Leo.ceilPow2 p := LeoSched.le_ceilPow2_of_lt (by omega)
  unfold Leo.leo8Cert at hc
  split at hc
  · cases hc
  split at hc
  · cases hc
  exact RSV.CodeTheory.certGC_sound' _ (Leo.leoX p) (Leo.leoY d (Leo.ceilPow2 p)) _ _ hc
    (leoY_inj h) (leoX_inj (by omega)) (leoX_ne_leoY hpm h)

end RSV.Proofs.LeoField
