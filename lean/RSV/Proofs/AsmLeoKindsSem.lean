import RSV.Proofs.AsmLeoSem
/-!
The byte-level meaning of the kernel descriptors of the remaining amd64 kernels.  The butterflies are the same functions `fft2`/`ifft2`/`fft4`/`ifft4` as in the
descriptors, instantiated with bytes (GF(2^8)) or byte pairs (GF(2^16)) and the look-ups in the
*passed* tables; `specVal` (what the generic theorem guarantees) is rewritten to them.
-/
namespace RSV.Asm.Leo

structure Hom {α β : Type} (A : Alg α) (B : Alg β) (h : α → β) : Prop where
  xor : ∀ a b, h (A.xor a b) = B.xor (h a) (h b)
  mul : ∀ i a, h (A.mul i a) = B.mul i (h a)

variable {α β : Type} {A : Alg α} {B : Alg β} {h : α → β}

theorem hom_fft2_1 (hh : Hom A B h) (sk : Bool) (m : Nat) (x y : α) :
    h (fft2 A sk m x y).1 = (fft2 B sk m (h x) (h y)).1 := by
  unfold fft2; cases sk <;> simp [hh.xor, hh.mul]
theorem hom_fft2_2 (hh : Hom A B h) (sk : Bool) (m : Nat) (x y : α) :
    h (fft2 A sk m x y).2 = (fft2 B sk m (h x) (h y)).2 := by
  unfold fft2; cases sk <;> simp [hh.xor, hh.mul]
theorem hom_ifft2_1 (hh : Hom A B h) (sk : Bool) (m : Nat) (x y : α) :
    h (ifft2 A sk m x y).1 = (ifft2 B sk m (h x) (h y)).1 := by
  unfold ifft2; cases sk <;> simp [hh.xor, hh.mul]
theorem hom_ifft2_2 (hh : Hom A B h) (sk : Bool) (m : Nat) (x y : α) :
    h (ifft2 A sk m x y).2 = (ifft2 B sk m (h x) (h y)).2 := by
  unfold ifft2; cases sk <;> simp [hh.xor]

theorem hom_sel2 (h : α → β) (k : Nat) (t : α × α) : h (sel2 k t) = sel2 k (h t.1, h t.2) := by
  unfold sel2; split <;> rfl

theorem hom_sel4 (h : α → β) (k : Nat) (t : α × α × α × α) : h (sel4 k t) = sel4 k (h t.1, h t.2.1, h t.2.2.1, h t.2.2.2) := by
  unfold sel4; split <;> rfl

theorem hom_bf2 (hh : Hom A B h) (flag sk : Bool) (m : Nat) (x y : α) (k : Nat) :
    h (sel2 k ((if flag then ifft2 else fft2) A sk m x y)) =
      sel2 k ((if flag then ifft2 else fft2) B sk m (h x) (h y)) := by
  rw [hom_sel2 h]
  cases flag
  · simp only [Bool.false_eq_true, if_false, hom_fft2_1 hh, hom_fft2_2 hh]
  · simp only [if_true, hom_ifft2_1 hh, hom_ifft2_2 hh]

theorem hom_bf4 (hh : Hom A B h) (flag : Bool) (mask : Nat) (w0 w1 w2 w3 : α) (k : Nat) :
    h (sel4 k ((if flag then ifft4 else fft4) A mask w0 w1 w2 w3)) =
      sel4 k ((if flag then ifft4 else fft4) B mask (h w0) (h w1) (h w2) (h w3)) := by
  rw [hom_sel4 h]
  cases flag
  · simp only [Bool.false_eq_true, if_false, fft4, hom_fft2_1 hh, hom_fft2_2 hh]
  · simp only [if_true, ifft4, hom_ifft2_1 hh, hom_ifft2_2 hh]

/-- GF(2^8) product by the constant whose 32-byte table (`multiply256LUT8[log_m]`: low-nibble
products, then high-nibble products) is table `t` -/
def lut8 (m0 : Region → Nat → Nat) (t b : Nat) : Nat :=
  m0 (.tab t) (b &&& 15) ^^^ m0 (.tab t) (16 + (b >>> 4))

def algB8 (m0 : Region → Nat → Nat) : Alg Nat := ⟨(· ^^^ ·), lut8 m0⟩

/-- GF(2^8) product as `GF2P8AFFINEQB` with the matrix words passed in the frame (`t01`, `t23`, `t02`) -/
def algB8gfni (mat : Nat → Nat) : Alg Nat := ⟨(· ^^^ ·), fun i b => affineByte (mat i) b⟩

/-- one byte of a GF(2^16) product by the constant whose 128-byte table (`multiply256LUT[log_m]`) is
table `t`: the four nibbles of the symbol index four 16-byte tables starting at `base` -/
def lut16 (m0 : Region → Nat → Nat) (t base lo hi : Nat) : Nat :=
  m0 (.tab t) (base + (lo &&& 15)) ^^^ m0 (.tab t) (base + 16 + (lo >>> 4)) ^^^
  m0 (.tab t) (base + 32 + (hi &&& 15)) ^^^ m0 (.tab t) (base + 48 + (hi >>> 4))

/-- GF(2^16) symbols as (low byte, high byte) -/
def algB16 (m0 : Region → Nat → Nat) : Alg (Nat × Nat) :=
  ⟨fun a b => (a.1 ^^^ b.1, a.2 ^^^ b.2), fun i x => (lut16 m0 i 0 x.1 x.2, lut16 m0 i 64 x.1 x.2)⟩

theorem hom8 (c : Ctx) (base q : Nat) : Hom algE8 (algB8 c.m0) (evalE c base q) where
  xor := fun _ _ => rfl
  mul := fun i a => by simp [algE8, algB8, lut8, evalE, nib]

theorem hom8gfni (c : Ctx) (base q : Nat) :
    Hom algE8gfni (algB8gfni fun i => c.immq (32 + 8 * i)) (evalE c base q) where
  xor := fun _ _ => rfl
  mul := fun i a => by simp [algE8gfni, algB8gfni, evalE, affineB_byteAt]

def ev2 (c : Ctx) (base q : Nat) (x : E × E) : Nat × Nat := (evalE c base q x.1, evalE c base q x.2)

theorem hom16 (c : Ctx) (base q : Nat) : Hom algE16 (algB16 c.m0) (ev2 c base q) where
  xor := fun _ _ => rfl
  mul := fun i a => by
    simp only [ev2, algE16, algB16, look16, lut16, evalE, nib, Bool.false_eq_true, if_false, if_true,
      Nat.zero_add]

theorem pos_decomp {B w : Nat} (hB : w * (B / w) = B) (p : Nat) :
    p / B * B + p % B / w * w + p % w = p := by
  have hdvd : w ∣ B := ⟨B / w, hB.symm⟩
  have h1 := Nat.div_add_mod p B
  have h2 := Nat.div_add_mod (p % B) w
  rw [Nat.mod_mod_of_dvd p hdvd] at h2
  rw [Nat.mul_comm (p / B), Nat.mul_comm (p % B / w)]
  omega

theorem pos64_32 (p : Nat) : p / 64 * 64 + p % 64 / 32 * 32 + p % 32 = p := pos_decomp (B := 64) (w := 32) rfl p
theorem pos64_64 (p : Nat) : p / 64 * 64 + p % 64 / 64 * 64 + p % 64 = p := pos_decomp (B := 64) (w := 64) rfl p
theorem pos64_16 (p : Nat) : p / 64 * 64 + p % 64 / 16 * 16 + p % 16 = p := pos_decomp (B := 64) (w := 16) rfl p

end RSV.Asm.Leo
