import RSV.Model.LeoTables
import RSV.Proofs.ArrayBasics
import Mathlib.Logic.Function.Iterate
/-!
# `initLUTs P` as folds, and the loop invariants they need (any parameters)

* `initLUTs_eq`: the `Id.run do` block of `Leo.initLUTs P` is, literally, a composition of five
  `List.foldl`s over `List.range'` (`lfsr`, `exp1`, `log2`, `log3`, `exp4`);
* `lfsr_fold`: the LFSR loop threads the state independently of the table: it is a fold of
  `set! (step^[i] 1) i`;
* `foldl_setg_*`: a fold of `set! (g i) (h i)`: untouched positions keep their value, a position
  written once holds that value;
* `foldl_map_get`: `for i in [0:n] do b := b.set! i (F b[i]!)` is a pointwise map on `[0,n)`;
* `cantor_loop`: the doubling loop computes any function `cm` with `cm 0 = 0` and
  `cm (j + 2^i) = cm j ^^^ cb[i]` (`j < 2^i`).
-/
namespace RSV.Proofs.Leo16
open RSV.Model

/-- one LFSR step of `initLUTs` -/
def step (P : Leo.Params) (s : Nat) : Nat :=
  if s <<< 1 ≥ P.order then s <<< 1 ^^^ P.poly else s <<< 1

/-- loop 1 (table and final state) -/
def lfsr (P : Leo.Params) : Array Nat × Nat :=
  (List.range' 0 P.modulus).foldl (fun s i => (s.1.set! s.2 i, step P s.2))
    (Array.replicate P.order 0, 1)

/-- `exp` after loop 1 and `exp[0] = modulus` -/
def exp1 (P : Leo.Params) : Array Nat := (lfsr P).1.set! 0 P.modulus

/-- `log` after the Cantor doubling loop -/
def log2 (P : Leo.Params) : Array Nat :=
  (List.range' 0 P.bits).foldl (fun b a =>
    (List.range' 0 (1 <<< a)).foldl (fun b j => b.set! (j + 1 <<< a) (b[j]! ^^^ P.cantor[a]!)) b)
    (Array.replicate P.order 0)

/-- `log` after `log[i] := exp[log[i]]` (the final `log`) -/
def log3 (P : Leo.Params) : Array Nat :=
  (List.range' 0 P.order).foldl (fun b a => b.set! a (exp1 P)[b[a]!]!) (log2 P)

/-- `exp` after `exp[log[i]] := i` -/
def exp4 (P : Leo.Params) : Array Nat :=
  (List.range' 0 P.order).foldl (fun b a => b.set! (log3 P)[a]! a) (exp1 P)

/-- the final `exp` -/
def exp5 (P : Leo.Params) : Array Nat := (exp4 P).set! P.modulus (exp4 P)[0]!

end RSV.Proofs.Leo16

namespace RSV.Proofs.LeoPres
open RSV.Model RSV.Proofs.Leo16 RSV.Proofs.Arr

theorem initLUTs_eq (P : Leo.Params) : Leo.initLUTs P = ⟨log3 P, exp5 P⟩ := by
  unfold Leo.initLUTs
  have hf : (fun (i : Nat) (s : Array Nat × Nat) =>
      (if s.snd <<< 1 ≥ P.order then
        pure (ForInStep.yield (s.fst.set! s.snd i, s.snd <<< 1 ^^^ P.poly))
      else pure (ForInStep.yield (s.fst.set! s.snd i, s.snd <<< 1)) :
        Id (ForInStep (Array Nat × Nat)))) =
      fun i s => pure (ForInStep.yield (s.fst.set! s.snd i, step P s.snd)) := by
    funext i s; unfold step; split <;> rfl
  simp only [Std.Legacy.Range.forIn_eq_forIn_range', Std.Legacy.Range.size, hf,
    List.forIn_pure_yield_eq_foldl, pure_bind, Id.run_pure, Nat.sub_zero,
    Nat.add_one_sub_one, Nat.div_one]
  rfl

theorem lfsr_fold (f : Nat → Nat) (e0 : Array Nat) (s0 : Nat) (n : Nat) :
    (List.range' 0 n).foldl (fun (s : Array Nat × Nat) i => (s.1.set! s.2 i, f s.2)) (e0, s0) =
      ((List.range' 0 n).foldl (fun e i => e.set! (f^[i] s0) i) e0, f^[n] s0) := by
  induction n with
  | zero => rfl
  | succ n ih =>
    rw [List.range'_1_concat, List.foldl_append, List.foldl_append, ih]
    simp only [List.foldl_cons, List.foldl_nil, Nat.zero_add, Function.iterate_succ_apply']

theorem foldl_setg_size (g h : Nat → Nat) (l : List Nat) : ∀ t : Array Nat,
    (l.foldl (fun b x => b.set! (g x) (h x)) t).size = t.size := by
  induction l with
  | nil => intro t; rfl
  | cons y l ih => intro t; simp only [List.foldl_cons]; rw [ih]; simp

theorem foldl_setg_skip (g h : Nat → Nat) (j : Nat) (l : List Nat) (hj : ∀ x ∈ l, g x ≠ j) :
    ∀ t : Array Nat, (l.foldl (fun b x => b.set! (g x) (h x)) t)[j]! = t[j]! := by
  induction l with
  | nil => intro t; rfl
  | cons y l ih =>
    intro t
    simp only [List.foldl_cons]
    rw [ih (fun x hx => hj x (List.mem_cons_of_mem _ hx))]
    exact get!_set!_ne t _ _ _ (hj y List.mem_cons_self)

/-- a position all of whose writers agree on the value `h x` holds `h x` -/
theorem foldl_setg_hit (g h : Nat → Nat) (l : List Nat) : ∀ (x : Nat), x ∈ l →
    (∀ y ∈ l, g y = g x → h y = h x) → ∀ t : Array Nat, g x < t.size →
    (l.foldl (fun b x => b.set! (g x) (h x)) t)[g x]! = h x := by
  induction l with
  | nil => intro x hx; cases hx
  | cons y l ih =>
    intro x hx huniq t ht
    simp only [List.foldl_cons]
    by_cases hyl : ∃ z ∈ l, g z = g x
    · obtain ⟨z, hz, hgz⟩ := hyl
      have hhz := huniq z (List.mem_cons_of_mem _ hz) hgz
      have := ih z hz (fun w hw hgw => by
          rw [huniq w (List.mem_cons_of_mem _ hw) (hgw.trans hgz), hhz]) (t.set! (g y) (h y))
          (by rw [hgz]; simpa using ht)
      rw [hgz, hhz] at this
      exact this
    · have hxy : x = y := by
        rcases List.mem_cons.mp hx with h' | h'
        · exact h'
        · exact absurd ⟨x, h', rfl⟩ hyl
      subst hxy
      rw [foldl_setg_skip g h (g x) l (fun z hz hgz => hyl ⟨z, hz, hgz⟩)]
      exact get!_set!_self t _ _ ht

theorem foldl_map_get (F : Nat → Nat) (b0 : Array Nat) (n : Nat) (hn : n ≤ b0.size) :
    ((List.range' 0 n).foldl (fun b a => b.set! a (F b[a]!)) b0).size = b0.size ∧
    ∀ i, ((List.range' 0 n).foldl (fun b a => b.set! a (F b[a]!)) b0)[i]! =
      if i < n then F b0[i]! else b0[i]! := by
  induction n with
  | zero => exact ⟨rfl, fun i => by simp⟩
  | succ n ih =>
    obtain ⟨hs, hg⟩ := ih (by omega)
    rw [List.range'_1_concat, List.foldl_append]
    simp only [List.foldl_cons, List.foldl_nil, Nat.zero_add]
    refine ⟨by simpa using hs, fun i => ?_⟩
    by_cases hin : n = i
    · subst hin
      rw [get!_set!_self _ _ _ (by omega), hg, if_neg (by omega), if_pos (by omega)]
    · rw [get!_set!_ne _ _ _ _ hin, hg]
      by_cases h1 : i < n
      · rw [if_pos h1, if_pos (by omega)]
      · rw [if_neg h1, if_neg (by omega)]

theorem cantor_inner (c w : Nat) (b0 : Array Nat) (m : Nat) (hm : m ≤ w) (hb : w + m ≤ b0.size) :
    ((List.range' 0 m).foldl (fun b j => b.set! (j + w) (b[j]! ^^^ c)) b0).size = b0.size ∧
    ∀ i, ((List.range' 0 m).foldl (fun b j => b.set! (j + w) (b[j]! ^^^ c)) b0)[i]! =
      if w ≤ i ∧ i < w + m then b0[i - w]! ^^^ c else b0[i]! := by
  induction m with
  | zero => exact ⟨rfl, fun i => by rw [if_neg (by omega)]; rfl⟩
  | succ m ih =>
    obtain ⟨hs, hg⟩ := ih (by omega) (by omega)
    rw [List.range'_1_concat, List.foldl_append]
    simp only [List.foldl_cons, List.foldl_nil, Nat.zero_add]
    refine ⟨by simpa using hs, fun i => ?_⟩
    by_cases hin : m + w = i
    · subst hin
      rw [get!_set!_self _ _ _ (by omega), hg m, if_neg (by omega), if_pos (by omega)]
      congr 2; omega
    · rw [get!_set!_ne _ _ _ _ hin, hg]
      by_cases h1 : w ≤ i ∧ i < w + m
      · rw [if_pos h1, if_pos (by omega)]
      · rw [if_neg h1, if_neg (by omega)]

theorem cantor_loop (cb : Array Nat) (cm : Nat → Nat) (N bits : Nat) (hN : 2 ^ bits ≤ N)
    (h0 : cm 0 = 0) (hs : ∀ i, i < bits → ∀ j, j < 2 ^ i → cm (j + 2 ^ i) = cm j ^^^ cb[i]!) :
    ∀ n, n ≤ bits →
      ((List.range' 0 n).foldl (fun b a =>
        (List.range' 0 (1 <<< a)).foldl (fun b j => b.set! (j + 1 <<< a) (b[j]! ^^^ cb[a]!)) b)
        (Array.replicate N 0)).size = N ∧
      ∀ j, j < 2 ^ n → ((List.range' 0 n).foldl (fun b a =>
        (List.range' 0 (1 <<< a)).foldl (fun b j => b.set! (j + 1 <<< a) (b[j]! ^^^ cb[a]!)) b)
        (Array.replicate N 0))[j]! = cm j := by
  intro n
  induction n with
  | zero =>
    intro _
    refine ⟨by simp, fun j hj => ?_⟩
    have : j = 0 := by simpa using hj
    subst this
    have hpos : 0 < N := Nat.lt_of_lt_of_le (Nat.two_pow_pos bits) hN
    rw [h0]; exact get!_replicate N 0 0 hpos
  | succ n ih =>
    intro hn
    obtain ⟨hsz, hg⟩ := ih (by omega)
    rw [List.range'_1_concat, List.foldl_append]
    simp only [List.foldl_cons, List.foldl_nil, Nat.zero_add]
    rw [Nat.one_shiftLeft]
    have hle : 2 ^ (n + 1) ≤ N := Nat.le_trans (Nat.pow_le_pow_right (by decide) hn) hN
    rw [Nat.pow_succ] at hle
    generalize List.foldl _ (Array.replicate N 0) (List.range' 0 n) = b at hsz hg ⊢
    obtain ⟨hsz', hg'⟩ := cantor_inner cb[n]! (2 ^ n) b (2 ^ n) (Nat.le_refl _) (by omega)
    rw [hsz] at hsz'
    refine ⟨hsz', fun j hj => ?_⟩
    rw [Nat.pow_succ] at hj
    rw [hg' j]
    by_cases hjw : 2 ^ n ≤ j
    · rw [if_pos ⟨hjw, by omega⟩, hg _ (by omega), ← hs n (by omega) _ (by omega)]
      congr 1; omega
    · rw [if_neg (by omega)]; exact hg j (by omega)

end RSV.Proofs.LeoPres
