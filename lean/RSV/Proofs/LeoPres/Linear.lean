import RSV.Proofs.LeoPres
import RSV.Proofs.LeoSchedBounded
/-! Where the table theory (`LeoPres`) meets the schedule theory (`MulLinearOn`); imported only by the modules that need both. -/
namespace RSV.Proofs.LeoPres
open RSV.Model RSV.Proofs.LeoSched
variable {P Pinv : Leo.Params} {k : Nat} (H : LeoPres P Pinv k)
include H

/-- the bounded algebraic hypothesis of the schedule theorems holds for the real tables -/
theorem mulLinearOn : MulLinearOn (Leo.mkCtx P) (2 ^ k) where
  zero := mulSym_zero (Leo.mkCtx P)
  lt := fun a m _ _ => H.mulLog_lt a m
  xor := fun _ _ _ ha hb hm => H.mulLog_xor ha hb hm
  pow2 := ⟨k, rfl⟩

end RSV.Proofs.LeoPres
