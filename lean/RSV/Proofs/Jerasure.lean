import RSV.Proofs.JerasureInv
import Mathlib.Algebra.CharP.Two
/-!
`buildMatrixJerasure x d total` starts from the Vandermonde matrix over the points
`x 0 … x (total-1)`, overwrites row `0` with `e_0` (the Vandermonde row of the point `0`) and the
last row with `e_(d-1)` (the Vandermonde row of the point at infinity), brings the top square to
the identity by column operations with row pivoting, and finally normalises the first parity
row and the first parity column to all ones.

The modified Vandermonde matrix has every `d` rows independent (a non-zero polynomial of degree
`< d` has fewer than `d` roots; the row at infinity reads off the leading coefficient).  The main
loop keeps `RowsMDS`, never misses a pivot, and after `k` columns the rows `< k` are unit vectors;
this uses characteristic 2, since the Go code adds the multiple of the pivot column.
-/

namespace RSV.Jerasure
open RSV.Model RSV.CodeTheory RSV.Generators Polynomial

section
variable {F : Type} [Field F]

noncomputable def tpoly {d : ℕ} (t : Fin d → F) : F[X] := ∑ c : Fin d, C (t c) * X ^ c.val

theorem tpoly_coeff {d : ℕ} (t : Fin d → F) (m : ℕ) :
    (tpoly t).coeff m = ∑ c : Fin d, (if m = c.val then 1 else 0) * t c := by
  simp only [tpoly, finsetSum_coeff, coeff_C_mul, coeff_X_pow]
  exact Finset.sum_congr rfl fun c _ => mul_comm _ _

theorem tpoly_coeff_lt {d : ℕ} (t : Fin d → F) (c : Fin d) : (tpoly t).coeff c.val = t c := by
  rw [tpoly_coeff, sum_delta c.val c.isLt t]

theorem tpoly_coeff_ge {d : ℕ} (t : Fin d → F) (m : ℕ) (hm : d ≤ m) : (tpoly t).coeff m = 0 := by
  rw [tpoly_coeff]
  apply Finset.sum_eq_zero
  intro c _
  have : m ≠ c.val := by have := c.isLt; omega
  simp [this]

theorem tpoly_eval {d : ℕ} (t : Fin d → F) (z : F) :
    (tpoly t).eval z = ∑ c : Fin d, z ^ c.val * t c := by
  simp only [tpoly, eval_finsetSum, eval_mul, eval_C, eval_pow, eval_X]
  exact Finset.sum_congr rfl fun c _ => mul_comm _ _

theorem tpoly_degree_lt {d : ℕ} (t : Fin d → F) : (tpoly t).degree < (d : WithBot ℕ) := by
  rw [degree_lt_iff_coeff_zero]
  exact fun m hm => tpoly_coeff_ge t m hm

def jerInit (x : ℕ → F) (d total : ℕ) : Mat F total d :=
  Mat.ofFn fun r c =>
    if r.val = 0 then (if c.val = 0 then 1 else 0)
    else if r.val = total - 1 then (if c.val = d - 1 then 1 else 0)
    else (vandermonde x total d).get r c

def jerNorm1 {d total : ℕ} (h : d < total) (A : Mat F total d) : Mat F total d :=
  Mat.ofFn fun i j => if d ≤ i.val then A.get i j * (A.get ⟨d, h⟩ j)⁻¹ else A.get i j

def jerNorm2 {d total : ℕ} (hd : 0 < d) (A : Mat F total d) : Mat F total d :=
  Mat.ofFn fun i j => if d < i.val then A.get i j * (A.get i ⟨0, hd⟩)⁻¹ else A.get i j

theorem jerInit_fin (x : ℕ → F) (hx0 : x 0 = 0) (d total : ℕ) (r : Fin total) (c : Fin d)
    (hr : r.val < total - 1) : (jerInit x d total).get r c = x r.val ^ c.val := by
  simp only [jerInit, Mat.get_ofFn, vandermonde_get]
  by_cases h0 : r.val = 0
  · rw [if_pos h0, h0, hx0, zero_pow_eq]
  · rw [if_neg h0, if_neg (by omega)]

theorem jerInit_last (x : ℕ → F) (d total : ℕ) (r : Fin total) (c : Fin d)
    (hr : r.val = total - 1) (ht : 1 < total) :
    (jerInit x d total).get r c = if d - 1 = c.val then 1 else 0 := by
  simp only [jerInit, Mat.get_ofFn]
  rw [if_neg (by omega), if_pos hr]
  by_cases hc : c.val = d - 1
  · rw [if_pos hc, if_pos hc.symm]
  · rw [if_neg hc, if_neg (Ne.symm hc)]

theorem rowsMDS_jerInit (x : ℕ → F) (d total : ℕ) (hd : 0 < d) (h : d < total) (hx0 : x 0 = 0)
    (hinj : ∀ a b, a < total - 1 → b < total - 1 → x a = x b → a = b) :
    RowsMDS (jerInit x d total) := by
  intro S hS t h0
  have hg : tpoly t = 0 := by
    refine eq_zero_of_roots_with_infinity _ (tpoly_degree_lt t) S hS (fun i => x i.val)
      (fun i => i.val = total - 1) ?_ (fun a _ b _ ha hb => Fin.ext (ha.trans hb.symm)) ?_ ?_
    · intro a _ b _ ha hb hab
      exact Fin.ext (hinj _ _ (by have := a.isLt; omega) (by have := b.isLt; omega) hab)
    · intro i hi hfin
      have hlt : i.val < total - 1 := by have := i.isLt; omega
      rw [tpoly_eval, ← h0 i hi]
      exact Finset.sum_congr rfl fun c _ => by rw [jerInit_fin x hx0 d total i c hlt]
    · -- the last row reads off the coefficient of `X^(d-1)`
      intro i hi hlast
      have := h0 i hi
      simp only [jerInit_last x d total i _ hlast (by omega)] at this
      rw [sum_delta (d - 1) (by omega) t] at this
      rw [← this]
      exact tpoly_coeff_lt t ⟨d - 1, by omega⟩
  funext c
  rw [← tpoly_coeff_lt t c, hg]
  simp

theorem colScale_inv_of_eq_one {n m : ℕ} (A : Mat F n m) (c : Fin m) (s : F) (hs : s = 1) :
    colScale A c s⁻¹ = A := by
  apply Mat.ext_get
  intro i j
  simp [colScale, hs]

theorem topUnit_colElim [CharP F 2] {n d : ℕ} {A : Mat F n d} (i : Fin d) (iRow : Fin n)
    (hi : iRow.val = i.val) (hT : TopUnit i.val A) (hone : A.get iRow i = 1) :
    TopUnit (i.val + 1) (colElim A i (fun j => A.get iRow j)) := by
  intro r c hr
  simp only [colElim, Mat.get_ofFn]
  rcases Nat.lt_succ_iff_lt_or_eq.mp hr with hlt | heq
  · have hz : A.get r i = 0 := by
      rw [hT r i hlt]
      have : r.val ≠ i.val := by omega
      simp [this]
    rw [hz, mul_zero, add_zero, ite_self]
    exact hT r c hlt
  · have : r = iRow := Fin.ext (by omega)
    subst this
    by_cases hc : c = i
    · subst hc
      rw [if_pos rfl, hone, if_pos hi]
    · have hne : r.val ≠ c.val := fun e => hc (Fin.ext (by omega))
      rw [if_neg hc, hone, mul_one, CharTwo.add_self_eq_zero, if_neg hne]

theorem jerNorm1_inv {total d : ℕ} (h : d < total) (A : Mat F total d) (hM : RowsMDS A)
    (hT : TopUnit d A) :
    RowsMDS (jerNorm1 h A) ∧ TopUnit d (jerNorm1 h A) ∧
      ∀ c, (jerNorm1 h A).get ⟨d, h⟩ c = 1 := by
  have hne : ∀ c, A.get ⟨d, h⟩ c ≠ 0 :=
    fun c => rowsMDS_entry_ne_zero hM hT (Nat.le_of_lt h) ⟨d, h⟩ (le_refl _) c
  have hT' : TopUnit d (jerNorm1 h A) := by
    intro r c hr
    simp only [jerNorm1, Mat.get_ofFn]
    rw [if_neg (by omega)]
    exact hT r c hr
  refine ⟨?_, hT', ?_⟩
  · refine hM.transfer id Function.injective_id (fun t j => (A.get ⟨d, h⟩ j)⁻¹ * t j) ?_ ?_
    · intro t ht
      funext j
      have := congrFun ht j
      exact (mul_eq_zero.mp this).resolve_left (inv_ne_zero (hne j))
    · intro r t h0
      simp only [id]
      by_cases hr : d ≤ r.val
      · refine Eq.trans (Finset.sum_congr rfl fun j _ => ?_) h0
        simp only [jerNorm1, Mat.get_ofFn, if_pos hr]
        ring
      · have hr' : r.val < d := by omega
        rw [hT'.dot r hr' hr' t] at h0
        rw [hT.dot r hr' hr' _, h0, mul_zero]
  · intro c
    simp only [jerNorm1, Mat.get_ofFn, le_refl, if_true]
    exact mul_inv_cancel₀ (hne c)

theorem jerNorm2_inv {total d : ℕ} (hd : 0 < d) (h : d < total) (A : Mat F total d)
    (hM : RowsMDS A) (hT : TopUnit d A) (hrow : ∀ c, A.get ⟨d, h⟩ c = 1) :
    RowsMDS (jerNorm2 hd A) ∧ TopUnit d (jerNorm2 hd A) ∧
      (∀ c, (jerNorm2 hd A).get ⟨d, h⟩ c = 1) ∧
      (∀ r : Fin total, d ≤ r.val → (jerNorm2 hd A).get r ⟨0, hd⟩ = 1) := by
  have hne : ∀ r : Fin total, d ≤ r.val → A.get r ⟨0, hd⟩ ≠ 0 :=
    fun r hr => rowsMDS_entry_ne_zero hM hT (Nat.le_of_lt h) r hr _
  refine ⟨?_, ?_, ?_, ?_⟩
  · refine hM.transfer id Function.injective_id id (fun t ht => ht) ?_
    intro r t h0
    simp only [id]
    by_cases hr : d < r.val
    · have : ∑ c, (jerNorm2 hd A).get r c * t c
          = (∑ c, A.get r c * t c) * (A.get r ⟨0, hd⟩)⁻¹ := by
        rw [Finset.sum_mul]
        refine Finset.sum_congr rfl fun c _ => ?_
        simp only [jerNorm2, Mat.get_ofFn, if_pos hr]
        ring
      rw [this] at h0
      exact (mul_eq_zero.mp h0).resolve_right (inv_ne_zero (hne r (Nat.le_of_lt hr)))
    · refine Eq.trans (Finset.sum_congr rfl fun c _ => ?_) h0
      simp only [jerNorm2, Mat.get_ofFn, if_neg hr]
  · intro r c hr
    simp only [jerNorm2, Mat.get_ofFn]
    rw [if_neg (by omega)]
    exact hT r c hr
  · intro c
    simp only [jerNorm2, Mat.get_ofFn, lt_irrefl, if_false]
    exact hrow c
  · intro r hr
    simp only [jerNorm2, Mat.get_ofFn]
    by_cases hr' : d < r.val
    · rw [if_pos hr']
      exact mul_inv_cancel₀ (hne r hr)
    · rw [if_neg hr']
      have : r = ⟨d, h⟩ := Fin.ext (by simp only; omega)
      rw [this]
      exact hrow _

variable [DecidableEq F]

theorem buildMatrixJerasure_eq (x : ℕ → F) (d total : ℕ) (h : d < total) (hd : 0 < d) :
    buildMatrixJerasure x d total h hd
      = jerNorm2 hd (jerNorm1 h (jerasureLoop (Nat.le_of_lt h) (jerInit x d total) d
          (Nat.le_refl d))) := rfl

/-- the loop body once the pivot search has returned `r`: swap, scale column `i` by the inverse pivot,
eliminate (the `if piv ≠ 1` guard only skips a multiplication by `1`) -/
theorem jerasureStep_of_find {total d : ℕ} (h : d ≤ total) (i : Fin d) (vm : Mat F total d)
    (r : Fin total)
    (hq : findFirst (fun r : Fin total => decide (i.val ≤ r.val) && decide (vm.get r i ≠ 0))
      = some r) :
    let iRow : Fin total := ⟨i.val, Nat.lt_of_lt_of_le i.isLt h⟩
    let vm1 := rowSwap vm iRow r
    let vm2 := colScale vm1 i (vm1.get iRow i)⁻¹
    jerasureStep h i vm = colElim vm2 i (fun j => vm2.get iRow j) := by
  intro iRow vm1 vm2
  unfold jerasureStep
  simp only [hq]
  split_ifs with hp
  · rfl
  · rw [show vm2 = vm1 from colScale_inv_of_eq_one _ _ _ (not_not.mp hp)]

theorem jerasureStep_inv [CharP F 2] {total d : ℕ} (h : d ≤ total) (i : Fin d)
    (vm : Mat F total d) (hM : RowsMDS vm) (hT : TopUnit i.val vm) :
    (findFirst (fun r : Fin total => decide (i.val ≤ r.val) && decide (vm.get r i ≠ 0))).isSome ∧
    RowsMDS (jerasureStep h i vm) ∧ TopUnit (i.val + 1) (jerasureStep h i vm) := by
  obtain ⟨r0, hr0⟩ := rowsMDS_no_zero_column hM h i
  have hr0i : i.val ≤ r0.val := by
    by_contra hlt
    apply hr0
    rw [hT r0 i (by omega)]
    have : r0.val ≠ i.val := by omega
    simp [this]
  cases hq : findFirst (fun r : Fin total => decide (i.val ≤ r.val) && decide (vm.get r i ≠ 0)) with
  | none =>
    have := findFirst_none hq r0
    simp [hr0i, hr0] at this
  | some r =>
    have hr := findFirst_some hq
    simp only [Bool.and_eq_true, decide_eq_true_eq] at hr
    let iRow : Fin total := ⟨i.val, Nat.lt_of_lt_of_le i.isLt h⟩
    have hpiv : (rowSwap vm iRow r).get iRow i ≠ 0 := by
      simp only [rowSwap, Mat.get_ofFn, swapIdx_left]
      exact hr.2
    have hM2 := rowsMDS_colScale (rowsMDS_rowSwap hM iRow r) i _ (inv_ne_zero hpiv)
    have hT2 := topUnit_colScale (topUnit_rowSwap hT iRow r (le_refl _) hr.1) i
      ((rowSwap vm iRow r).get iRow i)⁻¹ (le_refl _)
    rw [jerasureStep_of_find h i vm r hq]
    refine ⟨rfl, rowsMDS_colElim hM2 i _, topUnit_colElim i iRow rfl hT2 ?_⟩
    simp only [colScale, Mat.get_ofFn, if_true]
    exact mul_inv_cancel₀ hpiv

theorem jerasureLoop_inv [CharP F 2] {total d : ℕ} (h : d ≤ total) (vm : Mat F total d)
    (hM : RowsMDS vm) : ∀ (k : ℕ) (hk : k ≤ d),
    RowsMDS (jerasureLoop h vm k hk) ∧ TopUnit k (jerasureLoop h vm k hk)
  | 0, _ => ⟨hM, fun _ _ hr => absurd hr (Nat.not_lt_zero _)⟩
  | k+1, hk => by
    have ih := jerasureLoop_inv h vm hM k (Nat.le_of_succ_le hk)
    exact (jerasureStep_inv h ⟨k, hk⟩ _ ih.1 ih.2).2

/-- the pivot search of iteration `k` never fails (the Go loop does not index out of range) -/
theorem jerasureLoop_pivot [CharP F 2] {total d : ℕ} (h : d ≤ total) (vm : Mat F total d)
    (hM : RowsMDS vm) (k : ℕ) (hk : k < d) :
    (findFirst (fun r : Fin total => decide (k ≤ r.val) &&
      decide ((jerasureLoop h vm k (Nat.le_of_lt hk)).get r ⟨k, hk⟩ ≠ 0))).isSome := by
  have ih := jerasureLoop_inv h vm hM k (Nat.le_of_lt hk)
  exact (jerasureStep_inv h ⟨k, hk⟩ _ ih.1 ih.2).1

/-- `hinj` stops at `total - 2`: the last row is the point at infinity. -/
theorem buildMatrixJerasure_rowsMDS [CharP F 2] (x : ℕ → F) (d total : ℕ) (h : d < total)
    (hd : 0 < d) (hx0 : x 0 = 0)
    (hinj : ∀ a b, a < total - 1 → b < total - 1 → x a = x b → a = b) :
    RowsMDS (buildMatrixJerasure x d total h hd) ∧
    TopUnit d (buildMatrixJerasure x d total h hd) ∧
    (∀ c, (buildMatrixJerasure x d total h hd).get ⟨d, h⟩ c = 1) ∧
    (∀ r : Fin total, d ≤ r.val → (buildMatrixJerasure x d total h hd).get r ⟨0, hd⟩ = 1) := by
  rw [buildMatrixJerasure_eq]
  have h0 := rowsMDS_jerInit x d total hd h hx0 hinj
  have h1 := jerasureLoop_inv (Nat.le_of_lt h) _ h0 d (Nat.le_refl d)
  have h2 := jerNorm1_inv h _ h1.1 h1.2
  exact jerNorm2_inv hd h _ h2.1 h2.2.1 h2.2.2

theorem buildMatrixJerasure_mds [CharP F 2] (x : ℕ → F) (d p : ℕ) (hd : 0 < d) (hp : 0 < p)
    (hx0 : x 0 = 0)
    (hinj : ∀ a b, a < d + p - 1 → b < d + p - 1 → x a = x b → a = b) :
    (∀ (r : Fin (d + p)) (c : Fin d), r.val < d →
      (buildMatrixJerasure x d (d + p) (by omega) hd).get r c = if r.val = c.val then 1 else 0) ∧
    MDS (fun r c => (parityPart p rfl (buildMatrixJerasure x d (d + p) (by omega) hd)).get r c) ∧
    (∀ c, (buildMatrixJerasure x d (d + p) (by omega) hd).get ⟨d, by omega⟩ c = 1) ∧
    (∀ r : Fin (d + p), d ≤ r.val →
      (buildMatrixJerasure x d (d + p) (by omega) hd).get r ⟨0, hd⟩ = 1) := by
  obtain ⟨hM, hT, hrow, hcol⟩ :=
    buildMatrixJerasure_rowsMDS x d (d + p) (by omega) hd hx0 hinj
  exact ⟨hT, rowsMDS_mds hM hT, hrow, hcol⟩

/-- the pivot search of the main loop never fails: the `none` branch of the model (where the Go
code would index out of range) is dead -/
theorem buildMatrixJerasure_pivot [CharP F 2] (x : ℕ → F) (d total : ℕ) (h : d < total)
    (hd : 0 < d) (hx0 : x 0 = 0)
    (hinj : ∀ a b, a < total - 1 → b < total - 1 → x a = x b → a = b) (k : ℕ) (hk : k < d) :
    (findFirst (fun r : Fin total => decide (k ≤ r.val) &&
      decide ((jerasureLoop (Nat.le_of_lt h) (jerInit x d total) k (Nat.le_of_lt hk)).get r
        ⟨k, hk⟩ ≠ 0))).isSome :=
  jerasureLoop_pivot _ _ (rowsMDS_jerInit x d total hd h hx0 hinj) k hk

end
end RSV.Jerasure

#print axioms RSV.Jerasure.rowsMDS_jerInit
#print axioms RSV.Jerasure.jerasureStep_inv
#print axioms RSV.Jerasure.jerasureLoop_inv
#print axioms RSV.Jerasure.buildMatrixJerasure_rowsMDS
#print axioms RSV.Jerasure.buildMatrixJerasure_mds
#print axioms RSV.Jerasure.buildMatrixJerasure_pivot
