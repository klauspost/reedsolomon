import RSV.Model.Dispatch

/-!
# Lemmas on `Chain`, `splitLoop`, `workerRanges`, `scalarRounds`, `execPieces` (core Lean only)

`Chain ps a b`: the pieces `ps` are consecutive and lead from `a` to `b`.  So every offset of
`[a, b)` lies in exactly one piece, and `evalPieces f ps` is `f` over the whole range: each byte
is computed once.  Each splitting loop of the Go code is shown to produce a `Chain`.
-/

namespace RSV.Proofs.Dispatch
open RSV.Model.Dispatch

theorem chain_nil {a b : Nat} : Chain [] a b ↔ a = b := Iff.rfl

theorem chain_cons {s e : Nat} {rest : List Piece} {a b : Nat} :
    Chain ((s, e) :: rest) a b ↔ s = a ∧ s ≤ e ∧ Chain rest e b := Iff.rfl

instance decChain : ∀ (ps : List Piece) (a b : Nat), Decidable (Chain ps a b)
  | [], a, b => inferInstanceAs (Decidable (a = b))
  | (s, e) :: rest, a, b =>
    have := decChain rest e b
    inferInstanceAs (Decidable (s = a ∧ s ≤ e ∧ Chain rest e b))

theorem chain_le : ∀ (ps : List Piece) (a b : Nat), Chain ps a b → a ≤ b
  | [], a, b, h => by rw [chain_nil] at h; omega
  | (s, e) :: rest, a, b, h => by
    obtain ⟨h1, h2, h3⟩ := chain_cons.1 h
    have := chain_le rest e b h3
    omega

theorem chain_append : ∀ (ps qs : List Piece) (a b c : Nat),
    Chain ps a b → Chain qs b c → Chain (ps ++ qs) a c
  | [], qs, a, b, c, h1, h2 => by rw [chain_nil] at h1; subst h1; simpa using h2
  | (s, e) :: rest, qs, a, b, c, h1, h2 => by
    obtain ⟨h1a, h1b, h1c⟩ := chain_cons.1 h1
    exact chain_cons.2 ⟨h1a, h1b, chain_append rest qs e b c h1c h2⟩

theorem chain_mem_bounds : ∀ (ps : List Piece) (a b : Nat), Chain ps a b →
    ∀ p ∈ ps, a ≤ p.1 ∧ p.1 ≤ p.2 ∧ p.2 ≤ b
  | [], _, _, _, p, hp => by cases hp
  | (s, e) :: rest, a, b, h, p, hp => by
    obtain ⟨h1, h2, h3⟩ := chain_cons.1 h
    have hle := chain_le rest e b h3
    rcases List.mem_cons.1 hp with rfl | hp
    · simp only; omega
    · have := chain_mem_bounds rest e b h3 p hp
      omega

theorem chain_flatMap (F : Piece → List Piece)
    (hF : ∀ s e : Nat, s ≤ e → Chain (F (s, e)) s e) :
    ∀ (ws : List Piece) (a b : Nat), Chain ws a b → Chain (ws.flatMap F) a b
  | [], a, b, h => by simpa using h
  | (s, e) :: rest, a, b, h => by
    obtain ⟨h1, h2, h3⟩ := chain_cons.1 h
    subst h1
    rw [List.flatMap_cons]
    exact chain_append _ _ s e b (hF s e h2) (chain_flatMap F hF rest e b h3)

theorem chain_pairwise : ∀ (ps : List Piece) (a b : Nat), Chain ps a b →
    ps.Pairwise (fun p q => p.2 ≤ q.1)
  | [], _, _, _ => List.Pairwise.nil
  | (s, e) :: rest, a, b, h => by
    obtain ⟨_, _, h3⟩ := chain_cons.1 h
    refine List.Pairwise.cons ?_ (chain_pairwise rest e b h3)
    intro q hq
    exact (chain_mem_bounds rest e b h3 q hq).1

theorem chain_countP_zero (k : Nat) : ∀ (ps : List Piece) (a b : Nat), Chain ps a b →
    (k < a ∨ b ≤ k) → ps.countP (fun p => decide (p.1 ≤ k ∧ k < p.2)) = 0 := by
  intro ps a b h hk
  rw [List.countP_eq_zero]
  intro p hp
  have := chain_mem_bounds ps a b h p hp
  simp only [decide_eq_true_eq]
  omega

theorem chain_countP_one (k : Nat) : ∀ (ps : List Piece) (a b : Nat), Chain ps a b →
    a ≤ k → k < b → ps.countP (fun p => decide (p.1 ≤ k ∧ k < p.2)) = 1
  | [], a, b, h, h1, h2 => by rw [chain_nil] at h; omega
  | (s, e) :: rest, a, b, h, hk1, hk2 => by
    obtain ⟨h1, h2, h3⟩ := chain_cons.1 h
    subst h1
    by_cases hke : k < e
    · rw [List.countP_cons_of_pos (by simp; omega),
        chain_countP_zero k rest e b h3 (Or.inl hke)]
    · rw [List.countP_cons_of_neg (by simp; omega)]
      exact chain_countP_one k rest e b h3 (by omega) hk2

theorem evalPieces_nil {β : Type} (f : Nat → β) : evalPieces f [] = [] := rfl

theorem evalPieces_cons {β : Type} (f : Nat → β) (s e : Nat) (rest : List Piece) :
    evalPieces f ((s, e) :: rest) = (List.range' s (e - s)).map f ++ evalPieces f rest := by
  simp [evalPieces]

theorem evalPieces_chain {β : Type} (f : Nat → β) : ∀ (ps : List Piece) (a b : Nat),
    Chain ps a b → evalPieces f ps = (List.range' a (b - a)).map f
  | [], a, b, h => by rw [chain_nil] at h; subst h; simp [evalPieces_nil]
  | (s, e) :: rest, a, b, h => by
    obtain ⟨h1, h2, h3⟩ := chain_cons.1 h
    subst h1
    have hle := chain_le rest e b h3
    rw [evalPieces_cons, evalPieces_chain f rest e b h3, ← List.map_append]
    congr 1
    have h1 : e = s + (e - s) := by omega
    have h2 : b - s = (e - s) + (b - e) := by omega
    rw [h2, ← List.range'_append_1, ← h1]

theorem splitLoop_chain (n : Nat) : ∀ (fuel d start : Nat), 0 < d → start ≤ n → n - start < fuel →
    Chain (splitLoop n fuel d start) start n
  | 0, _, _, _, _, hf => by omega
  | fuel + 1, d, start, hd, hs, hf => by
    unfold splitLoop
    by_cases hlt : start < n
    · rw [if_pos hlt]
      simp only
      refine chain_cons.2 ⟨rfl, by omega, ?_⟩
      apply splitLoop_chain n fuel
      · split <;> omega
      · split <;> omega
      · split <;> omega
    · rw [if_neg hlt]
      exact chain_nil.2 (by omega)

theorem splitLoop_aligned (n : Nat) : ∀ (fuel d start : Nat),
    (start < n → start % 64 = 0 ∧ d % 64 = 0) →
    ∀ p ∈ splitLoop n fuel d start, p.1 % 64 = 0 ∧ (p.2 % 64 = 0 ∨ p.2 = n)
  | 0, _, _, _, p, hp => by cases hp
  | fuel + 1, d, start, h, p, hp => by
    unfold splitLoop at hp
    by_cases hlt : start < n
    · rw [if_pos hlt] at hp
      simp only at hp
      obtain ⟨ha, hb⟩ := h hlt
      rcases List.mem_cons.1 hp with rfl | hp
      · simp only
        refine ⟨ha, ?_⟩
        split <;> omega
      · refine splitLoop_aligned n fuel _ _ ?_ p hp
        intro hlt'
        split at hlt' <;> split <;> omega
    · rw [if_neg hlt] at hp
      cases hp

/-- `do` before rounding: `byteCount / gor`, but at least `minSplit` -/
def split0 (n gor ms : Nat) : Nat := if n / gor < ms then ms else n / gor

theorem split0_pos {n gor ms : Nat} (hms : 0 < ms) : 0 < split0 n gor ms := by
  unfold split0; split <;> omega

theorem workerRanges_of_le {n gor ms : Nat} (hg : gor ≤ 1) : workerRanges n gor ms = [(0, n)] :=
  if_pos hg

theorem workerRanges_of_lt {n gor ms : Nat} (hg : 1 < gor) :
    workerRanges n gor ms = splitLoop n (n + 1) ((split0 n gor ms + 63) / 64 * 64) 0 :=
  if_neg (Nat.not_le.2 hg)

theorem updateRanges_eq (n gor ms : Nat) :
    updateRanges n gor ms = splitLoop n (n + 1) (split0 n gor ms) 0 := rfl

theorem scalarRounds_chain (stop pr : Nat) (hpr : 0 < pr) : ∀ (fuel start : Nat),
    start ≤ stop → stop - start < fuel → Chain (scalarRounds stop pr fuel start) start stop
  | 0, _, _, hf => by omega
  | fuel + 1, start, hs, hf => by
    unfold scalarRounds
    by_cases hlt : start < stop
    · rw [if_pos hlt]
      simp only
      refine chain_cons.2 ⟨rfl, by split <;> omega, ?_⟩
      apply scalarRounds_chain stop pr hpr fuel
      · split <;> omega
      · split <;> omega
    · rw [if_neg hlt]
      exact chain_nil.2 (by omega)

theorem scalarRounds_snd (stop pr : Nat) : ∀ (fuel start : Nat),
    ∀ p ∈ scalarRounds stop pr fuel start, p.2 = min (p.1 + pr) stop
  | 0, _, p, hp => by cases hp
  | fuel + 1, start, p, hp => by
    unfold scalarRounds at hp
    by_cases hlt : start < stop
    · rw [if_pos hlt] at hp
      rcases List.mem_cons.1 hp with rfl | hp
      · simp only
        split <;> omega
      · exact scalarRounds_snd stop pr fuel _ p hp
    · rw [if_neg hlt] at hp
      cases hp

/-- the number of bytes handed to the SIMD kernel -/
def kernelLen (start stop : Nat) (g : Option Nat) : Nat :=
  match g with
  | some g => if stop - start ≥ 64 then (stop - start) / g * g else 0
  | none => 0

theorem execPieces_eq (start stop pr : Nat) (g : Option Nat) :
    execPieces start stop pr g =
      (if kernelLen start stop g = 0 then []
        else [((start, start + kernelLen start stop g), true)]) ++
      (scalarRounds stop pr (stop - start + 1) (start + kernelLen start stop g)).map
        fun p => (p, false) := rfl

theorem kernelLen_le (start stop : Nat) (g : Option Nat) : kernelLen start stop g ≤ stop - start := by
  unfold kernelLen
  split
  · split
    · exact Nat.div_mul_le_self _ _
    · exact Nat.zero_le _
  · exact Nat.zero_le _

theorem kernelLen_some (start stop g : Nat) :
    kernelLen start stop (some g) % g = 0 ∧ (kernelLen start stop (some g) ≠ 0 → 64 ≤ stop - start) := by
  unfold kernelLen
  simp only
  split
  · exact ⟨Nat.mul_mod_left _ _, fun _ => ‹_›⟩
  · exact ⟨Nat.zero_mod _, fun h => absurd rfl h⟩

theorem mem_execPieces_kernel {start stop pr : Nat} {g : Option Nat} {p : Piece} :
    (p, true) ∈ execPieces start stop pr g ↔
      kernelLen start stop g ≠ 0 ∧ p = (start, start + kernelLen start stop g) := by
  rw [execPieces_eq, List.mem_append, List.mem_map]
  constructor
  · rintro (h | ⟨q, _, hq⟩)
    · split at h
      · cases h
      · next hn => exact ⟨hn, (Prod.mk.inj (List.mem_singleton.1 h)).1⟩
    · cases (Prod.mk.inj hq).2
  · rintro ⟨hn, rfl⟩
    rw [if_neg hn]
    exact Or.inl (List.mem_singleton_self _)

theorem execPieces_chain (start stop pr : Nat) (g : Option Nat) (hpr : 0 < pr) (hs : start ≤ stop) :
    Chain ((execPieces start stop pr g).map (·.1)) start stop := by
  rw [execPieces_eq]
  have hk := kernelLen_le start stop g
  generalize kernelLen start stop g = n at hk
  rw [List.map_append, List.map_map]
  have hid : ((fun x : Piece × Bool => x.1) ∘ fun p : Piece => (p, false)) = id := rfl
  rw [hid, List.map_id]
  have hsc := scalarRounds_chain stop pr hpr (stop - start + 1) (start + n) (by omega) (by omega)
  by_cases hn : n = 0
  · subst hn
    simpa using hsc
  · rw [if_neg hn]
    exact chain_cons.2 ⟨rfl, by omega, hsc⟩

end RSV.Proofs.Dispatch
