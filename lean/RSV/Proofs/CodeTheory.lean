import Mathlib.LinearAlgebra.Lagrange
import Mathlib.LinearAlgebra.Matrix.NonsingularInverse
import RSV.Model.Cert
/-!
Why any `d` shards suffice, over an arbitrary field `F`.  A generalised Cauchy matrix
`A r c * (x r - y c) = u r * v c` (with possibly one row at infinity, `A r c = u r * v c`) is MDS:
a message `t` whose codeword vanishes on `d` coordinates gives a polynomial
`g(z) = Σ_c t_c v_c ∏_{j ≠ c} (z - y_j)` of degree `< d` with `d` roots, the row at infinity
counting as the root "coefficient of `z^(d-1)` is zero".  Cauchy, all-ones, Lagrange and
`vandermonde · (top square)⁻¹` matrices are in the family; the executable certificate of
`RSV.Model.Cert` checks the defining identity.
-/

namespace RSV.CodeTheory
open Polynomial Finset

section Generic
variable {F : Type*} [Field F] {d p : ℕ}

/-- the `k`-th unit row (written with `.val`, as the model writes it) picks the `k`-th entry -/
theorem sum_delta (k : ℕ) (hk : k < d) (f : Fin d → F) :
    ∑ c : Fin d, (if k = c.val then (1 : F) else 0) * f c = f ⟨k, hk⟩ := by
  rw [Finset.sum_eq_single ⟨k, hk⟩]
  · simp
  · intro b _ hb
    have : k ≠ b.val := fun e => hb (Fin.ext e.symm)
    simp [this]
  · simp

/-- codeword of the systematic code with parity matrix `A : p × d` -/
def cw (A : Fin p → Fin d → F) (t : Fin d → F) : Fin d ⊕ Fin p → F :=
  Sum.elim t (fun r => ∑ c, A r c * t c)

/-- any `d` coordinates determine the message -/
def MDS (A : Fin p → Fin d → F) : Prop :=
  ∀ S : Finset (Fin d ⊕ Fin p), S.card = d → ∀ t : Fin d → F, (∀ i ∈ S, cw A t i = 0) → t = 0

@[simp] theorem cw_inl (A : Fin p → Fin d → F) (t : Fin d → F) (c : Fin d) :
    cw A t (Sum.inl c) = t c := rfl

@[simp] theorem cw_inr (A : Fin p → Fin d → F) (t : Fin d → F) (r : Fin p) :
    cw A t (Sum.inr r) = ∑ c, A r c * t c := rfl

theorem cw_sub (A : Fin p → Fin d → F) (t t' : Fin d → F) (i : Fin d ⊕ Fin p) :
    cw A (t - t') i = cw A t i - cw A t' i := by
  rcases i with c | r
  · simp
  · simp [mul_sub, Finset.sum_sub_distrib]

theorem MDS.unique {A : Fin p → Fin d → F} (h : MDS A) (S : Finset (Fin d ⊕ Fin p))
    (hS : S.card = d) (t t' : Fin d → F) (heq : ∀ i ∈ S, cw A t i = cw A t' i) : t = t' :=
  sub_eq_zero.mp (h S hS (t - t') fun i hi => by rw [cw_sub, heq i hi, sub_self])

/-- otherwise the unit message `e_c` has a codeword vanishing on the `d` coordinates
`{data c' | c' ≠ c} ∪ {parity r}` -/
theorem _root_.RSV.Model.MDS_entry_ne_zero {A : Fin p → Fin d → F} (hA : MDS A) (r : Fin p) (c : Fin d) :
    A r c ≠ 0 := by
  intro hz
  classical
  let S : Finset (Fin d ⊕ Fin p) :=
    insert (Sum.inr r) ((Finset.univ.erase c).map ⟨Sum.inl, Sum.inl_injective⟩)
  have hcard : S.card = d := by
    rw [Finset.card_insert_of_notMem (by simp), Finset.card_map,
      Finset.card_erase_of_mem (Finset.mem_univ c), Finset.card_univ, Fintype.card_fin]
    have := c.pos
    omega
  have ht := hA S hcard (Pi.single c 1) (by
    intro i hi
    rcases i with c' | r'
    · have hc' : c' ≠ c := by simpa [S] using hi
      simp [hc']
    · have hr' : r' = r := by simpa [S] using hi
      subst hr'
      simp [Pi.single_apply, hz])
  have := congrFun ht c
  simp at this

noncomputable def gpoly (y v t : Fin d → F) : F[X] :=
  ∑ c, C (t c * v c) * ∏ j ∈ univ.erase c, (X - C (y j))

theorem prod_erase_monic (y : Fin d → F) (c : Fin d) :
    (∏ j ∈ univ.erase c, (X - C (y j))).Monic :=
  monic_prod_of_monic _ _ fun j _ => monic_X_sub_C (y j)

theorem prod_erase_natDegree (y : Fin d → F) (c : Fin d) :
    (∏ j ∈ univ.erase c, (X - C (y j))).natDegree = d - 1 := by
  rw [natDegree_prod_of_monic _ _ fun j _ => monic_X_sub_C (y j)]
  simp

theorem gpoly_degree_lt (y v t : Fin d → F) : (gpoly y v t).degree < d := by
  rw [← mem_degreeLT]
  refine Submodule.sum_mem _ fun c _ => mem_degreeLT.2 ?_
  have h : (∏ j ∈ univ.erase c, (X - C (y j))).degree = ((d - 1 : ℕ) : WithBot ℕ) := by
    rw [degree_eq_natDegree (prod_erase_monic y c).ne_zero, prod_erase_natDegree]
  calc (C (t c * v c) * ∏ j ∈ univ.erase c, (X - C (y j))).degree
      ≤ 0 + ((d - 1 : ℕ) : WithBot ℕ) := (degree_mul_le _ _).trans (add_le_add degree_C_le h.le)
    _ < d := by rw [zero_add]; exact_mod_cast Nat.sub_lt c.pos Nat.one_pos

theorem gpoly_eval_y (y v t : Fin d → F) (c : Fin d) :
    (gpoly y v t).eval (y c) = t c * v c * ∏ j ∈ univ.erase c, (y c - y j) := by
  unfold gpoly
  simp only [eval_finsetSum, eval_mul, eval_C, eval_prod, eval_sub, eval_X]
  -- the summand of `b ≠ c` has the factor `y c - y c`
  refine Finset.sum_eq_single c (fun b _ hb => ?_) (fun h => absurd (mem_univ c) h)
  rw [Finset.prod_eq_zero (mem_erase.2 ⟨Ne.symm hb, mem_univ c⟩) (sub_self _), mul_zero]

theorem gpoly_eval_row (y v t : Fin d → F) (a : Fin d → F) (xr ur : F)
    (hA : ∀ c, a c * (xr - y c) = ur * v c) :
    ur * (gpoly y v t).eval xr = (∏ j, (xr - y j)) * ∑ c, a c * t c := by
  unfold gpoly
  rw [eval_finsetSum, Finset.mul_sum, Finset.mul_sum]
  refine Finset.sum_congr rfl fun c _ => ?_
  rw [eval_mul, eval_C, eval_prod]
  simp only [eval_sub, eval_X, eval_C]
  rw [← Finset.mul_prod_erase univ (fun j => xr - y j) (Finset.mem_univ c)]
  have := hA c
  calc ur * (t c * v c * ∏ j ∈ univ.erase c, (xr - y j))
      = ((ur * v c) * t c) * ∏ j ∈ univ.erase c, (xr - y j) := by ring
    _ = ((a c * (xr - y c)) * t c) * ∏ j ∈ univ.erase c, (xr - y j) := by rw [this]
    _ = ((xr - y c) * ∏ j ∈ univ.erase c, (xr - y j)) * (a c * t c) := by ring

theorem gpoly_eval_x (x : Fin p → F) (y v t : Fin d → F) (A : Fin p → Fin d → F) (u : Fin p → F)
    (hA : ∀ r c, A r c * (x r - y c) = u r * v c) (r : Fin p) :
    u r * (gpoly y v t).eval (x r) = (∏ j, (x r - y j)) * ∑ c, A r c * t c :=
  gpoly_eval_row y v t (A r) (x r) (u r) (hA r)

/-- the coefficient of `z^(d-1)` of `g` is `Σ_c t_c v_c`: this is what the row at infinity sees -/
theorem gpoly_coeff (y v t : Fin d → F) : (gpoly y v t).coeff (d - 1) = ∑ c, t c * v c := by
  unfold gpoly
  rw [finsetSum_coeff]
  refine Finset.sum_congr rfl fun c _ => ?_
  rw [coeff_C_mul]
  have h := (prod_erase_monic y c).coeff_natDegree
  rw [prod_erase_natDegree] at h
  rw [h, mul_one]

theorem degree_lt_pred_of_coeff_eq_zero {f : F[X]} {d : ℕ} (hdeg : f.degree < d) (h : f.coeff (d - 1) = 0) :
    f.degree < ((d - 1 : ℕ) : WithBot ℕ) := by
  rw [degree_lt_iff_coeff_zero]
  intro m hm
  rcases Nat.eq_or_lt_of_le hm with rfl | hlt
  · exact h
  · refine coeff_eq_zero_of_degree_lt (lt_of_lt_of_le hdeg ?_)
    exact_mod_cast (by omega : d ≤ m)

/-- Root counting with a point at infinity: a root "at infinity" (at most one index) means that
the coefficient of `X^(d-1)` vanishes. -/
theorem eq_zero_of_roots_with_infinity {ι : Type*} {d : ℕ} (f : F[X]) (hdeg : f.degree < d)
    (S : Finset ι) (hS : S.card = d) (pt : ι → F) (isInf : ι → Prop)
    (hpt : ∀ a ∈ S, ∀ b ∈ S, ¬ isInf a → ¬ isInf b → pt a = pt b → a = b)
    (hinf : ∀ a ∈ S, ∀ b ∈ S, isInf a → isInf b → a = b)
    (hroot : ∀ i ∈ S, ¬ isInf i → f.eval (pt i) = 0)
    (hlead : ∀ i ∈ S, isInf i → f.coeff (d - 1) = 0) : f = 0 := by
  classical
  have key : ∀ S' : Finset ι, S' ⊆ S → (∀ i ∈ S', ¬ isInf i) → f.degree < (S'.card : WithBot ℕ) → f = 0 := by
    intro S' hsub hfin hdeg'
    apply eq_zero_of_degree_lt_of_eval_finset_eq_zero (S'.image pt)
    · rwa [Finset.card_image_of_injOn]
      intro a ha b hb hab
      exact hpt a (hsub ha) b (hsub hb) (hfin a ha) (hfin b hb) hab
    · intro z hz
      obtain ⟨i, hi, rfl⟩ := Finset.mem_image.mp hz
      exact hroot i (hsub hi) (hfin i hi)
  by_cases h : ∃ i ∈ S, isInf i
  · obtain ⟨i0, hi0, hinf0⟩ := h
    apply key (S.erase i0) (Finset.erase_subset _ _)
    · intro i hi hi'
      exact (Finset.mem_erase.mp hi).1 (hinf i (Finset.mem_erase.mp hi).2 i0 hi0 hi' hinf0)
    · rw [Finset.card_erase_of_mem hi0, hS]
      exact degree_lt_pred_of_coeff_eq_zero hdeg (hlead i0 hi0 hinf0)
  · exact key S (Finset.Subset.refl _) (fun i hi hi' => h ⟨i, hi, hi'⟩) (by rw [hS]; exact hdeg)

/-- `gcauchy_mds` with the entry hypothesis split into its two cases: the form the proofs apply -/
theorem gcauchy_mds_core (x : Fin p → Option F) (y v : Fin d → F) (u : Fin p → F)
    (A : Fin p → Fin d → F)
    (hy : Function.Injective y) (hx : Function.Injective x) (hxy : ∀ r c, x r ≠ some (y c))
    (hu : ∀ r, u r ≠ 0) (hv : ∀ c, v c ≠ 0)
    (hAs : ∀ r c xr, x r = some xr → A r c * (xr - y c) = u r * v c)
    (hAn : ∀ r c, x r = none → A r c = u r * v c) : MDS A := by
  classical
  intro S hS t h0
  -- the evaluation point of an index (junk `0` for the row at infinity)
  let pt : Fin d ⊕ Fin p → F := Sum.elim y (fun r => (x r).getD 0)
  let isInf : Fin d ⊕ Fin p → Prop := fun i => ∃ r, i = Sum.inr r ∧ x r = none
  have hpt : ∀ a b, ¬ isInf a → ¬ isInf b → pt a = pt b → a = b := by
    intro a b ha hb hab
    rcases a with a | a <;> rcases b with b | b
    · exact congrArg _ (hy hab)
    · rcases hxb : x b with _ | xb
      · exact absurd ⟨b, rfl, hxb⟩ hb
      · simp only [pt, Sum.elim_inl, Sum.elim_inr, hxb, Option.getD_some] at hab
        exact absurd (hxb.trans (congrArg some hab.symm)) (hxy b a)
    · rcases hxa : x a with _ | xa
      · exact absurd ⟨a, rfl, hxa⟩ ha
      · simp only [pt, Sum.elim_inl, Sum.elim_inr, hxa, Option.getD_some] at hab
        exact absurd (hxa.trans (congrArg some hab)) (hxy a b)
    · rcases hxa : x a with _ | xa
      · exact absurd ⟨a, rfl, hxa⟩ ha
      rcases hxb : x b with _ | xb
      · exact absurd ⟨b, rfl, hxb⟩ hb
      simp only [pt, Sum.elim_inr, hxa, hxb, Option.getD_some] at hab
      have : x a = x b := by rw [hxa, hxb, hab]
      exact congrArg _ (hx this)
  have hg : gpoly y v t = 0 := by
    refine eq_zero_of_roots_with_infinity _ (gpoly_degree_lt y v t) S hS pt isInf
      (fun a _ b _ => hpt a b) ?_ ?_ ?_
    · rintro a _ b _ ⟨ra, rfl, hra⟩ ⟨rb, rfl, hrb⟩
      rw [hx (hra.trans hrb.symm)]
    · -- every finite index in `S` is a root of `g`
      intro i hi hfin
      have hi0 := h0 i hi
      rcases i with c | r
      · simp only [pt, Sum.elim_inl]
        rw [gpoly_eval_y]
        simp only [cw_inl] at hi0
        rw [hi0]; ring
      · rcases hxr : x r with _ | xr
        · exact absurd ⟨r, rfl, hxr⟩ hfin
        simp only [pt, Sum.elim_inr, hxr, Option.getD_some]
        simp only [cw_inr] at hi0
        have := gpoly_eval_row y v t (A r) xr (u r) (fun c => hAs r c xr hxr)
        rw [hi0, mul_zero] at this
        exact (mul_eq_zero.mp this).resolve_left (hu r)
    · -- the row at infinity sees the coefficient of `z^(d-1)`
      rintro _ hi ⟨r0, rfl, hr0⟩
      rw [gpoly_coeff]
      have h1 := h0 _ hi
      simp only [cw_inr] at h1
      have h2 : ∑ c, A r0 c * t c = u r0 * ∑ c, t c * v c := by
        rw [Finset.mul_sum]
        refine Finset.sum_congr rfl fun c _ => ?_
        rw [hAn r0 c hr0]; ring
      rw [h2] at h1
      exact (mul_eq_zero.mp h1).resolve_left (hu r0)
  funext c
  have := gpoly_eval_y y v t c
  rw [hg, eval_zero] at this
  have hprod : ∏ j ∈ univ.erase c, (y c - y j) ≠ 0 := by
    rw [Finset.prod_ne_zero_iff]
    intro j hj
    have : j ≠ c := (Finset.mem_erase.mp hj).1
    exact sub_ne_zero.mpr fun h => this (hy h).symm
  have h2 := (mul_eq_zero.mp this.symm).resolve_right hprod
  exact (mul_eq_zero.mp h2).resolve_right (hv c)

theorem option_cases_split {α : Type*} {x : Option α} {P : α → Prop} {Q : Prop}
    (h : match x with | some a => P a | none => Q) :
    (∀ a, x = some a → P a) ∧ (x = none → Q) := by
  cases x with
  | none => exact ⟨fun a e => (by cases e), fun _ => h⟩
  | some a => exact ⟨fun b e => (by cases e; exact h), fun e => (by cases e)⟩

/-- generalised Cauchy matrices are MDS; `x r = none` puts row `r` at infinity.  The statement for
presentation; proofs apply `gcauchy_mds_core`, where the `match` is two hypotheses. -/
theorem gcauchy_mds (x : Fin p → Option F) (y v : Fin d → F) (u : Fin p → F)
    (A : Fin p → Fin d → F)
    (hy : Function.Injective y) (hx : Function.Injective x) (hxy : ∀ r c, x r ≠ some (y c))
    (hu : ∀ r, u r ≠ 0) (hv : ∀ c, v c ≠ 0)
    (hA : ∀ r c, match x r with
      | some xr => A r c * (xr - y c) = u r * v c
      | none => A r c = u r * v c) : MDS A :=
  gcauchy_mds_core x y v u A hy hx hxy hu hv
    (fun r c => (option_cases_split (hA r c)).1) (fun r c => (option_cases_split (hA r c)).2)

theorem gcauchy_mds_fin (x : Fin p → F) (y v : Fin d → F) (u : Fin p → F) (A : Fin p → Fin d → F)
    (hy : Function.Injective y) (hx : Function.Injective x) (hxy : ∀ r c, x r ≠ y c)
    (hu : ∀ r, u r ≠ 0) (hv : ∀ c, v c ≠ 0)
    (hA : ∀ r c, A r c * (x r - y c) = u r * v c) : MDS A := by
  refine gcauchy_mds_core (fun r => some (x r)) y v u A hy
    (fun a b h => hx (Option.some_injective _ h)) (fun r c h => hxy r c (Option.some_injective _ h))
    hu hv ?_ ?_
  · intro r c xr hxr
    have : x r = xr := Option.some_injective _ hxr
    rw [← this]; exact hA r c
  · intro r c hxr
    exact absurd hxr (Option.some_ne_none _)

theorem gcauchy_entries_ne_zero (x : Fin p → Option F) (y v : Fin d → F) (u : Fin p → F)
    (A : Fin p → Fin d → F)
    (hu : ∀ r, u r ≠ 0) (hv : ∀ c, v c ≠ 0)
    (hAs : ∀ r c xr, x r = some xr → A r c * (xr - y c) = u r * v c)
    (hAn : ∀ r c, x r = none → A r c = u r * v c) (r : Fin p) (c : Fin d) : A r c ≠ 0 := by
  have huv : u r * v c ≠ 0 := mul_ne_zero (hu r) (hv c)
  rcases hxr : x r with _ | xr
  · rw [hAn r c hxr]; exact huv
  · intro h0
    have h' := hAs r c xr hxr
    rw [h0, zero_mul] at h'
    exact huv h'.symm

theorem cauchy_mds (x : Fin p → F) (y : Fin d → F)
    (hy : Function.Injective y) (hx : Function.Injective x) (hxy : ∀ r c, x r ≠ y c) :
    MDS (fun r c => (x r - y c)⁻¹) :=
  gcauchy_mds_fin x y (fun _ => 1) (fun _ => 1) _ hy hx hxy
    (fun _ => one_ne_zero) (fun _ => one_ne_zero)
    (fun r c => by rw [inv_mul_cancel₀ (sub_ne_zero.mpr (hxy r c)), one_mul])

/-- a single all-ones parity row (XOR parity) is MDS: it is the row at infinity with
`u = v = 1`.  Needs `d` distinct field elements, i.e. `d ≤ |F|`. -/
theorem ones_mds (y : Fin d → F) (hy : Function.Injective y) :
    MDS (fun (_ : Fin 1) (_ : Fin d) => (1 : F)) :=
  gcauchy_mds_core (fun _ => none) y (fun _ => 1) (fun _ => 1) _ hy
    (fun a b _ => Subsingleton.elim a b) (fun _ _ h => by simp at h)
    (fun _ => one_ne_zero) (fun _ => one_ne_zero)
    (fun _ _ _ h => by simp at h) (fun _ _ _ => by simp)

/-- value at `z` of the Lagrange basis polynomial of node `y c` among the nodes `y` -/
def lagrAt (y : Fin d → F) (z : F) (c : Fin d) : F :=
  ∏ j ∈ univ.erase c, (z - y j) / (y c - y j)

theorem lagrAt_node (y : Fin d → F) (hy : Function.Injective y) (r c : Fin d) :
    lagrAt y (y r) c = if r = c then 1 else 0 := by
  unfold lagrAt
  split_ifs with h
  · subst h
    apply Finset.prod_eq_one
    intro j hj
    exact div_self (sub_ne_zero.mpr fun e => (Finset.mem_erase.mp hj).1 (hy e).symm)
  · apply Finset.prod_eq_zero (i := r) (Finset.mem_erase.mpr ⟨h, Finset.mem_univ _⟩)
    simp

/-- the Lagrange matrix: data nodes `y`, parity nodes `x` -/
def lagr (y : Fin d → F) (x : Fin p → F) : Fin p → Fin d → F := fun r c => lagrAt y (x r) c

theorem lagr_apply (y : Fin d → F) (x : Fin p → F) (r : Fin p) (c : Fin d) :
    lagr y x r c = ∏ j ∈ univ.erase c, (x r - y j) / (y c - y j) := rfl

/-- Lagrange matrices are MDS: `u r = ∏_j (x r - y j)`, `v c = (∏_{j≠c} (y c - y j))⁻¹` -/
theorem lagr_mds (y : Fin d → F) (x : Fin p → F)
    (hy : Function.Injective y) (hx : Function.Injective x) (hxy : ∀ r c, x r ≠ y c) :
    MDS (lagr y x) := by
  refine gcauchy_mds_fin x y (fun c => (∏ j ∈ univ.erase c, (y c - y j))⁻¹)
    (fun r => ∏ j, (x r - y j)) _ hy hx hxy ?_ ?_ ?_
  · intro r
    exact Finset.prod_ne_zero_iff.mpr fun j _ => sub_ne_zero.mpr (hxy r j)
  · intro c
    exact inv_ne_zero (Finset.prod_ne_zero_iff.mpr fun j hj =>
      sub_ne_zero.mpr fun h => (Finset.mem_erase.mp hj).1 (hy h).symm)
  · intro r c
    simp only [lagr, lagrAt]
    rw [Finset.prod_div_distrib,
      ← Finset.mul_prod_erase univ (fun j => x r - y j) (Finset.mem_univ c), div_eq_mul_inv]
    ring

theorem lagrAt_eq_eval_basis (y : Fin d → F) (z : F) (c : Fin d) :
    lagrAt y z c = eval z (Lagrange.basis univ y c) := by
  unfold lagrAt Lagrange.basis
  rw [eval_prod]
  refine Finset.prod_congr rfl fun j _ => ?_
  simp only [Lagrange.basisDivisor, eval_mul, eval_C, eval_sub, eval_X]
  rw [div_eq_mul_inv, mul_comm]

theorem sum_lagrAt_mul_eval (y : Fin d → F) (hy : Function.Injective y) (f : F[X])
    (hf : f.degree < d) (z : F) : ∑ c, lagrAt y z c * f.eval (y c) = f.eval z := by
  have h := Lagrange.eq_interpolate (s := univ) (v := y) (f := f) hy.injOn (by simpa using hf)
  have h2 := congrArg (eval z) h
  rw [Lagrange.interpolate_apply, eval_finsetSum] at h2
  simp only [eval_mul, eval_C] at h2
  rw [h2]
  refine Finset.sum_congr rfl fun c _ => ?_
  rw [lagrAt_eq_eval_basis, mul_comm]

theorem sum_lagrAt_mul_pow (y : Fin d → F) (hy : Function.Injective y) (z : F) (k : ℕ)
    (hk : k < d) : ∑ c, lagrAt y z c * (y c) ^ k = z ^ k := by
  have := sum_lagrAt_mul_eval y hy (X ^ k) (by rw [degree_X_pow]; exact_mod_cast hk) z
  simpa using this

/-- This identifies the generator `vandermonde(total,d) · (top d×d)⁻¹` with the Lagrange matrix
over the nodes `y`. -/
theorem vandermonde_quotient (y : Fin d → F) (hy : Function.Injective y)
    (W : Matrix (Fin d) (Fin d) F) (hW : ∀ c k, W c k = (y c) ^ k.val)
    (N : Matrix (Fin d) (Fin d) F) (hN : W * N = 1) (z : F) (c : Fin d) :
    ∑ k : Fin d, z ^ k.val * N k c = lagrAt y z c := by
  have h1 : Matrix.vecMul (lagrAt y z) W = fun k : Fin d => z ^ k.val := by
    funext k
    simp only [Matrix.vecMul, dotProduct, hW]
    exact sum_lagrAt_mul_pow y hy z k.val k.isLt
  have h2 : Matrix.vecMul (fun k : Fin d => z ^ k.val) N = lagrAt y z := by
    rw [← h1, Matrix.vecMul_vecMul, hN, Matrix.vecMul_one]
  have h3 := congrFun h2 c
  simpa [Matrix.vecMul, dotProduct] using h3

theorem vandermonde_quotient' (y : Fin d → F) (hy : Function.Injective y)
    (W : Matrix (Fin d) (Fin d) F) (hW : ∀ c k, W c k = (y c) ^ k.val)
    (N : Matrix (Fin d) (Fin d) F) (hN : N * W = 1) (z : F) (c : Fin d) :
    ∑ k : Fin d, z ^ k.val * N k c = lagrAt y z c :=
  vandermonde_quotient y hy W hW N (mul_eq_one_comm.mp hN) z c

theorem vandermonde_quotient_mds (y : Fin d → F) (x : Fin p → F)
    (hy : Function.Injective y) (hx : Function.Injective x) (hxy : ∀ r c, x r ≠ y c)
    (W : Matrix (Fin d) (Fin d) F) (hW : ∀ c k, W c k = (y c) ^ k.val)
    (N : Matrix (Fin d) (Fin d) F) (hN : W * N = 1) :
    MDS (fun r c => ∑ k : Fin d, (x r) ^ k.val * N k c) := by
  have : (fun r c => ∑ k : Fin d, (x r) ^ k.val * N k c) = lagr y x := by
    funext r c
    exact vandermonde_quotient y hy W hW N hN (x r) c
  rw [this]
  exact lagr_mds y x hy hx hxy

/-- puncturing (drop parity rows) and shortening (fix message symbols to `0`) preserve `MDS` -/
theorem MDS.submatrix {p' d' : ℕ} {A : Fin p → Fin d → F} (h : MDS A)
    (f : Fin p' → Fin p) (g : Fin d' → Fin d)
    (hf : Function.Injective f) (hg : Function.Injective g) :
    MDS (fun r c => A (f r) (g c)) := by
  classical
  intro S' hS' t' h0
  let t : Fin d → F := Function.extend g t' 0
  have ht : ∀ c', t (g c') = t' c' := fun c' => hg.extend_apply _ _ _
  have ht0 : ∀ c, c ∉ univ.image g → t c = 0 := by
    intro c hc
    have : ¬ ∃ a, g a = c := by
      rintro ⟨a, rfl⟩
      exact hc (Finset.mem_image_of_mem g (Finset.mem_univ a))
    simp only [t, Function.extend_apply' _ _ _ this, Pi.zero_apply]
  have hsum : ∀ r, ∑ c, A r c * t c = ∑ c', A r (g c') * t' c' := by
    intro r
    rw [← Finset.sum_subset (Finset.subset_univ (univ.image g))
      (fun c _ hc => by rw [ht0 c hc, mul_zero]),
      Finset.sum_image (fun a _ b _ hab => hg hab)]
    exact Finset.sum_congr rfl fun c' _ => by rw [ht]
  let e : Fin d' ⊕ Fin p' → Fin d ⊕ Fin p := Sum.map g f
  have he : Function.Injective e := Sum.map_injective.mpr ⟨hg, hf⟩
  let T : Finset (Fin d) := (univ.image g)ᶜ
  have hle : d' ≤ d := by simpa using Fintype.card_le_of_injective g hg
  have hT : T.card = d - d' := by
    simp only [T]
    rw [Finset.card_compl, Finset.card_image_of_injective _ hg]
    simp
  let S : Finset (Fin d ⊕ Fin p) := S'.image e ∪ T.image Sum.inl
  have hdisj : Disjoint (S'.image e) (T.image Sum.inl) := by
    rw [Finset.disjoint_left]
    intro a ha hb
    obtain ⟨i, _, rfl⟩ := Finset.mem_image.mp ha
    obtain ⟨c, hc, hce⟩ := Finset.mem_image.mp hb
    rcases i with c' | r'
    · simp only [e, Sum.map_inl, Sum.inl.injEq] at hce
      subst hce
      exact (Finset.mem_compl.mp hc) (Finset.mem_image_of_mem g (Finset.mem_univ c'))
    · simp [e] at hce
  have hS : S.card = d := by
    simp only [S]
    rw [Finset.card_union_of_disjoint hdisj, Finset.card_image_of_injective _ he,
      Finset.card_image_of_injective _ Sum.inl_injective, hS', hT]
    omega
  have hz : t = 0 := by
    apply h S hS t
    intro i hi
    rcases Finset.mem_union.mp hi with hi | hi
    · obtain ⟨i', hi', rfl⟩ := Finset.mem_image.mp hi
      have := h0 i' hi'
      rcases i' with c' | r'
      · simp only [e, Sum.map_inl, cw_inl] at this ⊢
        rw [ht]; exact this
      · simp only [e, Sum.map_inr, cw_inr] at this ⊢
        rw [hsum]; exact this
    · obtain ⟨c, hc, rfl⟩ := Finset.mem_image.mp hi
      simp only [cw_inl]
      exact ht0 c (Finset.mem_compl.mp hc)
  funext c'
  have := congrFun hz (g c')
  rw [ht] at this
  exact this

theorem MDS.puncture {p' : ℕ} {A : Fin p → Fin d → F} (h : MDS A) (f : Fin p' → Fin p)
    (hf : Function.Injective f) : MDS (fun r c => A (f r) c) :=
  h.submatrix f id hf Function.injective_id

/-- with no parity the only size-`d` subset is all the data -/
theorem mds_p0 {d : ℕ} (A : Fin 0 → Fin d → F) : MDS A := by
  intro S hS t h0
  have hS' : S = Finset.univ := by
    apply Finset.eq_univ_of_card
    rw [hS, Fintype.card_sum, Fintype.card_fin, Fintype.card_fin, Nat.add_zero]
  funext c
  exact h0 (Sum.inl c) (hS' ▸ Finset.mem_univ _)

theorem mds_any_p_losses {d p : ℕ} {A : Fin p → Fin d → F} (hA : MDS A)
    (lost : Finset (Fin d ⊕ Fin p)) (hl : lost.card ≤ p) (t t' : Fin d → F)
    (heq : ∀ i, i ∉ lost → cw A t i = cw A t' i) : t = t' := by
  have hc : d ≤ (lostᶜ).card := by
    rw [Finset.card_compl]
    simp only [Fintype.card_sum, Fintype.card_fin]
    omega
  obtain ⟨S, hSsub, hScard⟩ := Finset.exists_subset_card_eq hc
  refine hA.unique S hScard t t' fun i hi => heq i ?_
  exact Finset.mem_compl.mp (hSsub hi)

end Generic

section Cert
open RSV.Model
variable {F : Type} [Field F] [DecidableEq F] {d p : ℕ}

omit [Field F] in
theorem pointsDistinct_spec (x : Fin p → Option F) (y : Fin d → F)
    (h : pointsDistinct x y = true) :
    Function.Injective x ∧ Function.Injective y ∧ ∀ r c, x r ≠ some (y c) := by
  simp only [pointsDistinct, Bool.and_eq_true, allFin_iff, Bool.or_eq_true,
    decide_eq_true_eq] at h
  obtain ⟨⟨h1, h2⟩, h3⟩ := h
  exact ⟨fun a b hab => (h1 a b).resolve_right fun hne => hne hab,
    fun a b hab => (h2 a b).resolve_right fun hne => hne hab, h3⟩

theorem certGC_iff (A : Mat F p d) (x : Fin p → Option F) (y : Fin d → F) (u : Fin p → F) (v : Fin d → F) :
    certGC A x y u v = true ↔
      (∀ r, u r ≠ 0) ∧ (∀ c, v c ≠ 0) ∧
      (∀ r c xr, x r = some xr → A.get r c * (xr - y c) = u r * v c) ∧
      (∀ r c, x r = none → A.get r c = u r * v c) := by
  simp only [certGC, Bool.and_eq_true, allFin_iff, decide_eq_true_eq, and_assoc]
  refine and_congr_right fun _ => and_congr_right fun _ => ⟨fun h => ⟨?_, ?_⟩, fun h r c => ?_⟩
  · intro r c xr hxr; have := h r c; rw [hxr] at this; simpa using this
  · intro r c hxr; have := h r c; rw [hxr] at this; simpa using this
  · rcases hxr : x r with _ | xr
    · simpa using h.2 r c hxr
    · simpa using h.1 r c xr hxr

theorem certGC_sound' (A : Mat F p d) (x : Fin p → Option F) (y : Fin d → F)
    (u : Fin p → F) (v : Fin d → F) (h : certGC A x y u v = true)
    (hy : Function.Injective y) (hx : Function.Injective x) (hxy : ∀ r c, x r ≠ some (y c)) :
    MDS (fun r c => A.get r c) := by
  obtain ⟨hu, hv, hAs, hAn⟩ := (certGC_iff A x y u v).1 h
  exact gcauchy_mds_core x y v u _ hy hx hxy hu hv hAs hAn

theorem certGC_sound (A : Mat F p d) (x : Fin p → Option F) (y : Fin d → F)
    (u : Fin p → F) (v : Fin d → F) (h : certGC A x y u v = true)
    (hd : pointsDistinct x y = true) : MDS (fun r c => A.get r c) := by
  obtain ⟨hx, hy, hxy⟩ := pointsDistinct_spec x y hd
  exact certGC_sound' A x y u v h hy hx hxy

theorem certGC_entries_ne_zero (A : Mat F p d) (x : Fin p → Option F) (y : Fin d → F)
    (u : Fin p → F) (v : Fin d → F) (h : certGC A x y u v = true) (r : Fin p) (c : Fin d) :
    A.get r c ≠ 0 := by
  obtain ⟨hu, hv, hAs, hAn⟩ := (certGC_iff A x y u v).1 h
  exact gcauchy_entries_ne_zero x y v u (fun r c => A.get r c) hu hv hAs hAn r c

omit [Field F] [DecidableEq F] in
theorem nodes_injective (x : ℕ → F) (d : ℕ)
    (hinj : ∀ a b, a < d → b < d → x a = x b → a = b) :
    Function.Injective (fun c : Fin d => x c.val) :=
  fun a b hab => Fin.ext (hinj _ _ a.isLt b.isLt hab)

omit [Field F] [DecidableEq F] in
theorem parityNodes (x : ℕ → F) (d p : ℕ)
    (hinj : ∀ a b, a < d + p → b < d + p → x a = x b → a = b) :
    Function.Injective (fun r : Fin p => x (d + r.val)) ∧
      ∀ (r : Fin p) (c : Fin d), x (d + r.val) ≠ x c.val := by
  refine ⟨fun a b hab => ?_, fun r c hab => ?_⟩
  · have := hinj _ _ (by omega) (by omega) hab
    exact Fin.ext (by omega)
  · have := hinj _ _ (by omega) (by omega) hab
    omega

omit [Field F] [DecidableEq F] in
theorem natPoints_distinct (pt : ℕ → F) (inf : Option (Fin p))
    (hpt : ∀ a b, a < d + p → b < d + p → pt a = pt b → a = b) :
    Function.Injective (fun c : Fin d => pt c.val) ∧
    Function.Injective
      (fun r : Fin p => if inf = some r then none else some (pt (d + r.val))) ∧
    ∀ (r : Fin p) (c : Fin d),
      (if inf = some r then none else some (pt (d + r.val)) : Option F) ≠ some (pt c.val) := by
  obtain ⟨hx, hxy⟩ := parityNodes pt d p hpt
  refine ⟨nodes_injective pt d fun a b ha hb => hpt a b (by omega) (by omega), ?_, ?_⟩
  · intro a b hab
    have hab' : (if inf = some a then none else some (pt (d + a.val)) : Option F)
        = (if inf = some b then none else some (pt (d + b.val))) := hab
    by_cases ha : inf = some a <;> by_cases hb : inf = some b
    · exact Option.some_injective _ (ha.symm.trans hb)
    · rw [if_pos ha, if_neg hb] at hab'
      exact absurd hab'.symm (Option.some_ne_none _)
    · rw [if_neg ha, if_pos hb] at hab'
      exact absurd hab' (Option.some_ne_none _)
    · rw [if_neg ha, if_neg hb] at hab'
      exact hx (Option.some_injective _ hab')
  · intro r c
    by_cases hr : inf = some r
    · rw [if_pos hr]
      exact (Option.some_ne_none _).symm
    · rw [if_neg hr]
      exact fun hab => hxy r c (Option.some_injective _ hab)

theorem certNat_sound (hd : 0 < d) (hp : 0 < p) (pt : ℕ → F) (inf : Option (Fin p))
    (A : Mat F p d) (hpt : ∀ a b, a < d + p → b < d + p → pt a = pt b → a = b)
    (h : certNat hd hp pt inf A = true) : MDS (fun r c => A.get r c) := by
  obtain ⟨hy, hx, hxy⟩ := natPoints_distinct (d := d) pt inf hpt
  exact certGC_sound' A _ _ _ _ h hy hx hxy

end Cert

end RSV.CodeTheory

#print axioms RSV.CodeTheory.MDS.unique
#print axioms RSV.CodeTheory.gcauchy_mds
#print axioms RSV.CodeTheory.gcauchy_mds_fin
#print axioms RSV.CodeTheory.gcauchy_entries_ne_zero
#print axioms RSV.CodeTheory.certGC_sound
#print axioms RSV.CodeTheory.certGC_sound'
#print axioms RSV.CodeTheory.certGC_entries_ne_zero
#print axioms RSV.CodeTheory.certNat_sound
#print axioms RSV.CodeTheory.cauchy_mds
#print axioms RSV.CodeTheory.ones_mds
#print axioms RSV.CodeTheory.lagr_mds
#print axioms RSV.CodeTheory.sum_lagrAt_mul_pow
#print axioms RSV.CodeTheory.vandermonde_quotient
#print axioms RSV.CodeTheory.vandermonde_quotient'
#print axioms RSV.CodeTheory.vandermonde_quotient_mds
#print axioms RSV.CodeTheory.MDS.submatrix
#print axioms RSV.CodeTheory.MDS.puncture
#print axioms RSV.CodeTheory.natPoints_distinct
#print axioms RSV.CodeTheory.mds_p0
#print axioms RSV.CodeTheory.mds_any_p_losses
