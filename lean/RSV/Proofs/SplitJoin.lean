import RSV.Model.SplitJoin

/-!
Lemmas on `chunks`, `fillPadding`, `split`, `join` (core Lean only).

The `copy` loop of `Split` into fresh zero shards is cutting `src ++ zeros` (`fillPadding_eq_chunks`);
the three capacity cases of `Split` collapse to the specification (`split_core`).  The two loops of
`Join`: with all shards present the size scan succeeds and tells whether they hold `outSize` bytes
(`scan_some`), and the copy loop writes the first `w` bytes of their concatenation (`copy_some`); a
missing shard met before `outSize` bytes makes the scan fail (`scan_none`).
-/

namespace RSV.Proofs.SplitJoin
open RSV.Model.SJ

@[simp] theorem length_zeros (n : Nat) : (zeros n).length = n := by simp [zeros]

theorem zeros_add (a b : Nat) : zeros (a + b) = zeros a ++ zeros b := by
  simp [zeros, List.replicate_append_replicate]

theorem take_zeros (i n : Nat) : (zeros n).take i = zeros (min i n) := by
  simp [zeros, List.take_replicate]

theorem drop_zeros (i n : Nat) : (zeros n).drop i = zeros (n - i) := by
  simp [zeros, List.drop_replicate]

@[simp] theorem zeros_zero : zeros 0 = [] := rfl

theorem le_mul_ceil (len d : Nat) (hd : 0 < d) : len ≤ d * ((len + d - 1) / d) := by
  have h1 := Nat.div_add_mod (len + d - 1) d
  have h2 := Nat.mod_lt (len + d - 1) hd
  omega

theorem perShard_props (q d len : Nat) (hq : 0 < q) (hd : 0 < d) (hl : 0 < len) :
    0 < perShard q d len ∧ q ∣ perShard q d len ∧ len ≤ d * perShard q d len := by
  unfold perShard
  have hdc := le_mul_ceil len d hd
  generalize (len + d - 1) / d = c at hdc
  have hc0 : 0 < c := by
    rcases Nat.eq_zero_or_pos c with h | h
    · subst h; omega
    · exact h
  generalize hm : (c + q - 1) / q = m
  have h3 := Nat.div_add_mod (c + q - 1) q
  have h4 := Nat.mod_lt (c + q - 1) hq
  rw [hm] at h3
  have hcm : c ≤ m * q := by rw [Nat.mul_comm]; omega
  refine ⟨by omega, ⟨m, Nat.mul_comm _ _⟩, ?_⟩
  exact Nat.le_trans hdc (Nat.mul_le_mul_left d hcm)

@[simp] theorem chunks_length (k n : Nat) (l : List Nat) : (chunks k n l).length = n := by
  induction n generalizing l with
  | zero => rfl
  | succ n ih => simp [chunks, ih]

theorem chunks_mem_length (k n : Nat) (l : List Nat) (h : n * k ≤ l.length) :
    ∀ s ∈ chunks k n l, s.length = k := by
  induction n generalizing l with
  | zero => intro s hs; simp [chunks] at hs
  | succ n ih =>
    intro s hs
    have hk : k + n * k ≤ l.length := by rw [Nat.succ_mul] at h; omega
    simp only [chunks, List.mem_cons] at hs
    rcases hs with hs | hs
    · subst hs; rw [List.length_take]; omega
    · exact ih (l.drop k) (by rw [List.length_drop]; omega) s hs

theorem chunks_flatten (k n : Nat) (l : List Nat) : (chunks k n l).flatten = l.take (n * k) := by
  induction n generalizing l with
  | zero => simp [chunks]
  | succ n ih =>
    simp only [chunks, List.flatten_cons, ih]
    rw [Nat.succ_mul, Nat.add_comm (n * k) k, List.take_add]

theorem chunks_add (k a b : Nat) (l : List Nat) :
    chunks k (a + b) l = chunks k a l ++ chunks k b (l.drop (a * k)) := by
  induction a generalizing l with
  | zero => simp [chunks]
  | succ a ih =>
    rw [Nat.add_right_comm a 1 b]
    simp only [chunks, List.cons_append, ih, List.drop_drop]
    rw [Nat.succ_mul, Nat.add_comm (a * k) k]

theorem chunks_append_left (k n : Nat) (l l' : List Nat) (h : n * k ≤ l.length) :
    chunks k n (l ++ l') = chunks k n l := by
  induction n generalizing l with
  | zero => rfl
  | succ n ih =>
    have hk : k + n * k ≤ l.length := by rw [Nat.succ_mul] at h; omega
    simp only [chunks]
    rw [List.take_append_of_le_length (by omega), List.drop_append_of_le_length (by omega),
      ih (l.drop k) (by rw [List.length_drop]; omega)]

theorem chunks_take_prefix (k a b : Nat) (l : List Nat) :
    (chunks k (a + b) l).take a = chunks k a l := by
  rw [chunks_add, List.take_left' (chunks_length k a l)]

theorem chunks_drop_prefix (k a b : Nat) (l : List Nat) :
    (chunks k (a + b) l).drop a = chunks k b (l.drop (a * k)) := by
  rw [chunks_add, List.drop_left' (chunks_length k a l)]

@[simp] theorem fillPadding_length (k n : Nat) (src : List Nat) : (fillPadding k n src).length = n := by
  induction n generalizing src with
  | zero => rfl
  | succ n ih => simp [fillPadding, ih]

theorem fillPadding_eq_chunks (k n : Nat) (src : List Nat) (h : src.length ≤ n * k) :
    fillPadding k n src = chunks k n (src ++ zeros (n * k - src.length)) := by
  induction n generalizing src with
  | zero => rfl
  | succ n ih =>
    have hk : src.length ≤ k + n * k := by rw [Nat.succ_mul] at h; omega
    have hsm : (n + 1) * k = k + n * k := by rw [Nat.succ_mul]; omega
    simp only [fillPadding, chunks]
    rw [hsm]
    have ih' := ih (src.drop k) (by rw [List.length_drop]; omega)
    rw [ih', List.length_drop, List.take_append, List.drop_append, take_zeros, drop_zeros,
      List.length_take]
    rw [show k - min k src.length = min (k - src.length) (k + n * k - src.length) by omega,
      show n * k - (src.length - k) = k + n * k - src.length - (k - src.length) by omega]

theorem fillPadding_nil (k n : Nat) : fillPadding k n [] = List.replicate n (zeros k) := by
  induction n with
  | zero => rfl
  | succ n ih => simp [fillPadding, ih, List.replicate_succ]

/-- the common form of the capacity cases: `data1 = data ++ zeros e` with `e` spare bytes cleared -/
theorem split_core (ps total : Nat) (data data1 : List Nat) (e : Nat) (hps : 0 < ps)
    (h1 : data1 = data ++ zeros e) (h : data.length + e ≤ total * ps) :
    chunks ps (min total (data1.length / ps)) data1 ++
      (if data1.length < total * ps then
        (if data.length > ps * (data1.length / ps) then
          fillPadding ps (total - data1.length / ps)
            ((data1.take data.length).drop (ps * (data1.length / ps)))
         else List.replicate (total - data1.length / ps) (zeros ps))
       else []).take (total - min total (data1.length / ps))
    = chunks ps total (data ++ zeros (total * ps - data.length)) := by
  have hlen1 : data1.length = data.length + e := by simp [h1]
  have htk : data1.take data.length = data := by rw [h1, List.take_left' rfl]
  generalize hf : data1.length / ps = f
  have hfle : f * ps ≤ data1.length := by rw [← hf]; exact Nat.div_mul_le_self _ _
  by_cases hlt : data1.length < total * ps
  · -- some shards must be allocated
    have hft : f < total := by rw [← hf]; exact (Nat.div_lt_iff_lt_mul hps).2 hlt
    have hfps : f * ps < total * ps := by omega
    have hsub : (total - f) * ps = total * ps - f * ps := Nat.sub_mul _ _ _
    rw [if_pos hlt, Nat.min_eq_right (Nat.le_of_lt hft), htk, Nat.mul_comm ps f]
    have hpad : (if data.length > f * ps then fillPadding ps (total - f) (data.drop (f * ps))
          else List.replicate (total - f) (zeros ps))
        = fillPadding ps (total - f) (data.drop (f * ps)) := by
      split
      · rfl
      · rw [List.drop_of_length_le (by omega), fillPadding_nil]
    rw [hpad, List.take_of_length_le (by simp)]
    rw [fillPadding_eq_chunks _ _ _ (by rw [List.length_drop]; omega)]
    have htot : total = f + (total - f) := by omega
    rw [show chunks ps total (data ++ zeros (total * ps - data.length))
        = chunks ps (f + (total - f)) (data ++ zeros (total * ps - data.length)) by rw [← htot],
      chunks_add]
    congr 1
    · -- the shards cut from the input
      have hz : zeros (total * ps - data.length) = zeros e ++ zeros (total * ps - data.length - e) := by
        rw [← zeros_add]; congr 1; omega
      rw [hz, ← List.append_assoc, ← h1, chunks_append_left _ _ _ _ hfle]
    · -- the allocated shards
      rw [List.drop_append, drop_zeros, List.length_drop]
      congr 3
      omega
  · -- everything fits in the capacity
    have heq : data1.length = total * ps := by omega
    have hf' : f = total := by rw [← hf, heq]; exact Nat.mul_div_cancel _ hps
    rw [if_neg hlt, hf', Nat.min_self, List.take_nil, List.append_nil, h1]
    congr 3
    omega

theorem split_eq_spec (q d p : Nat) (hq : 0 < q) (hd : 0 < d) (data spare : List Nat) :
    split q d p data spare = splitSpec q d p data := by
  unfold split splitSpec
  by_cases h0 : data.length = 0
  · simp [h0]
  · rw [if_neg h0, if_neg h0]
    by_cases h1 : d + p = 1 ∧ (q = 1 ∨ data.length % 64 = 0)
    · rw [if_pos h1, if_pos h1]
    · rw [if_neg h1, if_neg h1]
      obtain ⟨hps, -, hle⟩ := perShard_props q d data.length hq hd (Nat.pos_of_ne_zero h0)
      have hneed : data.length ≤ (d + p) * perShard q d data.length := by
        rw [Nat.add_mul]; omega
      simp only []
      congr 1
      generalize perShard q d data.length = ps at *
      by_cases hc : data.length + spare.length > data.length
      · rw [if_pos hc]
        by_cases hc2 : data.length + spare.length > (d + p) * ps
        · rw [if_pos hc2]
          exact split_core ps (d + p) data _ ((d + p) * ps - data.length) hps rfl (by omega)
        · rw [if_neg hc2]
          exact split_core ps (d + p) data _ (data.length + spare.length - data.length) hps rfl
            (by omega)
      · rw [if_neg hc]
        exact split_core ps (d + p) data data 0 hps (by simp) (by omega)

theorem splitSpec_general (q d p : Nat) (data : List Nat) (hl : 0 < data.length)
    (h1 : ¬ (d + p = 1 ∧ (q = 1 ∨ data.length % 64 = 0))) :
    splitSpec q d p data = .ok (chunks (perShard q d data.length) (d + p)
      (data ++ zeros ((d + p) * perShard q d data.length - data.length))) := by
  unfold splitSpec
  rw [if_neg (by omega), if_neg h1]

theorem scan_some (outSize : Nat) (T : List (List Nat)) (size : Nat) :
    ∃ r, join.scan outSize (T.map some) size = .ok r ∧
      (r < outSize ↔ size + T.flatten.length < outSize) := by
  induction T generalizing size with
  | nil => exact ⟨size, rfl, by simp⟩
  | cons s rest ih =>
    simp only [List.map_cons, join.scan]
    by_cases h : size + s.length ≥ outSize
    · rw [if_pos h]
      exact ⟨_, rfl, by simp; omega⟩
    · rw [if_neg h]
      obtain ⟨r, hr, hiff⟩ := ih (size + s.length)
      exact ⟨r, hr, by rw [hiff]; simp; omega⟩

theorem copy_some (T : List (List Nat)) (w : Nat) (acc : List Nat) :
    join.copy (T.map some) w acc = acc ++ T.flatten.take w := by
  induction T generalizing w acc with
  | nil => simp [join.copy]
  | cons s rest ih =>
    simp only [List.map_cons, join.copy, List.flatten_cons, List.take_append]
    by_cases h : w < s.length
    · rw [if_pos h, show w - s.length = 0 by omega]; simp
    · rw [if_neg h, ih, List.take_of_length_le (l := s) (i := w) (by omega), List.append_assoc]

theorem scan_none (outSize : Nat) (l : List (Option (List Nat))) (size i : Nat)
    (hi : l[i]? = some none) (hlt : size + ((l.take i).map fun o => (o.getD []).length).sum < outSize) :
    join.scan outSize l size = .error .reconstructRequired := by
  induction l generalizing size i with
  | nil => simp at hi
  | cons o rest ih =>
    cases o with
    | none => rfl
    | some s =>
      cases i with
      | zero => simp at hi
      | succ j =>
        simp only [List.getElem?_cons_succ] at hi
        simp only [List.take_succ_cons, List.map_cons, List.sum_cons,
          Option.getD_some] at hlt
        simp only [join.scan]
        rw [if_neg (by omega)]
        exact ih (size + s.length) j hi (by omega)

theorem join_some (d : Nat) (shs : List (List Nat)) (hlen : d ≤ shs.length) (outSize : Nat) :
    join d (shs.map some) outSize =
      if ((shs.take d).flatten).length < outSize then .error .shortData
      else .ok (((shs.take d).flatten).take outSize) := by
  unfold join
  rw [if_neg (by simp; omega), ← List.map_take]
  obtain ⟨r, hr, hiff⟩ := scan_some outSize (shs.take d) 0
  dsimp only
  rw [hr]
  simp only [copy_some, List.nil_append]
  simp only [Nat.zero_add] at hiff
  by_cases h : r < outSize
  · rw [if_pos h, if_pos (hiff.1 h)]
  · rw [if_neg h, if_neg (fun h' => h (hiff.2 h'))]

end RSV.Proofs.SplitJoin
