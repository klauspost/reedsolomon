import RSV.Proofs.LeoSched
/-!
Linearity of the Leopard schedules under a bounded hypothesis on the symbol multiplication.
`MulLinear C` quantifies over all naturals, and a table context reads `T.log[a]!`, which means nothing
for `a ≥ order`; so a real context can only satisfy `MulLinearOn C B` (symbols and multipliers `< B`).
"Every symbol is `< B`" is a row invariant (`rowInv_vecBelow`), and `xorVec` is a binary homomorphism on
rows that satisfy it (`rowHom2On_xor_below`); the results are instances of `run_rows` / `run_zipWith_on`.
-/
namespace RSV.Proofs.LeoSched
open RSV.Model.Leo

structure MulLinearOn (C : Ctx) (B : Nat) : Prop where
  zero : ∀ m, mulSym C 0 m = 0
  lt : ∀ a m, a < B → m < B → mulSym C a m < B
  xor : ∀ a b m, a < B → b < B → m < B → mulSym C (a ^^^ b) m = mulSym C a m ^^^ mulSym C b m
  pow2 : ∃ k, B = 2 ^ k

theorem MulLinearOn.pos {C : Ctx} {B : Nat} (h : MulLinearOn C B) : 0 < B := by
  obtain ⟨k, rfl⟩ := h.pow2; exact Nat.two_pow_pos k

theorem MulLinearOn.xor_lt {C : Ctx} {B : Nat} (h : MulLinearOn C B) {a b : Nat} (ha : a < B)
    (hb : b < B) : a ^^^ b < B := by
  obtain ⟨k, rfl⟩ := h.pow2; exact Nat.xor_lt_two_pow ha hb

theorem MulLinear.on {C : Ctx} (h : MulLinear C) (k : Nat)
    (hlt : ∀ a m, a < 2 ^ k → m < 2 ^ k → mulSym C a m < 2 ^ k) : MulLinearOn C (2 ^ k) :=
  ⟨h.zero, hlt, fun a b m _ _ _ => h.xor a b m, ⟨k, rfl⟩⟩

/-- every symbol of the row is `< B` -/
def VecBelow (B : Nat) (x : Vec) : Prop := ∀ k, k < x.size → x[k]! < B

/-- every symbol of every row is `< B`, i.e. `AllRows (VecBelow B)` -/
def SymsBelow (B : Nat) (v : Array Vec) : Prop :=
  ∀ i, i < v.size → ∀ k, k < v[i]!.size → (v[i]!)[k]! < B

theorem symsBelow_iff_allRows {B : Nat} {v : Array Vec} : SymsBelow B v ↔ AllRows (VecBelow B) v := Iff.rfl

theorem VecBelow.get {B : Nat} {x : Vec} (h : VecBelow B x) (hB : 0 < B) (k : Nat) : x[k]! < B := by
  by_cases hk : k < x.size
  · exact h k hk
  · rw [get!_ge x k (Nat.le_of_not_lt hk)]; exact hB

theorem vecBelow_empty (B : Nat) : VecBelow B #[] := fun _ hk => absurd hk (Nat.not_lt_zero _)

theorem SymsBelow.row {B : Nat} {v : Array Vec} (h : SymsBelow B v) (i : Nat) : VecBelow B v[i]! :=
  (symsBelow_iff_allRows.mp h).get (.inr (vecBelow_empty B))

theorem vecBelow_zeroVec {B : Nat} (hB : 0 < B) (len : Nat) : VecBelow B (zeroVec len) := by
  intro k _; rw [get!_zeroVec]; exact hB

theorem vecBelow_mulVec {C : Ctx} {B : Nat} (hC : MulLinearOn C B) {x : Vec} (hx : VecBelow B x)
    {m : Nat} (hm : m < B) : VecBelow B (mulVec C x m) := by
  intro k hk
  have hk' : k < x.size := by simpa using hk
  rw [get!_mulVec C x m k hk']
  exact hC.lt _ _ (hx k hk') hm

theorem vecBelow_xorVec {C : Ctx} {B : Nat} (hC : MulLinearOn C B) {x y : Vec} (hx : VecBelow B x)
    (hy : VecBelow B y) : VecBelow B (xorVec x y) := by
  intro k hk
  have hk' : k < x.size := by simpa using hk
  rw [get!_xorVec x y k hk']
  exact hC.xor_lt (hx k hk') (hy.get hC.pos k)

theorem rowInv_vecBelow {C : Ctx} {B : Nat} (hC : MulLinearOn C B) (len : Nat) :
    RowInv C (VecBelow B) (· < B) len where
  zero := vecBelow_zeroVec hC.pos len
  mul := fun _ _ hx hm => vecBelow_mulVec hC hx hm
  xor := fun _ _ hx hy => vecBelow_xorVec hC hx hy

theorem symsBelow_replicate {B : Nat} (hB : 0 < B) (n len : Nat) :
    SymsBelow B (Array.replicate n (zeroVec len)) :=
  symsBelow_iff_allRows.mpr (allRows_replicate n (vecBelow_zeroVec hB len))

theorem symsBelow_xorRows {C : Ctx} {B : Nat} (hC : MulLinearOn C B) {a b : Array Vec}
    (ha : SymsBelow B a) (hb : SymsBelow B b) : SymsBelow B (xorRows a b) :=
  symsBelow_iff_allRows.mpr <|
    (symsBelow_iff_allRows.mp ha).zipWith (symsBelow_iff_allRows.mp hb) fun _ _ => vecBelow_xorVec hC

/-- the multiplier of a `loadMul` / `mulAdd` step is `< B` -/
def LogBelow (B : Nat) : Step → Prop
  | .loadMul _ _ m => m < B
  | .mulAdd _ _ m => m < B
  | _ => True

instance (B : Nat) (s : Step) : Decidable (LogBelow B s) := by
  cases s <;> unfold LogBelow <;> infer_instance

theorem LogBelow.mulOK {B : Nat} {s : Step} (h : LogBelow B s) : MulOK (· < B) s := by
  cases s <;> exact h

/-- every multiplier occurring in the schedule is `< B` -/
def LogsBelow (B : Nat) (steps : List Step) : Prop := ∀ s ∈ steps, LogBelow B s

/-- executable form of `LogsBelow` -/
def allLogsBelow (B : Nat) (steps : List Step) : Bool := steps.all fun s => decide (LogBelow B s)

theorem allLogsBelow_iff (B : Nat) (steps : List Step) :
    allLogsBelow B steps = true ↔ LogsBelow B steps := by
  simp [allLogsBelow, LogsBelow]

variable (C : Ctx)

/-- symbols stay below `B`; no `WF` / `InRange` hypothesis, because an out-of-range read yields the
empty row -/
theorem run_symsBelow {B : Nat} (hC : MulLinearOn C B) {len : Nat} {shards w : Array Vec}
    (hw : SymsBelow B w) (hs : SymsBelow B shards) {steps : List Step} (hl : LogsBelow B steps) :
    SymsBelow B (run C shards len w steps) :=
  run_rows C (rowInv_vecBelow hC len) hw hs (.inr (vecBelow_empty B)) fun s h => (hl s h).mulOK

/-- a row of `len` symbols, all `< B` -/
abbrev RowBelow (len B : Nat) (x : Vec) : Prop := x.size = len ∧ VecBelow B x

theorem rowInv_below {B : Nat} (hC : MulLinearOn C B) (len : Nat) :
    RowInv C (RowBelow len B) (· < B) len :=
  (rowInv_size C _ len).and (rowInv_vecBelow hC len)

theorem allRows_below {len B : Nat} {w : Array Vec} (hw : WF len w) (bw : SymsBelow B w) :
    AllRows (RowBelow len B) w := fun i hi => ⟨hw i hi, bw i hi⟩

theorem rowHom2On_xor_below {B : Nat} (hC : MulLinearOn C B) (len : Nat) :
    RowHom2On C (RowBelow len B) (RowBelow len B) (· < B) len len len xorVec :=
  rowHom2On_xor C (rowInv_below C hC len) (fun _ h => h.1) fun _ _ _ hx hy hm k hk =>
    hC.xor _ _ _ (hx.2 k (hx.1 ▸ hk)) (hy.2 k (hy.1 ▸ hk)) hm

theorem run_xorRows_on {B : Nat} (hC : MulLinearOn C B) {len : Nat} {s₁ s₂ w₁ w₂ : Array Vec}
    (hw₁ : WF len w₁) (hw₂ : WF len w₂) (hs₁ : WF len s₁) (hs₂ : WF len s₂)
    (bw₁ : SymsBelow B w₁) (bw₂ : SymsBelow B w₂) (bs₁ : SymsBelow B s₁) (bs₂ : SymsBelow B s₂)
    (hws : w₁.size = w₂.size) (hss : s₁.size = s₂.size) {steps : List Step}
    (hr : ∀ s ∈ steps, InRange w₁.size s₁.size s) (hl : LogsBelow B steps) :
    run C (xorRows s₁ s₂) len (xorRows w₁ w₂) steps =
      xorRows (run C s₁ len w₁ steps) (run C s₂ len w₂ steps) :=
  run_zipWith_on C (rowHom2On_xor_below C hC len) (allRows_below hw₁ bw₁) (allRows_below hw₂ bw₂)
    (allRows_below hs₁ bs₁) (allRows_below hs₂ bs₂) hws hss hr fun s h => (hl s h).mulOK

theorem encode_xorRows_on {B : Nat} (hC : MulLinearOn C B) {len : Nat} (d p : Nat)
    {s₁ s₂ : Array Vec} (hs₁ : WF len s₁) (hs₂ : WF len s₂)
    (bs₁ : SymsBelow B s₁) (bs₂ : SymsBelow B s₂) (hss : s₁.size = s₂.size)
    (hr : ∀ s ∈ (encodeSched C d p).toList, InRange (2 * ceilPow2 p) s₁.size s)
    (hl : LogsBelow B (encodeSched C d p).toList) :
    encode C d p len (xorRows s₁ s₂) = xorRows (encode C d p len s₁) (encode C d p len s₂) :=
  encode_zipWith_on C (rowHom2On_xor_below C hC len) d p (allRows_below hs₁ bs₁)
    (allRows_below hs₂ bs₂) hss hr fun s h => (hl s h).mulOK

theorem encode_symsBelow {B : Nat} (hC : MulLinearOn C B) {len : Nat} (d p : Nat)
    {data : Array Vec} (bs : SymsBelow B data) (hl : LogsBelow B (encodeSched C d p).toList) :
    SymsBelow B (encode C d p len data) :=
  symsBelow_iff_allRows.mpr <|
    (symsBelow_iff_allRows.mp (run_symsBelow C hC (symsBelow_replicate hC.pos _ len) bs hl)).extract 0 p

/-- The erasure set is the same on both sides.  The final multipliers `modulus - el[j]` are `< B` because
`modulus < B`. -/
theorem reconstruct_xorRows_on {B : Nat} (hC : MulLinearOn C B) (hmod : C.P.modulus < B)
    {len : Nat} (d p : Nat) {s₁ s₂ : Array Vec} (missing : Nat → Bool) (ra : Bool)
    (hs₁ : WF len s₁) (hs₂ : WF len s₂) (bs₁ : SymsBelow B s₁) (bs₂ : SymsBelow B s₂)
    (hss : s₁.size = s₂.size)
    (hp : p ≤ ceilPow2 p) (hn : ceilPow2 p + d ≤ ceilPow2 (ceilPow2 p + d))
    (hr : ∀ s ∈ (reconSched C d p missing (errLocs C d p missing)).toList,
      InRange (ceilPow2 (ceilPow2 p + d)) s₁.size s)
    (hl : LogsBelow B (reconSched C d p missing (errLocs C d p missing)).toList) :
    reconstruct C d p len (xorRows s₁ s₂) missing ra =
      Array.zipWith (optZip xorVec) (reconstruct C d p len s₁ missing ra)
        (reconstruct C d p len s₂ missing ra) :=
  reconstruct_zipWith_on C (rowHom2On_xor_below C hC len) d p missing ra (allRows_below hs₁ bs₁)
    (allRows_below hs₂ bs₂) hss (fun _ => Nat.lt_of_le_of_lt (Nat.sub_le _ _) hmod) hp hn hr
    fun s h => (hl s h).mulOK

end RSV.Proofs.LeoSched

#print axioms RSV.Proofs.LeoSched.run_symsBelow
#print axioms RSV.Proofs.LeoSched.run_xorRows_on
#print axioms RSV.Proofs.LeoSched.encode_xorRows_on
#print axioms RSV.Proofs.LeoSched.encode_symsBelow
#print axioms RSV.Proofs.LeoSched.reconstruct_xorRows_on
