import RSV.Model.Builders
import RSV.Proofs.Gauss
import RSV.Proofs.CodeTheory
import Mathlib.LinearAlgebra.Vandermonde
/-!
Over any `Field F`, with `x : ℕ → F` injective on the relevant range: `buildMatrix` (Vandermonde
times the inverse of its top square) never fails, and its entry `(r, c)` is the Lagrange basis
polynomial of node `x c` (nodes `x 0 … x (d-1)`) evaluated at `x r`.  Hence its top square is the
identity and its parity part is a Lagrange matrix, which `CodeTheory.lagr_mds` covers.  Before
that, the builders with closed-form entries (`buildMatrixCauchy`, `buildMatrixPAR1`,
`buildXorMatrix`): identity on top, the parity entries, and MDS for the Cauchy and xor parity parts.
-/

namespace RSV.Generators
open RSV.Model RSV.CodeTheory

section Generic
variable {F : Type} [Field F]

theorem npow_eq (a : F) : ∀ n : ℕ, npow a n = a ^ n
  | 0 => by simp [npow]
  | n+1 => by rw [npow, npow_eq a n, pow_succ]

@[simp] theorem vandermonde_get (x : ℕ → F) (rows cols : ℕ) (r : Fin rows) (c : Fin cols) :
    (vandermonde x rows cols).get r c = x r.val ^ c.val := by
  simp [vandermonde, npow_eq]

omit [Field F] in
@[simp] theorem topSquare_get {total d : ℕ} (h : d ≤ total) (A : Mat F total d) (i j : Fin d) :
    (topSquare h A).get i j = A.get ⟨i.val, Nat.lt_of_lt_of_le i.isLt h⟩ j := by
  simp [topSquare]

omit [Field F] in
@[simp] theorem parityPart_get {total d : ℕ} (p : ℕ) (h : d + p = total) (G : Mat F total d)
    (r : Fin p) (c : Fin d) :
    (parityPart p h G).get r c = G.get ⟨d + r.val, by omega⟩ c := by
  simp [parityPart]

theorem buildMatrixCauchy_top (x : ℕ → F) (d total : ℕ) (i : Fin total) (hi : i.val < d)
    (c : Fin d) : (buildMatrixCauchy x d total).get i c = if i.val = c.val then 1 else 0 := by
  simp [buildMatrixCauchy, hi]

theorem buildMatrixPAR1_top (x : ℕ → F) (d total : ℕ) (i : Fin total) (hi : i.val < d)
    (c : Fin d) : (buildMatrixPAR1 x d total).get i c = if i.val = c.val then 1 else 0 := by
  simp [buildMatrixPAR1, hi]

theorem buildXorMatrix_top (d total : ℕ) (i : Fin total) (hi : i.val < d)
    (c : Fin d) : (buildXorMatrix (F := F) d total).get i c = if i.val = c.val then 1 else 0 := by
  simp [buildXorMatrix, hi]

theorem buildMatrixCauchy_parity (x : ℕ → F) (d p : ℕ) (r : Fin p) (c : Fin d) :
    (parityPart p rfl (buildMatrixCauchy x d (d + p))).get r c = (x (d + r.val) - x c.val)⁻¹ := by
  simp [buildMatrixCauchy]

theorem buildMatrixPAR1_parity (x : ℕ → F) (d p : ℕ) (r : Fin p) (c : Fin d) :
    (parityPart p rfl (buildMatrixPAR1 x d (d + p))).get r c = (x (c.val + 1)) ^ r.val := by
  simp [buildMatrixPAR1, npow_eq]

theorem buildXorMatrix_parity (d p : ℕ) (r : Fin p) (c : Fin d) :
    (parityPart p rfl (buildXorMatrix (F := F) d (d + p))).get r c = 1 := by
  simp [buildXorMatrix]

theorem buildMatrixCauchy_parity_mds (x : ℕ → F) (d p : ℕ)
    (hinj : ∀ a b, a < d + p → b < d + p → x a = x b → a = b) :
    MDS (fun r c => (parityPart p rfl (buildMatrixCauchy x d (d + p))).get r c) := by
  have : (fun r c => (parityPart p rfl (buildMatrixCauchy x d (d + p))).get r c)
      = fun (r : Fin p) (c : Fin d) => ((fun r : Fin p => x (d + r.val)) r
          - (fun c : Fin d => x c.val) c)⁻¹ := by
    funext r c
    exact buildMatrixCauchy_parity x d p r c
  rw [this]
  exact cauchy_mds _ _ (nodes_injective x d fun a b ha hb => hinj a b (by omega) (by omega))
    (parityNodes x d p hinj).1 (parityNodes x d p hinj).2

theorem buildXorMatrix_parity_mds (x : ℕ → F) (d : ℕ)
    (hinj : ∀ a b, a < d → b < d → x a = x b → a = b) :
    MDS (fun r c => (parityPart 1 rfl (buildXorMatrix (F := F) d (d + 1))).get r c) := by
  have : (fun r c => (parityPart 1 rfl (buildXorMatrix (F := F) d (d + 1))).get r c)
      = fun (_ : Fin 1) (_ : Fin d) => (1 : F) := by
    funext r c
    exact buildXorMatrix_parity d 1 r c
  rw [this]
  exact ones_mds _ (nodes_injective x d hinj)

variable [DecidableEq F]

theorem buildMatrix_spec (x : ℕ → F) (d total : ℕ) (h : d ≤ total)
    (hinj : ∀ a b, a < d → b < d → x a = x b → a = b) :
    ∃ G, buildMatrix x d total h = some G ∧
      ∀ r c, G.get r c = lagrAt (fun c : Fin d => x c.val) (x r.val) c := by
  have hy := nodes_injective x d hinj
  have hW : ∀ c k : Fin d,
      (topSquare h (vandermonde x total d)).toMatrix c k = (x c.val) ^ k.val := by
    intro c k; simp
  have hWv : (topSquare h (vandermonde x total d)).toMatrix
      = Matrix.vandermonde (fun c : Fin d => x c.val) := by
    ext c k; rw [hW, Matrix.vandermonde_apply]
  have hdet : (topSquare h (vandermonde x total d)).toMatrix.det ≠ 0 := by
    rw [hWv]; exact Matrix.det_vandermonde_ne_zero_iff.mpr hy
  have hsome : (invert (topSquare h (vandermonde x total d))).isSome :=
    (invert_isSome_iff_det _).mpr (isUnit_iff_ne_zero.mpr hdet)
  obtain ⟨N, hN⟩ := Option.isSome_iff_exists.mp hsome
  refine ⟨mulMat (vandermonde x total d) N, ?_, ?_⟩
  · show (invert (topSquare h (vandermonde x total d))).map _ = _
    rw [hN]; rfl
  · intro r c
    have h1 : (mulMat (vandermonde x total d) N).get r c
        = ∑ k : Fin d, (x r.val) ^ k.val * N.toMatrix k c := by
      simp [mulMat, finSum_eq_sum]
    rw [h1]
    exact vandermonde_quotient _ hy _ hW N.toMatrix (invert_sound' _ N hN) (x r.val) c

theorem buildMatrix_entry (x : ℕ → F) (d total : ℕ) (h : d ≤ total)
    (hinj : ∀ a b, a < d → b < d → x a = x b → a = b)
    (G : Mat F total d) (hG : buildMatrix x d total h = some G) (r : Fin total) (c : Fin d) :
    G.get r c = lagrAt (fun c : Fin d => x c.val) (x r.val) c := by
  obtain ⟨G', hG', hE⟩ := buildMatrix_spec x d total h hinj
  rw [hG] at hG'
  cases hG'
  exact hE r c

theorem buildMatrix_top (x : ℕ → F) (d total : ℕ) (h : d ≤ total)
    (hinj : ∀ a b, a < d → b < d → x a = x b → a = b)
    (G : Mat F total d) (hG : buildMatrix x d total h = some G) (i : Fin total) (hi : i.val < d)
    (c : Fin d) : G.get i c = if i.val = c.val then 1 else 0 := by
  rw [buildMatrix_entry x d total h hinj G hG]
  have := lagrAt_node (fun c : Fin d => x c.val) (nodes_injective x d hinj) ⟨i.val, hi⟩ c
  simp only [Fin.ext_iff] at this
  exact this

/-- `G · (top Vandermonde square) = Vandermonde`, i.e. `G = vandermonde · top⁻¹` -/
theorem buildMatrix_mul_vandermonde (x : ℕ → F) (d total : ℕ) (h : d ≤ total)
    (hinj : ∀ a b, a < d → b < d → x a = x b → a = b)
    (G : Mat F total d) (hG : buildMatrix x d total h = some G) (r : Fin total) (k : Fin d) :
    ∑ c : Fin d, G.get r c * (x c.val) ^ k.val = (x r.val) ^ k.val := by
  simp only [buildMatrix_entry x d total h hinj G hG]
  exact sum_lagrAt_mul_pow (fun c : Fin d => x c.val) (nodes_injective x d hinj) (x r.val)
    k.val k.isLt

theorem buildMatrix_parity_mds (x : ℕ → F) (d p : ℕ)
    (hinj : ∀ a b, a < d + p → b < d + p → x a = x b → a = b)
    (G : Mat F (d + p) d) (hG : buildMatrix x d (d + p) (Nat.le_add_right d p) = some G) :
    MDS (fun r c => (parityPart p rfl G).get r c) := by
  have hinj' : ∀ a b, a < d → b < d → x a = x b → a = b :=
    fun a b ha hb => hinj a b (by omega) (by omega)
  have : (fun r c => (parityPart p rfl G).get r c)
      = lagr (fun c : Fin d => x c.val) (fun r : Fin p => x (d + r.val)) := by
    funext r c
    rw [parityPart_get, buildMatrix_entry x d _ _ hinj' G hG]
    rfl
  rw [this]
  exact lagr_mds _ _ (nodes_injective x d hinj') (parityNodes x d p hinj).1 (parityNodes x d p hinj).2

end Generic

end RSV.Generators

#print axioms RSV.Generators.npow_eq
#print axioms RSV.Generators.buildMatrix_spec
#print axioms RSV.Generators.buildMatrix_top
#print axioms RSV.Generators.buildMatrix_mul_vandermonde
#print axioms RSV.Generators.buildMatrix_parity_mds
#print axioms RSV.Generators.buildMatrixCauchy_parity_mds
#print axioms RSV.Generators.buildXorMatrix_parity_mds
