import RSV.Gen.ApiGo
import RSV.Proofs.ApiShape
/-!
# The regenerated argument-validation helpers of `reedsolomon.go` (`RSV.Gen.ApiGo`) equal the model (`RSV.Model.Api`)

`RSV.Gen.ApiGo` is regenerated on every run from `reedsolomon.go` by the shape mode of the Go-subset → Lean
translator: a `[][]byte` parameter is the array of the LENGTHS of its shards (the translator rejects every other
use of a shard), loops are `forIn` over index ranges in the `Option` monad (`none` = panic), `error` is
`Option String` (the name of the Go sentinel variable).  Core Lean only; nothing of `MatrixGo` is imported.

`forIn_range_shIdx` turns a translated `for _, shard := range shards` (a loop over the index
range that first reads `shards[i]`) into a `forIn` over the LIST of lengths; the closed form of each loop is then an
induction over the list.
-/
namespace RSV.GenApi
open RSV.Gen
open RSV.Model.Api (Sh E)

def lens (s : List Sh) : Array Nat := (s.map Sh.len).toArray

/-- the Go variable that holds the sentinel error -/
def errName : E → String
  | .tooFewShards => "ErrTooFewShards"
  | .shardNoData => "ErrShardNoData"
  | .shardSize => "ErrShardSize"
  | .invalidShardSize => "ErrInvalidShardSize"
  | .invShardNum => "ErrInvShardNum"
  | .maxShardNum => "ErrMaxShardNum"
  | .invalidInput => "ErrInvalidInput"
  | .shortData => "ErrShortData"
  | .reconstructRequired => "ErrReconstructRequired"
  | .notSupported => "ErrNotSupported"
  | .reconMismatch => "ErrReconstructMismatch"
  | .other => "other"

theorem shIdx_nat {α : Type} [Inhabited α] (a : Array α) (i : Nat) (h : i < a.size) :
    shIdx a (Int.ofNat i) = some a[i] := by
  unfold shIdx
  have h0 : (0 : Int) ≤ Int.ofNat i := Int.natCast_nonneg i
  have h1 : Int.toNat (Int.ofNat i) = i := Int.toNat_natCast i
  simp only [h0, h1, h, and_self, if_true]
  rw [getElem!_pos a i h]

theorem forIn_range'_shIdx {β : Type} (l : List Nat) (body : Nat → β → Option (ForInStep β)) :
    ∀ (n s : Nat) (b : β), s + n = l.length →
      forIn (List.range' s n 1) b (fun i r => (shIdx l.toArray (Int.ofNat i)).bind fun x => body x r)
        = forIn (l.drop s) b body := by
  intro n
  induction n with
  | zero =>
    intro s b h
    have : l.drop s = [] := List.drop_eq_nil_of_le (by omega)
    rw [this]; rfl
  | succ n ih =>
    intro s b h
    have hs : s < l.length := by omega
    rw [List.range'_succ, List.drop_eq_getElem_cons hs, List.forIn_cons, List.forIn_cons,
      shIdx_nat l.toArray s (by simpa using hs)]
    simp only [Option.bind_eq_bind, Option.bind_some, List.getElem_toArray]
    cases body l[s] b with
    | none => rfl
    | some st =>
      cases st with
      | done b' => rfl
      | yield b' =>
        simp only [Option.bind_some]
        exact ih (s + 1) b' (by omega)

theorem forIn_range_shIdx {β : Type} (l : List Nat) (body : Nat → β → Option (ForInStep β)) (b : β) :
    forIn [:l.toArray.size] b (fun i r => (shIdx l.toArray (Int.ofNat i)).bind fun x => body x r)
      = forIn l b body := by
  rw [Std.Legacy.Range.forIn_eq_forIn_range']
  simp only [Std.Legacy.Range.size, List.size_toArray, Nat.sub_zero, Nat.add_sub_cancel, Nat.div_one]
  have := forIn_range'_shIdx l body l.length 0 b (by omega)
  simpa using this

theorem shardSize_loop (s : List Sh) :
    forIn (s.map Sh.len) ((none : Option Int), ()) (fun shard (_ : Option Int × Unit) =>
        if Int.ofNat shard ≠ 0 then (pure (ForInStep.done (some (Int.ofNat shard), ())) : Option _)
        else pure (ForInStep.yield (none, ())))
      = some (if Model.Api.shardSize s = 0 then none else some (Int.ofNat (Model.Api.shardSize s)), ()) := by
  induction s with
  | nil => rfl
  | cons x t ih =>
    rw [List.map_cons, List.forIn_cons]
    rw [Model.Api.shardSize_cons]
    by_cases hx : x.len = 0
    · have h1 : ¬ (Int.ofNat x.len ≠ 0) := by simp [hx]
      rw [if_neg h1, if_neg (not_not_intro hx)]
      simpa using ih
    · have h1 : Int.ofNat x.len ≠ 0 := fun h => hx (Int.ofNat.inj h)
      rw [if_pos h1, if_pos hx, if_neg hx]
      rfl

theorem shardSize_eq (s : List Sh) : Gen.shardSize (lens s) = some (Int.ofNat (Model.Api.shardSize s)) := by
  unfold Gen.shardSize lens
  simp only [Option.bind_eq_bind]
  rw [forIn_range_shIdx (s.map Sh.len), shardSize_loop]
  by_cases h : Model.Api.shardSize s = 0
  · simp [h]
  · simp [h]

theorem checkShards_loop (n : Nat) (nilok : Bool) (s : List Sh) :
    forIn (s.map Sh.len) ((none : Option (Option String)), ()) (fun shard (_ : Option (Option String) × Unit) =>
        if Int.ofNat shard ≠ Int.ofNat n then
          if Int.ofNat shard ≠ 0 ∨ (!nilok) = true then
            (pure (ForInStep.done (some (some "ErrShardSize"), ())) : Option _)
          else pure (ForInStep.yield (none, ()))
        else pure (ForInStep.yield (none, ())))
      = some (if s.any (fun x => x.len ≠ n && (x.len ≠ 0 || !nilok)) then some (some "ErrShardSize") else none, ()) := by
  induction s with
  | nil => rfl
  | cons x t ih =>
    rw [List.map_cons, List.forIn_cons, List.any_cons]
    have e1 : (Int.ofNat x.len ≠ Int.ofNat n) ↔ x.len ≠ n := by
      constructor
      · intro h e; exact h (by rw [e])
      · intro h e; exact h (Int.ofNat.inj e)
    have e2 : (Int.ofNat x.len ≠ 0) ↔ x.len ≠ 0 := by
      constructor
      · intro h e; exact h (by rw [e]; rfl)
      · intro h e; exact h (Int.ofNat.inj e)
    by_cases h1 : x.len = n
    · have : ¬ (Int.ofNat x.len ≠ Int.ofNat n) := by rw [e1]; exact fun h => h h1
      rw [if_neg this]
      simpa [h1] using ih
    · rw [if_pos (e1.mpr h1)]
      by_cases h2 : x.len ≠ 0 ∨ (!nilok) = true
      · have : Int.ofNat x.len ≠ 0 ∨ (!nilok) = true := h2.imp e2.mpr id
        rw [if_pos this]
        have hb : (decide (x.len ≠ n) && (decide (x.len ≠ 0) || !nilok)) = true := by
          rcases h2 with h2 | h2 <;> simp [h1, h2]
        rw [hb]
        rfl
      · have : ¬ (Int.ofNat x.len ≠ 0 ∨ (!nilok) = true) := fun h => h2 (h.imp e2.mp id)
        rw [if_neg this]
        have hb : (decide (x.len ≠ n) && (decide (x.len ≠ 0) || !nilok)) = false := by
          have a1 : ¬ x.len ≠ 0 := fun h => h2 (Or.inl h)
          have a2 : ¬ (!nilok) = true := fun h => h2 (Or.inr h)
          simp [a1, a2]
        rw [hb]
        simpa using ih

theorem checkShards_eq (s : List Sh) (nilok : Bool) :
    Gen.checkShards (lens s) nilok = some ((Model.Api.checkShards s nilok).map errName) := by
  unfold Gen.checkShards
  rw [shardSize_eq]
  simp only [Option.bind_eq_bind, Option.bind_some]
  rw [Model.Api.checkShards_eq]
  by_cases h0 : Model.Api.shardSize s = 0
  · have : Int.ofNat (Model.Api.shardSize s) = 0 := by rw [h0]; rfl
    rw [if_pos this, if_pos h0]
    rfl
  · have : ¬ Int.ofNat (Model.Api.shardSize s) = 0 := fun e => h0 (Int.ofNat.inj e)
    rw [if_neg this, if_neg h0]
    unfold lens
    rw [forIn_range_shIdx (s.map Sh.len), checkShards_loop]
    by_cases ha : (s.any fun x => decide (x.len ≠ Model.Api.shardSize s) && (decide (x.len ≠ 0) || !nilok)) = true
    · rw [if_pos ha, if_pos ha]; rfl
    · rw [if_neg ha, if_neg ha]; rfl

theorem shardSize_lt (s : List Sh) (h63 : ∀ x ∈ s, x.len < 2 ^ 63) : Model.Api.shardSize s < 2 ^ 63 := by
  by_cases h0 : Model.Api.shardSize s = 0
  · rw [h0]; exact Nat.two_pow_pos 63
  · obtain ⟨z, hz, e⟩ := Model.Api.shardSize_mem s h0
    rw [← e]; exact h63 z hz

/-- `errName` separates the three results `checkShards` has -/
theorem checkShards_iff (s : List Sh) (nilok : Bool) (o : Option E)
    (ho : o = none ∨ o = some E.shardNoData ∨ o = some E.shardSize) :
    Gen.checkShards (lens s) nilok = some (o.map errName) ↔ Model.Api.checkShards s nilok = o := by
  rw [checkShards_eq]
  rcases Model.Api.checkShards_cases s nilok with h | h | h <;> rw [h] <;>
    rcases ho with rfl | rfl | rfl <;> simp [errName]

end RSV.GenApi
