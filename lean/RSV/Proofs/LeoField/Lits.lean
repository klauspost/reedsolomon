import RSV.Model.LeoCert
/-!
The `log` and `exp` tables of Leopard's GF(2^8) as literals: reference data that no proof uses
(`RSV.Proofs.LeoPres` characterises every entry of `Leo.initLUTs Leo.P8` without evaluating it).
-/
namespace RSV.Proofs.LeoField

def logLit : List Nat :=
 [255, 0, 85, 170, 17, 68, 34, 136, 153, 119, 102, 221, 51, 238, 187, 204, 219, 189, 7, 112, 111, 246, 28, 193, 183, 123,
 224, 14, 131, 56, 222, 237, 196, 23, 76, 113, 54, 208, 99, 13, 19, 92, 49, 197, 67, 216, 52, 141, 137, 46, 226, 152,
 26, 198, 108, 161, 27, 104, 134, 177, 38, 184, 139, 98, 241, 210, 254, 24, 31, 45, 239, 129, 73, 236, 200, 8, 148, 206,
 140, 128, 199, 75, 251, 96, 180, 124, 6, 191, 35, 32, 37, 179, 2, 50, 59, 82, 227, 165, 48, 253, 3, 223, 62, 90, 1, 25,
 41, 157, 146, 217, 16, 145, 164, 118, 4, 100, 70, 64, 103, 74, 143, 150, 192, 247, 127, 12, 105, 248, 160, 81, 29, 181,
 167, 87, 144, 135, 10, 21, 209, 91, 122, 117, 9, 120, 242, 86, 126, 110, 53, 147, 88, 175, 101, 47, 230, 231, 57, 83,
 250, 133, 130, 69, 116, 214, 93, 158, 30, 66, 71, 109, 40, 84, 225, 36, 213, 233, 78, 212, 190, 97, 203, 89, 249, 185,
 22, 235, 77, 228, 155, 159, 149, 188, 65, 162, 107, 58, 15, 33, 79, 174, 240, 18, 244, 234, 20, 42, 182, 163, 11, 245,
 114, 166, 202, 94, 207, 205, 229, 172, 220, 252, 95, 176, 106, 39, 121, 43, 55, 63, 44, 215, 201, 154, 156, 169, 194,
 125, 115, 243, 151, 178, 5, 138, 173, 232, 132, 60, 186, 61, 211, 171, 195, 72, 142, 218, 168, 80]

def expLit : List Nat :=
 [1, 104, 92, 100, 114, 240, 86, 18, 75, 142, 136, 208, 125, 39, 27, 196, 110, 4, 201, 40, 204, 137, 184, 33, 67, 105,
 52, 56, 22, 130, 166, 68, 89, 197, 6, 88, 173, 90, 60, 223, 170, 106, 205, 225, 228, 69, 49, 153, 98, 42, 93, 12, 46,
 148, 36, 226, 29, 156, 195, 94, 245, 247, 102, 227, 117, 192, 167, 44, 5, 161, 116, 168, 251, 72, 119, 81, 34, 186,
 176, 198, 255, 129, 95, 157, 171, 2, 145, 133, 150, 181, 103, 139, 41, 164, 213, 220, 83, 179, 63, 38, 115, 152, 10,
 118, 57, 126, 222, 194, 54, 169, 147, 20, 19, 35, 210, 236, 162, 141, 113, 9, 143, 224, 140, 25, 85, 235, 146, 124, 79,
 71, 160, 28, 244, 159, 58, 135, 7, 48, 241, 62, 78, 47, 252, 120, 134, 111, 108, 149, 76, 190, 121, 238, 51, 8, 231,
 188, 232, 107, 165, 189, 128, 55, 193, 207, 112, 97, 211, 132, 254, 233, 3, 249, 217, 242, 199, 151, 221, 59, 239, 91,
 84, 131, 206, 24, 61, 183, 246, 14, 191, 17, 178, 87, 122, 23, 234, 250, 32, 43, 53, 80, 74, 230, 212, 180, 15, 215,
 77, 214, 37, 138, 65, 248, 177, 174, 163, 229, 45, 109, 253, 16, 218, 11, 30, 101, 26, 172, 50, 96, 187, 216, 154, 155,
 243, 175, 203, 185, 73, 31, 13, 70, 200, 64, 144, 237, 202, 209, 21, 123, 127, 182, 158, 82, 219, 99, 66, 1]

end RSV.Proofs.LeoField
