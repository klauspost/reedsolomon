import RSV.Proofs.Basics
/-! Bounds on the nibbles of a value, and a byte as the xor of its two nibbles. -/
namespace RSV.Proofs.LeoField

theorem shr_lt {a k n : Nat} (h : a < 2 ^ (n + k)) : a >>> k < 2 ^ n := by
  rw [Nat.shiftRight_eq_div_pow, Nat.div_lt_iff_lt_mul (Nat.two_pow_pos k), ← Nat.pow_add]; exact h

theorem shl_lt {x n : Nat} (h : x < 2 ^ n) (s : Nat) : x <<< s < 2 ^ (n + s) := by
  rw [Nat.shiftLeft_eq, Nat.pow_add]; exact Nat.mul_lt_mul_of_pos_right h (Nat.two_pow_pos s)

theorem byte_nibbles (a : Nat) : (a &&& 15) ^^^ ((a >>> 4) <<< 4) = a := BF.split_low a 4

end RSV.Proofs.LeoField
