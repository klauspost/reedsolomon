import RSV.Proofs.CodeTheory
/-!
# Transport along a map `φ` of Leopard symbols into a semiring

`φ` is additive for xor, multiplicative for the symbol product `mul` below `B`, and injective below `B`
(for Leopard: the Cantor map into `GF256` / `GF65536`).  Parity equations computed in Leopard's arithmetic
become the equations of the images, and the evaluation points `r`, `m + c` of a generator stay distinct.
-/
namespace RSV.Proofs.LeoField

variable {K : Type} (φ : Nat → K) (B : Nat)

section dot
variable [Semiring K] (mul : Nat → Nat → Nat) (hx : ∀ a b, φ (a ^^^ b) = φ a + φ b)
  (hm : ∀ a b, a < B → b < B → φ (mul a b) = φ a * φ b)
include hx hm

theorem map_xorDot {ι : Type} (l : List ι) (g t : ι → Nat) (hg : ∀ c, g c < B) (ht : ∀ c, t c < B) :
    ∀ acc, φ (l.foldl (fun acc c => acc ^^^ mul (g c) (t c)) acc) =
      φ acc + (l.map fun c => φ (g c) * φ (t c)).sum := by
  induction l with
  | nil => intro acc; simp
  | cons x l ih =>
    intro acc
    simp only [List.foldl_cons, List.map_cons, List.sum_cons]
    rw [ih, hx, hm _ _ (hg x) (ht x), add_assoc]

theorem map_xorDot_fin (h0 : φ 0 = 0) {d : ℕ} (g t : Fin d → Nat) (hg : ∀ c, g c < B) (ht : ∀ c, t c < B) :
    φ ((List.finRange d).foldl (fun acc c => acc ^^^ mul (g c) (t c)) 0) = ∑ c, φ (g c) * φ (t c) := by
  rw [map_xorDot φ B mul hx hm _ g t hg ht, h0, zero_add, Fin.sum_univ_def]

end dot

section points
variable (hφ : ∀ a b, a < B → b < B → φ a = φ b → a = b)
include hφ

theorem injective_shift {d m : ℕ} (h : d + m ≤ B) : Function.Injective fun c : Fin d => φ (m + c.val) := by
  intro a b hab
  have := hφ (m + a.val) (m + b.val) (by omega) (by omega) hab
  exact Fin.ext (by omega)

theorem injective_some {p : ℕ} (h : p ≤ B) : Function.Injective fun r : Fin p => some (φ r.val) := by
  intro a b hab
  exact Fin.ext (hφ a.val b.val (by omega) (by omega) (Option.some.inj hab))

theorem some_ne_shift {d p m : ℕ} (hpm : p ≤ m) (h : d + m ≤ B) (r : Fin p) (c : Fin d) :
    some (φ r.val) ≠ some (φ (m + c.val)) := by
  intro hab
  have := hφ r.val (m + c.val) (by omega) (by omega) (Option.some.inj hab)
  omega

/-- symbols below `B` whose images are the message of an MDS code are determined by any `d` coordinates, the parity
coordinate `r` being the image of a value `e t r` computed on the symbols -/
theorem eq_of_MDS [Field K] {d p : ℕ} {A : Fin p → Fin d → K} (hM : CodeTheory.MDS A) (e : (Fin d → ℕ) → Fin p → ℕ)
    (he : ∀ t, (∀ c, t c < B) → ∀ r, φ (e t r) = CodeTheory.cw A (fun c => φ (t c)) (Sum.inr r))
    (S : Finset (Fin d ⊕ Fin p)) (hS : S.card = d) (t t' : Fin d → ℕ) (ht : ∀ c, t c < B) (ht' : ∀ c, t' c < B)
    (hdata : ∀ c, Sum.inl c ∈ S → t c = t' c) (hpar : ∀ r, Sum.inr r ∈ S → e t r = e t' r) : t = t' := by
  have := hM.unique S hS (fun c => φ (t c)) (fun c => φ (t' c)) (by
    intro i hi
    rcases i with c | r
    · simp only [CodeTheory.cw_inl]; rw [hdata c hi]
    · rw [← he t ht r, ← he t' ht' r, hpar r hi])
  funext c
  exact hφ _ _ (ht c) (ht' c) (congrFun this c)

end points
end RSV.Proofs.LeoField
