import RSV.Proofs.LeoPres.Loops
/-!
# Leopard: the `Id.run` loop of `nibbleProducts` (structural, any parameters)

The `for` loops are rewritten to `List.foldl` over `List.range'`; `nibbleProducts` is then a fold of
`set!`s (every index written once: `LeoPres/Loops.lean`).
-/
namespace RSV.Proofs.LeoField
open RSV.Model RSV.Proofs.LeoPres

/-- the double loop of `nibbleProducts`: every index `nib·16 + x` is written once, with `g nib x` -/
theorem nib_fold (g : Nat → Nat → Nat) (A : Nat) (t : Array Nat) (ht : A * 16 ≤ t.size) :
    ((List.range' 0 A).foldl (fun b nib =>
        (List.range' 0 16).foldl (fun b x => b.set! (nib * 16 + x) (g nib x)) b) t).size = t.size ∧
    ∀ n x, n < A → x < 16 → ((List.range' 0 A).foldl (fun b nib =>
        (List.range' 0 16).foldl (fun b x => b.set! (nib * 16 + x) (g nib x)) b) t)[n * 16 + x]! = g n x := by
  induction A with
  | zero => exact ⟨rfl, fun n x hn => absurd hn (Nat.not_lt_zero n)⟩
  | succ A ih =>
    obtain ⟨hs, hg⟩ := ih (by omega)
    rw [List.range'_1_concat (s := 0) (n := A), List.foldl_append]
    simp only [List.foldl_cons, List.foldl_nil, Nat.zero_add]
    refine ⟨by rw [foldl_setg_size (fun x => A * 16 + x), hs], fun n x hn hx => ?_⟩
    by_cases hnA : n = A
    · subst hnA
      exact foldl_setg_hit (fun x => n * 16 + x) (g n) _ x (List.mem_range'_1.mpr ⟨Nat.zero_le _, by omega⟩)
        (fun y _ hy => by rw [show y = x by omega]) _ (by rw [hs]; omega)
    · rw [foldl_setg_skip (fun x => A * 16 + x) (g A) (n * 16 + x) _
        (fun z hz => by have := (List.mem_range'_1.mp hz).2; omega)]
      exact hg n x (by omega) hx

theorem nib_get (P : Leo.Params) (T : Leo.LUTs) (m nib x : Nat) (hn : nib < 4) (hx : x < 16) :
    (Leo.nibbleProducts P T m)[nib * 16 + x]! = Leo.mulLog P T ((x <<< (4 * nib)) % P.order) m := by
  unfold Leo.nibbleProducts
  simp only [Std.Legacy.Range.forIn_eq_forIn_range', Std.Legacy.Range.size,
    List.forIn_pure_yield_eq_foldl, pure_bind, bind_pure, Id.run_pure, Nat.sub_zero,
    Nat.add_one_sub_one, Nat.div_one]
  exact (nib_fold (fun nib x => Leo.mulLog P T ((x <<< (4 * nib)) % P.order) m) 4
    (Array.replicate 64 0) (by simp)).2 nib x hn hx

theorem nib_0 (P : Leo.Params) (T : Leo.LUTs) (m x : Nat) (hx : x < 16) :
    (Leo.nibbleProducts P T m)[x]! = Leo.mulLog P T (x % P.order) m := by
  simpa using nib_get P T m 0 x (by decide) hx

theorem nib_1 (P : Leo.Params) (T : Leo.LUTs) (m x : Nat) (hx : x < 16) :
    (Leo.nibbleProducts P T m)[x + 16]! = Leo.mulLog P T ((x <<< 4) % P.order) m := by
  simpa [Nat.add_comm] using nib_get P T m 1 x (by decide) hx

theorem nib_2 (P : Leo.Params) (T : Leo.LUTs) (m x : Nat) (hx : x < 16) :
    (Leo.nibbleProducts P T m)[x + 32]! = Leo.mulLog P T ((x <<< 8) % P.order) m := by
  simpa [Nat.add_comm] using nib_get P T m 2 x (by decide) hx

theorem nib_3 (P : Leo.Params) (T : Leo.LUTs) (m x : Nat) (hx : x < 16) :
    (Leo.nibbleProducts P T m)[x + 48]! = Leo.mulLog P T ((x <<< 12) % P.order) m := by
  simpa [Nat.add_comm] using nib_get P T m 3 x (by decide) hx

end RSV.Proofs.LeoField
