import RSV.Model.LeoCert
/-!
# The Cantor map of Leopard is an xor-linear bijection of `[0, 2^k)` (any parameters)

`Leo.cantorMap P a` is the xor of the basis constants `P.cantor[b]` over the set bits `b` of `a`.  It is
xor-linear; `CantorInv P Pinv k` says that `Pinv.cantor` is the inverse basis, checked on the `k` unit vectors
`2^i` for a concrete `P`, and gives the two-sided inverse `cantorMap Pinv` on all `k`-bit values
(`BF.ext_of_basis`).
-/
namespace RSV.Proofs.LeoField
open RSV.Model

theorem xor4 (a b c : Nat) : (a ^^^ b) ^^^ c = (a ^^^ c) ^^^ b := by ac_rfl

theorem xor_xor_xor (a b c : Nat) : (a ^^^ b) ^^^ (c ^^^ c) = a ^^^ b := by simp

theorem ite_xor_zero (p : Bool) (a c : Nat) : (if p then a ^^^ c else a) = a ^^^ (if p then c else 0) := by
  cases p <;> simp

theorem cantor_fold_xor (cb : Array Nat) (i j : Nat) (l : List Nat) : ∀ a b,
    l.foldl (fun acc k => if (i ^^^ j).testBit k then acc ^^^ cb[k]! else acc) (a ^^^ b) =
      l.foldl (fun acc k => if i.testBit k then acc ^^^ cb[k]! else acc) a ^^^
      l.foldl (fun acc k => if j.testBit k then acc ^^^ cb[k]! else acc) b := by
  induction l with
  | nil => intro a b; rfl
  | cons x l ih =>
    intro a b
    simp only [List.foldl_cons]
    rw [← ih]
    congr 1
    rw [ite_xor_zero, ite_xor_zero, ite_xor_zero, Nat.testBit_xor, BF.ite_bxor, BF.xor_xor_xor_comm]

theorem cantorMap_xor (P : Leo.Params) (i j : Nat) :
    Leo.cantorMap P (i ^^^ j) = Leo.cantorMap P i ^^^ Leo.cantorMap P j := by
  unfold Leo.cantorMap
  have := cantor_fold_xor P.cantor i j (List.range P.bits) 0 0
  simpa using this

theorem cantorMap_zero (P : Leo.Params) : Leo.cantorMap P 0 = 0 := by
  have := cantorMap_xor P 0 0
  simpa using this

theorem cantor_fold_lt (cb : Array Nat) (i n : Nat) (l : List Nat) (h : ∀ k ∈ l, cb[k]! < 2 ^ n) :
    ∀ a, a < 2 ^ n → l.foldl (fun acc k => if i.testBit k then acc ^^^ cb[k]! else acc) a < 2 ^ n := by
  induction l with
  | nil => intro a ha; exact ha
  | cons x l ih =>
    intro a ha
    simp only [List.foldl_cons]
    apply ih (fun k hk => h k (List.mem_cons_of_mem _ hk))
    split
    · exact Nat.xor_lt_two_pow ha (h x List.mem_cons_self)
    · exact ha

/-- `Pinv.cantor` is the inverse of the `k`-bit basis `P.cantor`, whose first element is `1` -/
structure CantorInv (P Pinv : Leo.Params) (k : Nat) : Prop where
  bits : P.bits = k
  ibits : Pinv.bits = k
  lt : ∀ i, i < k → P.cantor[i]! < 2 ^ k
  ilt : ∀ i, i < k → Pinv.cantor[i]! < 2 ^ k
  one : Leo.cantorMap P 1 = 1
  two_pow : ∀ i, i < k → Leo.cantorMap P (2 ^ i) = P.cantor[i]!
  left : ∀ i, i < k → Leo.cantorMap Pinv (Leo.cantorMap P (2 ^ i)) = 2 ^ i
  right : ∀ i, i < k → Leo.cantorMap P (Leo.cantorMap Pinv (2 ^ i)) = 2 ^ i

namespace CantorInv
variable {P Pinv : Leo.Params} {k : Nat} (h : CantorInv P Pinv k)
include h

theorem cm_lt (a : Nat) : Leo.cantorMap P a < 2 ^ k := by
  unfold Leo.cantorMap
  refine cantor_fold_lt P.cantor a k _ (fun i hi => h.lt i ?_) 0 (Nat.two_pow_pos k)
  rw [← h.bits]; exact List.mem_range.mp hi

theorem cmi_lt (v : Nat) : Leo.cantorMap Pinv v < 2 ^ k := by
  unfold Leo.cantorMap
  refine cantor_fold_lt Pinv.cantor v k _ (fun i hi => h.ilt i ?_) 0 (Nat.two_pow_pos k)
  rw [← h.ibits]; exact List.mem_range.mp hi

theorem cm_cmi {v : Nat} (hv : v < 2 ^ k) : Leo.cantorMap P (Leo.cantorMap Pinv v) = v :=
  RSV.BF.ext_of_basis (fun v => Leo.cantorMap P (Leo.cantorMap Pinv v)) (fun v => v)
    (fun x y => by simp only [cantorMap_xor]) (fun _ _ => rfl) k h.right v hv

theorem cmi_cm {a : Nat} (ha : a < 2 ^ k) : Leo.cantorMap Pinv (Leo.cantorMap P a) = a :=
  RSV.BF.ext_of_basis (fun v => Leo.cantorMap Pinv (Leo.cantorMap P v)) (fun v => v)
    (fun x y => by simp only [cantorMap_xor]) (fun _ _ => rfl) k h.left a ha

theorem cm_inj {a b : Nat} (ha : a < 2 ^ k) (hb : b < 2 ^ k)
    (e : Leo.cantorMap P a = Leo.cantorMap P b) : a = b := by
  rw [← h.cmi_cm ha, ← h.cmi_cm hb, e]

theorem cm_ne_zero {a : Nat} (h0 : a ≠ 0) (ha : a < 2 ^ k) : Leo.cantorMap P a ≠ 0 :=
  fun e => h0 (h.cm_inj ha (Nat.two_pow_pos k) (e.trans (cantorMap_zero P).symm))

theorem cmi_ne_zero {v : Nat} (h0 : v ≠ 0) (hv : v < 2 ^ k) : Leo.cantorMap Pinv v ≠ 0 := by
  intro e
  apply h0
  rw [← h.cm_cmi hv, e, cantorMap_zero]

theorem cmi_one (hk : 0 < k) : Leo.cantorMap Pinv 1 = 1 := by
  rw [← h.one, h.cmi_cm (Nat.one_lt_two_pow (Nat.ne_of_gt hk)), h.one]

theorem cm_add_two_pow {i j : Nat} (hi : i < k) (hj : j < 2 ^ i) :
    Leo.cantorMap P (j + 2 ^ i) = Leo.cantorMap P j ^^^ P.cantor[i]! := by
  rw [Nat.add_comm, BF.two_pow_add_eq_xor hj, Nat.xor_comm, cantorMap_xor, h.two_pow i hi]

end CantorInv
end RSV.Proofs.LeoField
