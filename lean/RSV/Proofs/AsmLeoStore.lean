import RSV.Proofs.AsmLeoStepV
/-!
Checker for the remaining amd64 kernels: stores (canonical-form comparison against the
descriptor's expected expression) and the simulation lemmas for one instruction and for
straight-line segments.
-/
namespace RSV.Asm.Leo

variable {c : Ctx} {it : Nat} {σ σ' : SymState} {s : State} {loop : Bool}

theorem chunk_arith {B w it o q : Nat} (hwf : w * (B / w) = B ∧ 0 < w ∧ 0 < B) (hmod : o % w = 0)
    (hle : o + w ≤ B) (hq : q < w) :
    (B * it + o + q) / B * B = B * it ∧ (B * it + o + q) % w = q ∧ (B * it + o + q) % B / w * w = o := by
  obtain ⟨hB, hw, hBpos⟩ := hwf
  have hoq : o + q < B := by omega
  have e1 : (B * it + o + q) / B = it := by
    rw [Nat.add_assoc, Nat.mul_add_div hBpos, Nat.div_eq_of_lt hoq, Nat.add_zero]
  have e2 : (B * it + o + q) % B = o + q := by
    rw [Nat.add_assoc, Nat.mul_add_mod, Nat.mod_eq_of_lt hoq]
  have ho : o = w * (o / w) := by have := Nat.div_add_mod o w; omega
  refine ⟨by rw [e1, Nat.mul_comm], ?_, ?_⟩
  · have : B * it + o + q = w * (B / w * it + o / w) + q := by
      rw [Nat.mul_add, ← Nat.mul_assoc, hB, ← ho]
    rw [this, Nat.mul_add_mod, Nat.mod_eq_of_lt hq]
  · rw [e2]
    have : (o + q) / w = o / w := by
      rw [ho, Nat.mul_add_div hw, Nat.div_eq_of_lt hq, Nat.add_zero, Nat.mul_div_cancel_left _ hw]
    rw [this, Nat.mul_comm]
    exact ho.symm

theorem Sim.storeChunk (hc : Contract c) (hwf : c.kd.wf) (h : Sim c it σ s) {k o v : Nat} {x : E} (hk : k < c.kd.rows)
    (hwr : c.kd.written k = true) (hle : o + c.kd.w ≤ c.kd.B) (hmod : o % c.kd.w = 0)
    (hv : VRefines c it (.e c.kd.w x) (s.vec v)) (hcanon : x.canon = (c.kd.spec k o).canon) :
    Sim c it { σ with stores := (k, o) :: σ.stores } (storeVec s (c.rowReg k) (c.rows.cur it + o) c.kd.w v) := by
  have := h.store (k := k) (o := o) (v := v) ⟨hk, hwr, hle, hmod⟩
    (fun k' _ he => Nat.eq_of_mul_eq_mul_right hc.dist_pos (Region.out.inj he)) ?_
  · exact this
  · intro q hq
    have hq : q < c.kd.w := hq
    obtain ⟨a1, a2, a3⟩ := chunk_arith (it := it) hwf hmod hle hq
    rw [hv q hq]
    show evalE c (c.rows.cur it) q x = specVal c k (c.rows.cur it + o + q)
    rw [canon_sound c _ _ hcanon]
    show _ = evalE c ((c.rows.cur it + o + q) / c.kd.B * c.kd.B) ((c.rows.cur it + o + q) % c.kd.w)
      (c.kd.spec k ((c.rows.cur it + o + q) % c.kd.B / c.kd.w * c.kd.w))
    rw [c.rows_cur]
    rw [a1, a2, a3]

theorem step_vstore (hc : Contract c) (hwf : c.kd.wf) (h : Sim c it σ s) (hl : loop = true → it < c.cnt)
    {src : VReg} {m : Mem} (hs : symStep c.kd loop (.vstore src m) σ = some σ') :
    StepOK c it (.vstore src m) σ' s := by
  simp only [symStep] at hs
  split at hs
  · rename_i k o w x heq heq2
    obtain ⟨ha, hle, hk, hw, hmod⟩ := symData_row hc h hl heq
    split at hs
    · rename_i hcond
      obtain ⟨rfl, hwr, hcanon, hnew⟩ := hcond
      cases hs
      rw [hw] at ha hle heq2
      exact ⟨_, by simp only [stepInstr, hw, ha],
        h.storeChunk hc hwf hk hwr hle hmod (h.vecAt heq2) hcanon⟩
    · cases hs
  · cases hs

theorem step_sseStore (hc : Contract c) (hwf : c.kd.wf) (h : Sim c it σ s) (hl : loop = true → it < c.cnt)
    {al : Bool} {x : Nat} {m : Mem} (hs : symStep c.kd loop (.sseStore al x m) σ = some σ') :
    StepOK c it (.sseStore al x m) σ' s := by
  simp only [symStep] at hs
  split at hs
  · rename_i k o w y heq heq2
    obtain ⟨ha, hle, hk, hw, hmod⟩ := symData_row hc h hl heq
    split at hs
    · rename_i hcond
      obtain ⟨hal, rfl, hwr, hcanon, hnew⟩ := hcond
      cases hs
      have hst : stepInstr c.env (.sseStore al x m) s = some (storeVec s (c.rowReg k) (c.rows.cur it + o) 16 x) := by
        simp only [stepInstr, ha, if_neg (align_ok hc hk hw hmod hal)]
      rw [hw] at hle heq2 hst
      exact ⟨_, hst, h.storeChunk hc hwf hk hwr hle hmod (h.vecAt heq2) hcanon⟩
    · cases hs
  · cases hs

theorem symStep_plain {kd : KD} {i : Instr} (hs : symStep kd loop i σ = some σ') :
    isPlain i = true ∧ ∀ l, i ≠ .label l := by
  cases i with
  | ret | jz | jnz | ja | jmp | label => cases hs
  | _ => exact ⟨rfl, fun _ h => nomatch h⟩

theorem symStep_sound (hc : Contract c) (hwf : c.kd.wf) (hl : loop = true → it < c.cnt)
    (h : Sim c it σ s) {i : Instr} (hs : symStep c.kd loop i σ = some σ') : StepOK c it i σ' s := by
  cases i with
  | movqFP off d => exact step_movqFP hc h hs
  | movqLoad m d => exact step_movqLoad hc h hs
  | movqImm imm d => exact step_movqImm h hs
  | movqToX src x => exact step_movqToX h hs
  | addqImm imm d => exact step_addqImm h hs
  | addqReg src d => exact step_addqReg h hs
  | xorqRR a d => exact step_xorqRR h hs
  | movqRR src d => exact step_movqRR h hs
  | andqImm imm d => exact step_andqImm h hs
  | shrqImm imm d => exact step_shrqImm h hs
  | vload m d => exact step_vload hc h hl hs
  | sseLoad al m x => exact step_sseLoad hc h hl hs
  | vstore src m => exact step_vstore hc hwf h hl hs
  | sseStore al x m => exact step_sseStore hc hwf h hl hs
  | vbcast16 m d => exact step_vbcast16 hc h hs
  | vbcast8FP off d => exact step_vbcast8FP hc h hs
  | vmovRR src d => exact step_vmovRR h hs
  | sseMov src d => exact step_sseMov h hs
  | vpshufb idx tab d => exact step_vpshufb hc h hs
  | ssePshufb idx d => exact step_ssePshufb hc h hs
  | vxor a b d => exact step_vxor h hs
  | ssePxor src d => exact step_ssePxor h hs
  | vternlog imm a b d => exact step_vternlog h hs
  | vpand a b d => exact step_vpand h hs
  | ssePand src d => exact step_ssePand h hs
  | vpsrlq imm src d => exact step_vpsrlq hc h hs
  | ssePsrlq imm d => exact step_ssePsrlq hc h hs
  | vpbroadcastb src d => exact step_vpbroadcastb h hs
  | vinserti128 imm x y d => exact step_vinserti128 h hs
  | affine imm mt src d => exact step_affine h hs
  | _ => cases hs

theorem symRun_eq (kd : KD) (seg : List Instr) (σ : SymState) :
    symRun kd loop seg σ = runSym (symStep kd loop) seg σ := by
  induction seg generalizing σ with
  | nil => rfl
  | cons i seg ih => simp only [symRun, runSym]; split <;> simp [*]

theorem symRun_noLabel {kd : KD} {seg : List Instr} (h : symRun kd loop seg σ = some σ') (l : Nat) :
    Instr.label l ∉ seg := fun hm =>
  runSym_forall (stepS := symStep kd loop) (fun _ _ _ hs => (symStep_plain hs).2) (symRun_eq kd seg σ ▸ h) _ hm l rfl

theorem symRun_sound (hc : Contract c) (hwf : c.kd.wf) (hl : loop = true → it < c.cnt) {prog : Program}
    (seg : List Instr) (A C : List Instr) (σ σ' : SymState) (s : State) (hp : prog = A ++ seg ++ C)
    (hpc : s.pc = A.length) (h : Sim c it σ s) (hs : symRun c.kd loop seg σ = some σ') :
    ∃ s', run c.env prog seg.length s = some s' ∧ s'.pc = A.length + seg.length ∧ Sim c it σ' s' :=
  runSym_sound (R := Sim c it) (fun _ _ p h => h.withPc p)
    (fun _ _ _ _ hs h => ⟨(symStep_plain hs).1, symStep_sound hc hwf hl h hs⟩) seg A C σ σ' s hp hpc h
    (symRun_eq c.kd seg σ ▸ hs)

end RSV.Asm.Leo
