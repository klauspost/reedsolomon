import RSV.Proofs.AsmLeoStore
/-!
Checker for the remaining amd64 kernels, the loop: prologue → loop head, end of body → next loop
head, coverage, and the checked block-counting or byte-counting loop at any place of a program.
-/
namespace RSV.Asm.Leo

variable {c : Ctx}

theorem cnt_exact (hc : Contract c) (he : c.kd.exact = true) :
    c.kd.B * c.cnt = c.N ∧ 0 < c.cnt := by
  obtain ⟨hpos, hmod⟩ := hc.exact he
  have h := Nat.div_add_mod c.N c.kd.B
  rw [hmod, Nat.add_zero] at h
  refine ⟨h, ?_⟩
  unfold Ctx.cnt
  rcases Nat.eq_zero_or_pos (c.N / c.kd.B) with h0 | h0
  · rw [h0, Nat.mul_zero] at h; omega
  · exact h0

theorem gInit_sound (hc : Contract c) {g h : GSym} {v : Val} (hi : gInit c.kd g h = true)
    (hg : GRefines c 0 g v) : GRefines c 0 h v := by
  unfold gInit at hi
  split at hi
  · trivial
  · simp only [decide_eq_true_eq] at hi
    subst hi
    simpa [GRefines] using hg
  · -- a byte counter starts at `N = B·cnt` when the length is a multiple of the block size
    simp only [decide_eq_true_eq] at hi
    obtain ⟨rfl, he⟩ := hi
    simp only [GRefines, Nat.sub_zero] at hg ⊢
    rw [hg, (cnt_exact hc he).1]
  · simp only [decide_eq_true_eq] at hi
    obtain ⟨rfl, rfl, rfl⟩ := hi
    exact hg.trans (congrArg (linV _) (linVal_zero ..))
  · exact hg
  · exact hg
  · simp only [decide_eq_true_eq] at hi
    subst hi
    exact hg
  · cases hi

/-- a loop-invariant vector value means the same in every iteration -/
theorem vHead_sound {x hx : VSym} {it it' : Nat} {reg : Nat → Nat}
    (hr : (hx = .unk || (vInv hx && x = hx)) = true) (h : VRefines c it x reg) : VRefines c it' hx reg := by
  simp only [Bool.or_eq_true, Bool.and_eq_true, decide_eq_true_eq] at hr
  rcases hr with rfl | ⟨hinv, rfl⟩
  · trivial
  · cases x <;> first | exact h | cases hinv

theorem initOK_sound (hc : Contract c) {σ0 H : SymState} {s : State}
    (hi : initOK c.kd σ0 H = true)
    (hG : ∀ r, 16 ≤ r → H.gp r = .unk) (hV : ∀ v, 32 ≤ v → H.vec v = .unk)
    (hH : H.stores = []) (h0 : σ0.stores = []) (h : Sim c 0 σ0 s) : Sim c 0 H s := by
  unfold initOK at hi
  rw [Bool.and_eq_true] at hi
  refine ⟨head_of_all (fun g h => gInit c.kd g h) hi.1 (fun _ _ _ => gInit_sound hc) hG (fun _ => trivial) h.gp,
    head_of_all (fun x hx => hx = .unk || (vInv hx && x = hx)) hi.2 (fun _ _ _ => vHead_sound) hV
      (fun _ => trivial) h.vec, ?_, ?_⟩
  · rw [hH, ← h0]; exact h.mem
  · rw [hH]; exact Rows.storesOK_nil

theorem gShift_sound {g h : GSym} {v : Val} {it : Nat} (hr : (h = .unk || g = gShift c.kd.B h) = true)
    (hg : GRefines c it g v) : GRefines c (it + 1) h v := by
  simp only [Bool.or_eq_true, decide_eq_true_eq] at hr
  rcases hr with rfl | rfl
  · trivial
  · cases h with
    | unk => trivial
    | nRaw => exact hg
    | cnt => exact hg
    | algn k => exact hg
    | ctr sc d =>
      simp only [gShift, GRefines] at hg ⊢
      rw [hg]; congr 2; omega
    | lin b a t k =>
      simp only [gShift, GRefines, Ctx.lin, linVal_shift] at hg ⊢
      exact hg

theorem covers_wf {stores : List (Nat × Nat)} (hcov : covers c.kd stores = true) (hB : 0 < c.kd.B) : c.kd.wf := by
  unfold covers at hcov
  simp only [Bool.and_eq_true, decide_eq_true_eq] at hcov
  exact ⟨hcov.1.1.1, hcov.1.1.2, hB⟩

theorem stepOK_sound {H σe : SymState} {s : State} {it : Nat} (hs : stepOK c.kd H σe = true)
    (hG : ∀ r, 16 ≤ r → H.gp r = .unk) (hV : ∀ v, 32 ≤ v → H.vec v = .unk)
    (hH : H.stores = []) (hcov : covers c.kd σe.stores = true) (h : Sim c it σe s) :
    Sim c (it + 1) H s := by
  unfold stepOK at hs
  rw [Bool.and_eq_true] at hs
  unfold covers at hcov
  simp only [Bool.and_eq_true, decide_eq_true_eq] at hcov
  obtain ⟨⟨⟨hwB, hw⟩, _⟩, hall⟩ := hcov
  refine ⟨head_of_all (fun g h => h = .unk || g = gShift c.kd.B h) hs.1 (fun _ _ _ => gShift_sound) hG
      (fun _ => trivial) h.gp,
    head_of_all (fun x hx => hx = .unk || (vInv hx && x = hx)) hs.2 (fun _ _ _ => vHead_sound) hV
      (fun _ => trivial) h.vec, ?_, ?_⟩
  · rw [hH]
    refine h.mem.next hwB hw (fun k hk hwr b hb => ?_) h.stores_ok
    have hrow := all_range hall k hk
    have hwr : c.kd.written k = true := hwr
    rw [hwr] at hrow
    exact List.contains_iff_mem.mp (all_range hrow b hb)
  · rw [hH]; exact Rows.storesOK_nil

/-- a checked loop `l: body ; dec ; jcc` behind the prefix `A` of `prog`: the counter `rc` counts
`scale`-fold blocks, `dec` is `DECQ` (`d = 0`) or `SUBQ $d`, `jcc` is `JNZ` or, after `SUBQ`, `JA` -/
structure LoopAt (c : Ctx) (prog : Program) (A : List Instr) (l : Nat) (body : List Instr) (d : Nat) (rc : Reg)
    (ja : Bool) (C : List Instr) (H σb : SymState) : Prop where
  asm : prog = A ++ .label l :: (body ++ ((if d = 0 then .decq rc else .subqImm d rc) ::
    (if ja then .ja l else .jnz l) :: C))
  find : findLabel prog l = some A.length
  scale : (if d = 0 then 1 else d) = 1 ∨ ((if d = 0 then 1 else d) = c.kd.B ∧ c.kd.exact = true)
  jaSub : ja = true → d ≠ 0
  decLt : d < M64
  Bpos : 0 < c.kd.B
  storesH : H.stores = []
  runb : symRun c.kd true body H = some σb
  ctr : σb.gp rc = .ctr (if d = 0 then 1 else d) 0
  stepok : stepOK c.kd H (σb.setGp rc (.ctr (if d = 0 then 1 else d) 1)) = true
  cov : covers c.kd σb.stores = true
  clampG : ∀ r, 16 ≤ r → H.gp r = .unk
  clampV : ∀ v, 32 ≤ v → H.vec v = .unk

section
variable {prog : Program} {A C body : List Instr} {l d : Nat} {rc : Reg} {ja : Bool} {H σb : SymState}

theorem dec_step (hc : Contract c) (hl : LoopAt c prog A l body d rc ja C H σb) {it : Nat} (hit : it < c.cnt)
    {s2 : State} (hsim2 : Sim c it σb s2) :
    ∃ s3, stepInstr c.env (if d = 0 then .decq rc else .subqImm d rc) s2 = some s3 ∧ Sim c (it + 1) H s3 ∧
      s3.zf = some (!decide (it + 1 < c.cnt)) ∧ (d ≠ 0 → s3.cf = some false) := by
  -- a variable with its defining equation: the term stays opaque for the `rw`s and defeq checks below
  obtain ⟨sc, hsc⟩ : ∃ sc, sc = if d = 0 then 1 else d := ⟨_, rfl⟩
  have hscale := hl.scale
  have hrc := hl.ctr
  have hstep := hl.stepok
  rw [← hsc] at hscale hrc hstep
  have hg : s2.gp rc = .num (sc * (c.cnt - it)) := hsim2.gpAt hrc
  have hpos : 0 < sc := by
    rcases hscale with h | ⟨h, _⟩
    · omega
    · rw [h]; exact hl.Bpos
  -- the counter never exceeds the length
  have hle : sc * (c.cnt - it) ≤ c.N := by
    have h1 : c.cnt ≤ c.N := Nat.div_le_self _ _
    have h2 : c.kd.B * c.cnt ≤ c.N := Nat.mul_div_le _ _
    rcases hscale with h | ⟨h, _⟩
    · rw [h]; omega
    · rw [h]
      exact Nat.le_trans (Nat.mul_le_mul_left _ (Nat.sub_le _ _)) h2
  have hnl := hc.n_lt
  have hsub : sc * (c.cnt - it) = sc * (c.cnt - it - 1) + sc := by
    rw [← Nat.mul_succ]; congr 1; omega
  have hzf : (sc * (c.cnt - it - 1) == 0) = !decide (it + 1 < c.cnt) := by
    by_cases hlast : it + 1 < c.cnt
    · have : sc * (c.cnt - it - 1) ≠ 0 := Nat.mul_ne_zero (by omega) (by omega)
      simp [hlast, this]
    · have : c.cnt - it - 1 = 0 := by omega
      simp [hlast, this]
  have hsim3 : ∀ z f, Sim c (it + 1) H (setFlags (setGp s2 rc (.num (sc * (c.cnt - it - 1)))) z f) := fun z f =>
    stepOK_sound hstep hl.clampG hl.clampV hl.storesH hl.cov
      ((hsim2.setGp rc (g := .ctr sc 1) (v := .num (sc * (c.cnt - it - 1))) rfl).setFlags z f)
  rw [hsub] at hg
  obtain ⟨cf, hst, hcf⟩ := stepInstr_dec (env := c.env) hsc hg (by omega)
  exact ⟨_, hst, hsim3 _ _, congrArg some hzf, hcf⟩

theorem loop_all (hc : Contract c) (hl : LoopAt c prog A l body d rc ja C H σb) {s : State} (hpos : 0 < c.cnt)
    (hpc : s.pc = A.length) (h : Sim c 0 H s) :
    ∃ s', run c.env prog (c.cnt * (body.length + 3)) s = some s' ∧ Sim c c.cnt H s' ∧
      s'.pc = A.length + 1 + body.length + 2 := by
  have hwf := covers_wf hl.cov hl.Bpos
  have htrip := fun it s => loop_trip (env := c.env) (Inv := fun it s => Sim c it H s) (Mid := fun it s => Sim c it σb s)
    (cnt := c.cnt) hl.asm hl.find (fun _ _ p h => h.withPc p)
    (fun it s hit hpc h => symRun_sound hc hwf (fun _ => hit) body _ _ H σb s (at_skip (at_next hl.asm)) hpc h hl.runb)
    (by split <;> rfl)
    (fun it s2 hit h2 => by
      obtain ⟨s3, h3, h3', h3'', h3c⟩ := dec_step hc hl hit h2
      refine ⟨s3, h3, h3', h3'', fun hj => h3c (hl.jaSub ?_)⟩
      cases hja : ja
      · rw [hja] at hj; cases hj
      · rfl)
    (by cases ja <;> simp) (it := it) (s := s)
  exact run_iterate htrip c.cnt 0 s rfl hpos hpc h

end

end RSV.Asm.Leo
