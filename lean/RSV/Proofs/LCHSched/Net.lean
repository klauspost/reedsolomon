import RSV.Proofs.LeoSchedRange
/-!
The radix-2 butterfly network on work areas: `layerF bf sk d base m` is the layer with distance `d` on the rows
`[base, base + m)` of a row function (`bf` the butterfly, `sk b` the multiplier of the block at row offset `b`),
`layerRows` tabulates it, `fftRows` / `ifftRows` iterate the layers `t-1, …, 0` resp. `0, …, t-1` with `bfF` / `bfI`
(the effect of `fft2` / `ifft2`) and the multipliers `skewAt C (skewOff + b + 2^i - idxAdj)`.
-/
namespace RSV.Proofs.LCHSched
open RSV.Model.Leo RSV.Proofs.LeoSched RSV.Proofs.LeoSchedRange

def bfF (C : Ctx) (x y : Vec) (logm : Nat) : Vec × Vec :=
  let x' := if logm = C.P.modulus then x else xorVec x (mulVec C y logm)
  (x', xorVec y x')

def bfI (C : Ctx) (x y : Vec) (logm : Nat) : Vec × Vec :=
  let y' := xorVec y x
  ((if logm = C.P.modulus then x else xorVec x (mulVec C y' logm)), y')

abbrev Rows := Nat → Vec

def rowsOf (w : Array Vec) : Rows := fun x => w[x]!

def tab (n : Nat) (ρ : Rows) : Array Vec := Array.ofFn (n := n) fun j => ρ j.val

@[simp] theorem size_tab (n : Nat) (ρ : Rows) : (tab n ρ).size = n := by simp [tab]

theorem tab_get (n : Nat) (ρ : Rows) (x : Nat) (h : x < n) : (tab n ρ)[x]! = ρ x := by
  rw [get!_lt _ x (by simpa using h)]; simp [tab]

theorem rowsOf_ge (w : Array Vec) (x : Nat) (h : w.size ≤ x) : rowsOf w x = #[] :=
  get!_ge w x h

theorem rowsOf_tab (n : Nat) (ρ : Rows) (h : ∀ x, n ≤ x → ρ x = #[]) : rowsOf (tab n ρ) = ρ := by
  funext x
  by_cases hx : x < n
  · exact tab_get n ρ x hx
  · rw [h x (Nat.le_of_not_lt hx)]
    exact get!_ge _ x (by simpa using Nat.le_of_not_lt hx)

theorem tab_rowsOf (w : Array Vec) : tab w.size (rowsOf w) = w := by
  apply ext! (by simp)
  intro i hi
  exact tab_get _ _ i (by simpa using hi)

theorem rowsOf_inj {w w' : Array Vec} (hs : w.size = w'.size) (h : rowsOf w = rowsOf w') : w = w' :=
  ext! hs fun i _ => congrFun h i

def layerF (bf : Vec → Vec → Nat → Vec × Vec) (sk : Nat → Nat) (d base m : Nat) (ρ : Rows) : Rows :=
  fun x =>
    if base ≤ x ∧ x < base + m then
      if (x - base) % (2 * d) < d then
        (bf (ρ x) (ρ (x + d)) (sk ((x - base) / (2 * d) * (2 * d)))).1
      else (bf (ρ (x - d)) (ρ x) (sk ((x - base) / (2 * d) * (2 * d)))).2
    else ρ x

def layerRows (bf : Vec → Vec → Nat → Vec × Vec) (sk : Nat → Nat) (d base m : Nat) (w : Array Vec) :
    Array Vec := tab w.size (layerF bf sk d base m (rowsOf w))

@[simp] theorem size_layerRows (bf sk) (d base m : Nat) (w : Array Vec) :
    (layerRows bf sk d base m w).size = w.size := by simp [layerRows]

theorem layerF_out (bf sk) (d base m : Nat) (ρ : Rows) (x : Nat) (h : x < base ∨ base + m ≤ x) :
    layerF bf sk d base m ρ x = ρ x := by
  unfold layerF
  rw [if_neg (by omega)]

theorem rowsOf_layerRows (bf sk) (d base m : Nat) (w : Array Vec) (h : base + m ≤ w.size) :
    rowsOf (layerRows bf sk d base m w) = layerF bf sk d base m (rowsOf w) := by
  apply rowsOf_tab
  intro x hx
  rw [layerF_out _ _ _ _ _ _ _ (by omega)]
  exact rowsOf_ge w x hx

theorem layerF_pair (bf sk) (d base m : Nat) (ρ : Rows) (b l : Nat) (hb : 2 * d ∣ b) (hl : l < d)
    (hbm : b + 2 * d ≤ m) :
    layerF bf sk d base m ρ (base + b + l) =
        (bf (ρ (base + b + l)) (ρ (base + b + l + d)) (sk b)).1 ∧
      layerF bf sk d base m ρ (base + b + l + d) =
        (bf (ρ (base + b + l)) (ρ (base + b + l + d)) (sk b)).2 := by
  have h1 : base ≤ base + b + l ∧ base + b + l < base + m := by omega
  have h2 : base ≤ base + b + l + d ∧ base + b + l + d < base + m := by omega
  have e1 : base + b + l - base = b + l := by omega
  have e2 : base + b + l + d - base = b + (l + d) := by omega
  have md : ∀ r, r < 2 * d → (b + r) % (2 * d) = r ∧ (b + r) / (2 * d) * (2 * d) = b := by
    intro r hr
    obtain ⟨a, rfl⟩ := hb
    rw [Nat.mul_add_mod, Nat.mod_eq_of_lt hr, Nat.mul_add_div (Nat.zero_lt_of_lt hr), Nat.div_eq_of_lt hr,
      Nat.add_zero, Nat.mul_comm]
    exact ⟨rfl, rfl⟩
  obtain ⟨m1, d1⟩ := md l (Nat.lt_of_lt_of_le hl (Nat.le_mul_of_pos_left d (by decide)))
  obtain ⟨m2, d2⟩ := md (l + d) (by rw [Nat.two_mul]; exact Nat.add_lt_add_right hl d)
  unfold layerF
  constructor
  · rw [if_pos h1, e1, m1, d1, if_pos hl]
  · rw [if_pos h2, e2, m2, d2, if_neg (Nat.not_lt.2 (Nat.le_add_left d l)), Nat.add_sub_cancel]

def fftLayerRows (C : Ctx) (i base m skewOff idxAdj : Nat) (w : Array Vec) : Array Vec :=
  layerRows (bfF C) (fun b => skewAt C (skewOff + b + 2 ^ i - idxAdj)) (2 ^ i) base m w

def ifftLayerRows (C : Ctx) (i base m skewOff idxAdj : Nat) (w : Array Vec) : Array Vec :=
  layerRows (bfI C) (fun b => skewAt C (skewOff + b + 2 ^ i - idxAdj)) (2 ^ i) base m w

def fftRowsAux (C : Ctx) (base m skewOff idxAdj : Nat) : Nat → Array Vec → Array Vec
  | 0, w => w
  | k + 1, w => fftRowsAux C base m skewOff idxAdj k (fftLayerRows C k base m skewOff idxAdj w)

def ifftRowsAux (C : Ctx) (base m skewOff idxAdj : Nat) : Nat → Array Vec → Array Vec
  | 0, w => w
  | k + 1, w => ifftLayerRows C k base m skewOff idxAdj (ifftRowsAux C base m skewOff idxAdj k w)

def fftRows (C : Ctx) (t base skewOff idxAdj : Nat) (w : Array Vec) : Array Vec :=
  fftRowsAux C base (2 ^ t) skewOff idxAdj t w

def ifftRows (C : Ctx) (t base skewOff idxAdj : Nat) (w : Array Vec) : Array Vec :=
  ifftRowsAux C base (2 ^ t) skewOff idxAdj t w

theorem layerRows_get (bf sk) (d base m : Nat) (w : Array Vec) (h : base + m ≤ w.size) (idx : Nat)
    (hidx : idx < m) :
    (layerRows bf sk d base m w)[base + idx]! =
      if idx % (2 * d) < d then (bf w[base + idx]! w[base + idx + d]! (sk (idx / (2 * d) * (2 * d)))).1
      else (bf w[base + idx - d]! w[base + idx]! (sk (idx / (2 * d) * (2 * d)))).2 := by
  have := congrFun (rowsOf_layerRows bf sk d base m w h) (base + idx)
  simp only [rowsOf] at this
  rw [this]
  unfold layerF
  rw [if_pos (by omega), Nat.add_sub_cancel_left]
  rfl

theorem layerRows_get_out (bf sk) (d base m : Nat) (w : Array Vec) (h : base + m ≤ w.size) (x : Nat)
    (hx : x < base ∨ base + m ≤ x) : (layerRows bf sk d base m w)[x]! = w[x]! := by
  have := congrFun (rowsOf_layerRows bf sk d base m w h) x
  simp only [rowsOf] at this
  rw [this, layerF_out _ _ _ _ _ _ _ hx]
  rfl

/-- the form of `layerRows_get` that the field-level mathematics uses (`RSV/Proofs/LCHBridge/Layers.lean`) -/
theorem layerRows_get_pow (bf sk) (i base m : Nat) (w : Array Vec) (h : base + m ≤ w.size) (idx : Nat)
    (hidx : idx < m) :
    (layerRows bf sk (2 ^ i) base m w)[base + idx]! =
      if idx % 2 ^ (i + 1) < 2 ^ i then
        (bf w[base + idx]! w[base + idx + 2 ^ i]! (sk (idx / 2 ^ (i + 1) * 2 ^ (i + 1)))).1
      else (bf w[base + idx - 2 ^ i]! w[base + idx]! (sk (idx / 2 ^ (i + 1) * 2 ^ (i + 1)))).2 := by
  rw [Nat.pow_succ']
  exact layerRows_get _ _ _ _ _ _ h idx hidx

theorem fftLayerRows_get (C : Ctx) (i base m skewOff idxAdj : Nat) (w : Array Vec)
    (h : base + m ≤ w.size) (idx : Nat) (hidx : idx < m) :
    (fftLayerRows C i base m skewOff idxAdj w)[base + idx]! =
      if idx % 2 ^ (i + 1) < 2 ^ i then
        (bfF C w[base + idx]! w[base + idx + 2 ^ i]!
          (skewAt C (skewOff + idx / 2 ^ (i + 1) * 2 ^ (i + 1) + 2 ^ i - idxAdj))).1
      else
        (bfF C w[base + idx - 2 ^ i]! w[base + idx]!
          (skewAt C (skewOff + idx / 2 ^ (i + 1) * 2 ^ (i + 1) + 2 ^ i - idxAdj))).2 :=
  layerRows_get_pow _ _ _ _ _ _ h idx hidx

theorem ifftLayerRows_get (C : Ctx) (i base m skewOff idxAdj : Nat) (w : Array Vec)
    (h : base + m ≤ w.size) (idx : Nat) (hidx : idx < m) :
    (ifftLayerRows C i base m skewOff idxAdj w)[base + idx]! =
      if idx % 2 ^ (i + 1) < 2 ^ i then
        (bfI C w[base + idx]! w[base + idx + 2 ^ i]!
          (skewAt C (skewOff + idx / 2 ^ (i + 1) * 2 ^ (i + 1) + 2 ^ i - idxAdj))).1
      else
        (bfI C w[base + idx - 2 ^ i]! w[base + idx]!
          (skewAt C (skewOff + idx / 2 ^ (i + 1) * 2 ^ (i + 1) + 2 ^ i - idxAdj))).2 :=
  layerRows_get_pow _ _ _ _ _ _ h idx hidx

theorem fftLayerRows_get_out (C : Ctx) (i base m skewOff idxAdj : Nat) (w : Array Vec)
    (h : base + m ≤ w.size) (x : Nat) (hx : x < base ∨ base + m ≤ x) :
    (fftLayerRows C i base m skewOff idxAdj w)[x]! = w[x]! := layerRows_get_out _ _ _ _ _ _ h x hx

theorem ifftLayerRows_get_out (C : Ctx) (i base m skewOff idxAdj : Nat) (w : Array Vec)
    (h : base + m ≤ w.size) (x : Nat) (hx : x < base ∨ base + m ≤ x) :
    (ifftLayerRows C i base m skewOff idxAdj w)[x]! = w[x]! := layerRows_get_out _ _ _ _ _ _ h x hx

@[simp] theorem size_fftLayerRows (C : Ctx) (i base m skewOff idxAdj : Nat) (w : Array Vec) :
    (fftLayerRows C i base m skewOff idxAdj w).size = w.size := size_layerRows _ _ _ _ _ _

@[simp] theorem size_ifftLayerRows (C : Ctx) (i base m skewOff idxAdj : Nat) (w : Array Vec) :
    (ifftLayerRows C i base m skewOff idxAdj w).size = w.size := size_layerRows _ _ _ _ _ _

@[simp] theorem size_fftRowsAux (C : Ctx) (base m skewOff idxAdj k : Nat) (w : Array Vec) :
    (fftRowsAux C base m skewOff idxAdj k w).size = w.size := by
  induction k generalizing w with
  | zero => rfl
  | succ k ih => rw [fftRowsAux, ih, size_fftLayerRows]

@[simp] theorem size_ifftRowsAux (C : Ctx) (base m skewOff idxAdj k : Nat) (w : Array Vec) :
    (ifftRowsAux C base m skewOff idxAdj k w).size = w.size := by
  induction k with
  | zero => rfl
  | succ k ih => rw [ifftRowsAux, size_ifftLayerRows, ih]

@[simp] theorem size_fftRows (C : Ctx) (t base skewOff idxAdj : Nat) (w : Array Vec) :
    (fftRows C t base skewOff idxAdj w).size = w.size := size_fftRowsAux _ _ _ _ _ _ _

@[simp] theorem size_ifftRows (C : Ctx) (t base skewOff idxAdj : Nat) (w : Array Vec) :
    (ifftRows C t base skewOff idxAdj w).size = w.size := size_ifftRowsAux _ _ _ _ _ _ _

theorem size_bfF (C : Ctx) {len : Nat} {x y : Vec} (hx : x.size = len) (hy : y.size = len) (s : Nat) :
    (bfF C x y s).1.size = len ∧ (bfF C x y s).2.size = len := by
  unfold bfF
  constructor
  · simp only; split
    · exact hx
    · rw [size_xorVec]; exact hx
  · simp only; rw [size_xorVec]; exact hy

theorem size_bfI (C : Ctx) {len : Nat} {x y : Vec} (hx : x.size = len) (hy : y.size = len) (s : Nat) :
    (bfI C x y s).1.size = len ∧ (bfI C x y s).2.size = len := by
  unfold bfI
  constructor
  · simp only; split
    · exact hx
    · rw [size_xorVec]; exact hx
  · simp only; rw [size_xorVec]; exact hy

/-- in `hbf`, `b` ranges over the block offsets only, so a property of the multipliers `sk b` that are actually used
may enter -/
theorem layerRows_all (Pr : Vec → Prop) (bf sk) (d base m : Nat) (w : Array Vec) (h : base + m ≤ w.size)
    (hdm : 2 * d ∣ m)
    (hbf : ∀ b, 2 * d ∣ b → b + 2 * d ≤ m → ∀ x y, Pr x → Pr y →
      Pr (bf x y (sk b)).1 ∧ Pr (bf x y (sk b)).2)
    (hw : ∀ x, x < w.size → Pr w[x]!) : ∀ x, x < (layerRows bf sk d base m w).size →
      Pr (layerRows bf sk d base m w)[x]! := by
  intro x hx
  rw [size_layerRows] at hx
  by_cases hin : base ≤ x ∧ x < base + m
  · obtain ⟨idx, rfl⟩ : ∃ idx, x = base + idx := ⟨x - base, by omega⟩
    have hidx : idx < m := by omega
    rw [layerRows_get _ _ _ _ _ _ h idx hidx]
    have hblk : idx / (2 * d) * (2 * d) + 2 * d ≤ m :=
      add_le_of_dvd (Nat.dvd_mul_left _ _) hdm (Nat.lt_of_le_of_lt (Nat.div_mul_le_self _ _) hidx)
    have hdiv := Nat.div_add_mod idx (2 * d)
    rw [Nat.mul_comm] at hdiv
    have hb := hbf _ (Nat.dvd_mul_left _ _) hblk
    split
    · exact (hb _ _ (hw _ (by omega)) (hw _ (by omega))).1
    · exact (hb _ _ (hw _ (by omega)) (hw _ (by omega))).2
  · rw [layerRows_get_out _ _ _ _ _ _ h x (by omega)]
    exact hw x hx

theorem layer_dvd (k t : Nat) (hk : k < t) : 2 * 2 ^ k ∣ 2 ^ t := by
  rw [← Nat.pow_succ']; exact Nat.pow_dvd_pow 2 hk

section
variable (C : Ctx)

theorem ifftRowsAux_get_out (base m skewOff idxAdj k : Nat) (w : Array Vec) (h : base + m ≤ w.size)
    (x : Nat) (hx : x < base ∨ base + m ≤ x) : (ifftRowsAux C base m skewOff idxAdj k w)[x]! = w[x]! := by
  induction k with
  | zero => rfl
  | succ k ih =>
    rw [ifftRowsAux, ifftLayerRows_get_out C _ _ _ _ _ _ (by rw [size_ifftRowsAux]; exact h) x hx, ih]

theorem fftRowsAux_get_out (base m skewOff idxAdj k : Nat) (w : Array Vec) (h : base + m ≤ w.size)
    (x : Nat) (hx : x < base ∨ base + m ≤ x) : (fftRowsAux C base m skewOff idxAdj k w)[x]! = w[x]! := by
  induction k generalizing w with
  | zero => rfl
  | succ k ih =>
    rw [fftRowsAux, ih _ (by rw [size_fftLayerRows]; exact h), fftLayerRows_get_out C _ _ _ _ _ _ h x hx]

theorem ifftRows_get_out (t base skewOff idxAdj : Nat) (w : Array Vec) (h : base + 2 ^ t ≤ w.size)
    (x : Nat) (hx : x < base ∨ base + 2 ^ t ≤ x) : (ifftRows C t base skewOff idxAdj w)[x]! = w[x]! :=
  ifftRowsAux_get_out C base (2 ^ t) skewOff idxAdj t w h x hx

theorem fftRows_get_out (t base skewOff idxAdj : Nat) (w : Array Vec) (h : base + 2 ^ t ≤ w.size)
    (x : Nat) (hx : x < base ∨ base + 2 ^ t ≤ x) : (fftRows C t base skewOff idxAdj w)[x]! = w[x]! :=
  fftRowsAux_get_out C base (2 ^ t) skewOff idxAdj t w h x hx

theorem WF_ifftRowsAux (len base t skewOff idxAdj k : Nat) (hk : k ≤ t) (w : Array Vec)
    (h : base + 2 ^ t ≤ w.size) (hw : WF len w) : WF len (ifftRowsAux C base (2 ^ t) skewOff idxAdj k w) := by
  induction k with
  | zero => exact hw
  | succ k ih =>
    rw [ifftRowsAux]
    exact layerRows_all (·.size = len) _ _ _ _ _ _ (by rw [size_ifftRowsAux]; exact h)
      (layer_dvd k t (by omega)) (fun _ _ _ x y hx hy => size_bfI C hx hy _) (ih (by omega))

theorem WF_fftRowsAux (len base t skewOff idxAdj k : Nat) (hk : k ≤ t) (w : Array Vec)
    (h : base + 2 ^ t ≤ w.size) (hw : WF len w) : WF len (fftRowsAux C base (2 ^ t) skewOff idxAdj k w) := by
  induction k generalizing w with
  | zero => exact hw
  | succ k ih =>
    rw [fftRowsAux]
    exact ih (by omega) _ (by rw [size_fftLayerRows]; exact h)
      (layerRows_all (·.size = len) _ _ _ _ _ _ h (layer_dvd k t (by omega))
        (fun _ _ _ x y hx hy => size_bfF C hx hy _) hw)

theorem WF_ifftRows (len t base skewOff idxAdj : Nat) (w : Array Vec) (h : base + 2 ^ t ≤ w.size)
    (hw : WF len w) : WF len (ifftRows C t base skewOff idxAdj w) :=
  WF_ifftRowsAux C len base t skewOff idxAdj t (Nat.le_refl _) w h hw

theorem WF_fftRows (len t base skewOff idxAdj : Nat) (w : Array Vec) (h : base + 2 ^ t ≤ w.size)
    (hw : WF len w) : WF len (fftRows C t base skewOff idxAdj w) :=
  WF_fftRowsAux C len base t skewOff idxAdj t (Nat.le_refl _) w h hw

end

end RSV.Proofs.LCHSched
