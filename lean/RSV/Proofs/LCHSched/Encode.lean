import RSV.Proofs.LCHSched.Frame
/-!
`encodeSched` at row level: load a group of `m = ceilPow2 p` data shards (zero-padded), inverse network, xor into
the accumulator rows, for every group; then the forward network (`run_encodeSched`, `encode_row`).
-/
namespace RSV.Proofs.LCHSched
open RSV.Model.Leo RSV.Proofs.LeoSched RSV.Proofs.LeoSchedRange

theorem forIn_push (l : List Nat) (g : Nat → Step) (init : Array Step) :
    (forIn (m := Id) l init fun i s => pure (ForInStep.yield (s.push (g i)))) =
      pure (init ++ (l.map g).toArray) := by
  induction l generalizing init with
  | nil => simp
  | cons a l ih =>
    rw [List.forIn_cons]
    show forIn l (init.push (g a)) _ = _
    rw [ih]
    congr 1
    apply Array.toList_inj.mp
    simp

theorem forIn_append' (l : List Nat) (G : Nat → List Step)
    (f : Nat → Array Step → Id (ForInStep (Array Step)))
    (hf : ∀ i s, f i s = pure (ForInStep.yield (s ++ (G i).toArray))) (init : Array Step) :
    forIn l init f = pure (init ++ (l.flatMap G).toArray) := by
  have : f = fun i s => pure (ForInStep.yield (s ++ (G i).toArray)) := by
    funext i s; exact hf i s
  rw [this]
  exact forIn_append l G init

variable (C : Ctx)

def loadSteps (base off cnt m : Nat) : List Step :=
  (List.range' 0 cnt).map (fun k => Step.load (base + k) (off + k)) ++
    (List.range' cnt (m - cnt)).map (fun k => Step.clear (base + k))

def xorSteps (m : Nat) : List Step := (List.range' 0 m).map fun k => Step.xor k (m + k)

def groupSteps (d m g : Nat) : List Step :=
  loadSteps m (m + g * m) (if m + g * m + m ≤ d then m else d - (m + g * m)) m ++
    (ifftLayers C m (if m + g * m + m ≤ d then m else d - (m + g * m)) m (m - 1 + (m + g * m)) 0).toList ++
    xorSteps m

theorem encodeSched_toList (d p : Nat) :
    (encodeSched C d p).toList =
      loadSteps 0 0 (if d < ceilPow2 p then d else ceilPow2 p) (ceilPow2 p) ++
        (ifftLayers C 0 (if d < ceilPow2 p then d else ceilPow2 p) (ceilPow2 p) (ceilPow2 p - 1) 0).toList ++
        (if ceilPow2 p < d then
          (List.range' 0 ((d - ceilPow2 p + ceilPow2 p - 1) / ceilPow2 p)).flatMap
            (groupSteps C d (ceilPow2 p)) else []) ++
        (fftLayers C p (ceilPow2 p)).toList := by
  unfold encodeSched
  simp only [Std.Legacy.Range.forIn_eq_forIn_range', Std.Legacy.Range.size, Nat.sub_zero,
    Nat.add_one_sub_one, Nat.div_one, forIn_push, pure_bind]
  generalize ceilPow2 p = m
  generalize (if d < m then d else m) = mtrunc
  by_cases hmd : m < d
  · rw [if_pos hmd, if_pos hmd]
    rw [forIn_append' _ (groupSteps C d m) _ (by
      intro g s
      congr 2
      apply Array.toList_inj.mp
      simp [groupSteps, loadSteps, xorSteps, List.append_assoc])]
    simp [loadSteps, List.append_assoc]
  · rw [if_neg hmd, if_neg hmd]
    simp [loadSteps, List.append_assoc]

theorem run_setRows (shards : Array Vec) (len : Nat) (w : Array Vec) (base a cnt : Nat) (g : Nat → Step)
    (val : Nat → Vec) (hg : ∀ k (w' : Array Vec), step C shards len w' (g k) = w'.set! (base + k) (val k))
    (h : base + a + cnt ≤ w.size) (x : Nat) :
    (run C shards len w ((List.range' a cnt).map g))[x]! =
      if base + a ≤ x ∧ x < base + a + cnt then val (x - base) else w[x]! := by
  induction cnt with
  | zero => rw [if_neg (by omega)]; rfl
  | succ cnt ih =>
    rw [List.range'_concat, List.map_append, run_append, List.map_singleton, run_cons, run_nil, hg,
      Nat.one_mul, get!_set!, ih (by omega)]
    by_cases hx : base + (a + cnt) = x
    · subst hx
      rw [if_pos ⟨rfl, by rw [size_run]; omega⟩, if_pos (by omega), Nat.add_sub_cancel_left]
    · rw [if_neg (fun hh => hx hh.1)]
      by_cases h1 : base + a ≤ x ∧ x < base + a + cnt
      · rw [if_pos h1, if_pos (by omega)]
      · rw [if_neg h1, if_neg (by omega)]

theorem run_xorsAt (shards : Array Vec) (len : Nat) (w : Array Vec) (lo hi wd : Nat)
    (hlh : lo + wd ≤ hi) (h : hi + wd ≤ w.size) (x : Nat) :
    (run C shards len w ((List.range' 0 wd).map fun k => Step.xor (lo + k) (hi + k)))[x]! =
      if lo ≤ x ∧ x < lo + wd then xorVec w[x]! w[hi + (x - lo)]! else w[x]! := by
  induction wd generalizing x with
  | zero => rw [if_neg (by omega)]; rfl
  | succ wd ih =>
    rw [List.range'_concat, List.map_append, run_append, List.map_singleton, run_cons, run_nil]
    simp only [step, Nat.zero_add, Nat.one_mul]
    rw [get!_set!, ih (by omega) (by omega) x, ih (by omega) (by omega) (lo + wd),
      ih (by omega) (by omega) (hi + wd), if_neg (by omega : ¬ (lo ≤ lo + wd ∧ lo + wd < lo + wd)),
      if_neg (by omega : ¬ (lo ≤ hi + wd ∧ hi + wd < lo + wd))]
    by_cases hx : lo + wd = x
    · subst hx
      rw [if_pos ⟨rfl, by rw [size_run]; omega⟩, if_pos (by omega), Nat.add_sub_cancel_left]
    · rw [if_neg (fun hh => hx hh.1)]
      by_cases h1 : lo ≤ x ∧ x < lo + wd
      · rw [if_pos h1, if_pos (by omega)]
      · rw [if_neg h1, if_neg (by omega)]

def dataRows (shards : Array Vec) (len base off cnt m : Nat) (w : Array Vec) : Array Vec :=
  tab w.size fun x =>
    if base ≤ x ∧ x < base + cnt then shards[off + (x - base)]!
    else if base + cnt ≤ x ∧ x < base + m then zeroVec len else w[x]!

def xorInto (m : Nat) (w : Array Vec) : Array Vec :=
  tab w.size fun x => if x < m then xorVec w[x]! w[m + x]! else w[x]!

@[simp] theorem size_dataRows (shards : Array Vec) (len base off cnt m : Nat) (w : Array Vec) :
    (dataRows shards len base off cnt m w).size = w.size := by simp [dataRows]

@[simp] theorem size_xorInto (m : Nat) (w : Array Vec) : (xorInto m w).size = w.size := by
  simp [xorInto]

theorem dataRows_get (shards : Array Vec) (len base off cnt m : Nat) (w : Array Vec) (x : Nat)
    (hx : x < w.size) :
    (dataRows shards len base off cnt m w)[x]! =
      if base ≤ x ∧ x < base + cnt then shards[off + (x - base)]!
      else if base + cnt ≤ x ∧ x < base + m then zeroVec len else w[x]! := tab_get _ _ x hx

theorem xorInto_get (m : Nat) (w : Array Vec) (x : Nat) (hx : x < w.size) :
    (xorInto m w)[x]! = if x < m then xorVec w[x]! w[m + x]! else w[x]! := tab_get _ _ x hx

theorem run_loadSteps (shards : Array Vec) (len : Nat) (w : Array Vec) (base off cnt m : Nat)
    (hc : cnt ≤ m) (h : base + m ≤ w.size) :
    run C shards len w (loadSteps base off cnt m) = dataRows shards len base off cnt m w := by
  apply ext! (by simp)
  intro x hx
  rw [size_run] at hx
  unfold loadSteps
  rw [run_append,
    run_setRows C shards len _ base cnt (m - cnt) _ (fun _ => zeroVec len) (fun _ _ => rfl)
      (by rw [size_run]; omega) x,
    run_setRows C shards len w base 0 cnt _ (fun k => shards[off + k]!) (fun _ _ => rfl) (by omega) x,
    dataRows_get _ _ _ _ _ _ _ x hx, Nat.add_zero]
  by_cases h1 : base ≤ x ∧ x < base + cnt
  · rw [if_neg (by omega), if_pos h1, if_pos h1]
  · rw [if_neg h1, if_neg h1]
    by_cases h2 : base + cnt ≤ x ∧ x < base + m
    · rw [if_pos (by omega), if_pos h2]
    · rw [if_neg (by omega), if_neg h2]

theorem run_xorSteps (shards : Array Vec) (len : Nat) (w : Array Vec) (m : Nat) (h : 2 * m ≤ w.size) :
    run C shards len w (xorSteps m) = xorInto m w := by
  apply ext! (by simp)
  intro x hx
  rw [size_run] at hx
  unfold xorSteps
  have := run_xorsAt C shards len w 0 m m (by omega) (by omega) x
  simp only [Nat.zero_add, Nat.sub_zero, Nat.zero_le, true_and] at this
  rw [this, xorInto_get m w x hx]

def encGroup (shards : Array Vec) (len d m t g : Nat) (w : Array Vec) : Array Vec :=
  xorInto m (ifftRows C t m (m - 1 + (m + g * m)) 0
    (dataRows shards len m (m + g * m) (if m + g * m + m ≤ d then m else d - (m + g * m)) m w))

def encWork (shards : Array Vec) (len d m t : Nat) (w : Array Vec) : Array Vec :=
  if m < d then
    (List.range' 0 ((d - m + m - 1) / m)).foldl (fun w g => encGroup C shards len d m t g w)
      (ifftRows C t 0 (m - 1) 0 (dataRows shards len 0 0 (if d < m then d else m) m w))
  else ifftRows C t 0 (m - 1) 0 (dataRows shards len 0 0 (if d < m then d else m) m w)

@[simp] theorem size_encGroup (shards : Array Vec) (len d m t g : Nat) (w : Array Vec) :
    (encGroup C shards len d m t g w).size = w.size := by simp [encGroup]

theorem encGroup_get_lo (shards : Array Vec) (len d m t g : Nat) (w : Array Vec) (hm : m = 2 ^ t)
    (hsz : 2 * m ≤ w.size) (k : Nat) (hk : k < m) :
    (encGroup C shards len d m t g w)[k]! =
      xorVec w[k]! (ifftRows C t m (m - 1 + (m + g * m)) 0
        (dataRows shards len m (m + g * m) (if m + g * m + m ≤ d then m else d - (m + g * m)) m w))[m + k]! := by
  unfold encGroup
  rw [xorInto_get _ _ k (by simp; omega), if_pos hk,
    ifftRows_get_out C t m _ 0 _ (by rw [← hm]; simp; omega) k (Or.inl hk),
    dataRows_get _ _ _ _ _ _ _ k (by omega), if_neg (by omega), if_neg (by omega)]

theorem run_groupSteps (shards : Array Vec) (len : Nat) (w : Array Vec) (d m t g : Nat)
    (hm : m = 2 ^ t) (ht : t / 2 ≤ C.P.bits) (hsz : 2 * m ≤ w.size) :
    run C shards len w (groupSteps C d m g) = encGroup C shards len d m t g w := by
  have hcnt : (if m + g * m + m ≤ d then m else d - (m + g * m)) ≤ m := by split <;> omega
  unfold groupSteps encGroup
  rw [run_append, run_append, run_loadSteps C shards len w m _ _ m hcnt (by omega),
    run_ifftLayers_trunc C shards len _ m _ m _ 0 t hm ht hcnt (by simp; omega)
      (by
        intro idx h1 h2
        rw [dataRows_get _ _ _ _ _ _ _ _ (by omega), if_neg (by omega), if_pos (by omega)]),
    run_xorSteps C shards len _ m (by simp; omega)]

theorem run_groups (shards : Array Vec) (len : Nat) (d m t : Nat) (hm : m = 2 ^ t)
    (ht : t / 2 ≤ C.P.bits) (l : List Nat) (w : Array Vec) (hsz : 2 * m ≤ w.size) :
    run C shards len w (l.flatMap (groupSteps C d m)) =
      l.foldl (fun w g => encGroup C shards len d m t g w) w := by
  induction l generalizing w with
  | nil => rfl
  | cons g l ih =>
    rw [List.flatMap_cons, run_append, run_groupSteps C shards len w d m t g hm ht hsz, List.foldl_cons,
      ih _ (by rw [size_encGroup]; exact hsz)]

theorem size_foldl_encGroup (shards : Array Vec) (len d m t : Nat) (l : List Nat) (w : Array Vec) :
    (l.foldl (fun w g => encGroup C shards len d m t g w) w).size = w.size := by
  induction l generalizing w with
  | nil => rfl
  | cons g l ih => rw [List.foldl_cons, ih, size_encGroup]

@[simp] theorem size_encWork (shards : Array Vec) (len d m t : Nat) (w : Array Vec) :
    (encWork C shards len d m t w).size = w.size := by
  unfold encWork
  split
  · rw [size_foldl_encGroup]; simp
  · simp

theorem run_encodeSched (shards : Array Vec) (len : Nat) (w : Array Vec) (d p t : Nat)
    (hm : ceilPow2 p = 2 ^ t) (ht : t / 2 ≤ C.P.bits) (hsz : 2 * ceilPow2 p ≤ w.size) :
    run C shards len w (encodeSched C d p).toList =
      run C shards len (encWork C shards len d (ceilPow2 p) t w) (fftLayers C p (ceilPow2 p)).toList := by
  rw [encodeSched_toList, run_append, run_append, run_append]
  congr 1
  generalize ceilPow2 p = m at hm hsz
  have hmt : (if d < m then d else m) ≤ m := by split <;> omega
  rw [run_loadSteps C shards len w 0 0 _ m hmt (by omega),
    run_ifftLayers_trunc C shards len _ 0 _ m (m - 1) 0 t hm ht hmt (by simp; omega)
      (by
        intro idx h1 h2
        rw [dataRows_get _ _ _ _ _ _ _ _ (by omega), if_neg (by omega), if_pos (by omega)])]
  unfold encWork
  by_cases hmd : m < d
  · rw [if_pos hmd, if_pos hmd, run_groups C shards len d m t hm ht _ _ (by simp; omega)]
  · rw [if_neg hmd, if_neg hmd]
    rfl

theorem run_encodeSched_row (shards : Array Vec) (len : Nat) (w : Array Vec) (d p t : Nat)
    (hm : ceilPow2 p = 2 ^ t) (ht : t / 2 ≤ C.P.bits) (hp : p ≤ 2 ^ 64)
    (hsz : 2 * ceilPow2 p ≤ w.size) (r : Nat) (hr : r < p) :
    (run C shards len w (encodeSched C d p).toList)[r]! =
      (fftRows C t 0 0 1 (encWork C shards len d (ceilPow2 p) t w))[r]! := by
  rw [run_encodeSched C shards len w d p t hm ht hsz]
  exact run_fftLayers_lt C shards len _ p (ceilPow2 p) t hm ht (le_ceilPow2 p hp) (by simp; omega) r hr

theorem encode_row (len : Nat) (data : Array Vec) (d p t : Nat)
    (hm : ceilPow2 p = 2 ^ t) (ht : t / 2 ≤ C.P.bits) (hp : p ≤ 2 ^ 64) (r : Nat) (hr : r < p) :
    (encode C d p len data)[r]! =
      (fftRows C t 0 0 1 (encWork C data len d (ceilPow2 p) t
        (Array.replicate (2 * ceilPow2 p) (zeroVec len))))[r]! := by
  have hpm := le_ceilPow2 p hp
  unfold encode
  simp only
  rw [← run_encodeSched_row C data len _ d p t hm ht hp (by simp) r hr]
  rw [get!_extract _ 0 p r (by omega) (by simp; omega), Nat.zero_add]

end RSV.Proofs.LCHSched
