import RSV.Proofs.LCHSched.Gen
import RSV.Proofs.LCHSched.Pass
/-!
The forward schedules `fftLayersPruned C need mtrunc m` and `fftLayers C mtrunc m` (rows `[0, m)`, large distances
first).  A pass skips the blocks that start at or after `mtrunc` and those the test `need` rejects.  `live` marks
the output rows that will be read; if `need` accepts every block that holds a live row, the run agrees with the
forward network `fftRows C t 0 0 1` on those rows (`run_fftLayersPruned`): agreement on the aligned blocks holding a
live row (`AgreeLive`) is passed from pass to pass, since the rows a pass writes inside a block depend only on rows
of the same block, and a `4d`-block lies inside a `16d`-block.  `fftLayers` is the case where everything is needed
and every row below `mtrunc` is live (`run_fftLayers`).
-/
namespace RSV.Proofs.LCHSched
open RSV.Model.Leo RSV.Proofs.LeoSched RSV.Proofs.LeoSchedRange

variable (C : Ctx)

/-- written with the literal `0 + i` (`ifftGad` at `base = 0`) so that `pass4F_eq`, which is stated for any `base`,
applies as it stands -/
def fftGad (d i : Nat) : Rows → Rows :=
  fftG4 (bfF C) (0 + i) (0 + i + d) (0 + i + 2 * d) (0 + i + 3 * d)
    (skw C 0 1 d (i / (4 * d) * (4 * d)))
    (skw C 0 1 d (i / (4 * d) * (4 * d) + 2 * d))
    (skw C 0 1 (2 * d) (i / (4 * d) * (4 * d)))

def fftLL (m d : Nat) (ρ : Rows) : Rows :=
  layerF (bfF C) (skw C 0 1 d) d 0 m (layerF (bfF C) (skw C 0 1 (2 * d)) (2 * d) 0 m ρ)

theorem fftGad_local (d i : Nat) : LocalOn (S4 (0 + i) d) (fftGad C d i) := fftG4_local _ _ _ _ _ _

theorem fftPassF_eq (m d nb : Nat) (hd : 0 < d) (hnb : nb * (4 * d) ≤ m) (ρ : Rows) (z : Nat) :
    pass4F (fftGad C d) nb d ρ z =
      if 0 ≤ z ∧ z < 0 + nb * (4 * d) then fftLL C m d ρ z else ρ z := by
  apply pass4F_eq _ _ 0 nb d hd (fftGad_local C d)
  intro q l hq hl ρ z hz
  unfold fftGad fftLL
  rw [block_div q (4 * d) l (by omega)]
  have := succ_mul_le (D := 4 * d) hq
  exact fft_two_layers (bfF C) _ _ d 0 m hd ρ (q * (4 * d)) l ⟨q, Nat.mul_comm _ _⟩ hl (by omega) z hz

theorem layer0_pair (m : Nat) (ρ : Rows) (q : Nat) (hq : q * 2 + 2 ≤ m) :
    layerF (bfF C) (skw C 0 1 1) 1 0 m ρ (q * 2) = (bfF C (ρ (q * 2)) (ρ (q * 2 + 1)) (skewAt C (q * 2))).1 ∧
      layerF (bfF C) (skw C 0 1 1) 1 0 m ρ (q * 2 + 1) =
        (bfF C (ρ (q * 2)) (ρ (q * 2 + 1)) (skewAt C (q * 2))).2 := by
  have p := layerF_pair (bfF C) (skw C 0 1 1) 1 0 m ρ (q * 2) 0 ⟨q, by omega⟩ (by omega) (by omega)
  have hsk : skw C 0 1 1 (q * 2) = skewAt C (q * 2) := by unfold skw; congr 1; omega
  rw [Nat.zero_add, Nat.add_zero, hsk] at p
  exact p

def fftF (base m skewOff idxAdj : Nat) : Nat → Rows → Rows
  | 0, ρ => ρ
  | k + 1, ρ => fftF base m skewOff idxAdj k
      (layerF (bfF C) (skw C skewOff idxAdj (2 ^ k)) (2 ^ k) base m ρ)

theorem rowsOf_fftRowsAux (base m skewOff idxAdj k : Nat) (w : Array Vec) (h : base + m ≤ w.size) :
    rowsOf (fftRowsAux C base m skewOff idxAdj k w) = fftF C base m skewOff idxAdj k (rowsOf w) := by
  induction k generalizing w with
  | zero => rfl
  | succ k ih =>
    rw [fftRowsAux, ih _ (by rw [size_fftLayerRows]; exact h), fftLayerRows,
      rowsOf_layerRows _ _ _ _ _ _ h]
    rfl

theorem fftF_succ_succ (m k : Nat) (ρ : Rows) :
    fftF C 0 m 0 1 (k + 2) ρ = fftF C 0 m 0 1 k (fftLL C m (2 ^ k) ρ) := by
  show fftF C 0 m 0 1 k (layerF _ _ _ _ _ (layerF _ _ (2 ^ (k + 1)) _ _ _)) = _
  rw [Nat.pow_succ']
  rfl

def fftTopF (m t : Nat) : Nat → Rows → Rows
  | 0, ρ => ρ
  | J + 1, ρ => fftLL C m (2 ^ (t - 2 * J - 2)) (fftTopF m t J ρ)

theorem fftF_top (m t J : Nat) (hJ : 2 * J ≤ t) (ρ : Rows) :
    fftF C 0 m 0 1 t ρ = fftF C 0 m 0 1 (t - 2 * J) (fftTopF C m t J ρ) := by
  induction J with
  | zero => rfl
  | succ J ih =>
    rw [ih (by omega)]
    have e : t - 2 * J = (t - 2 * J - 2) + 2 := by omega
    have e' : t - 2 * (J + 1) = t - 2 * J - 2 := by omega
    rw [e, fftF_succ_succ, e']
    rfl

end RSV.Proofs.LCHSched

namespace RSV.LCHDecode
open RSV.Model.Leo RSV.Proofs.LeoSched RSV.Proofs.LeoSchedRange RSV.Proofs.LCHSched

variable (C : Ctx)

def fftGadP (need : Nat → Nat → Bool) (lvl d i : Nat) : Rows → Rows :=
  if need lvl (i / (4 * d) * (4 * d)) then fftGad C d i else id

theorem localOn_id (S : Nat → Prop) : LocalOn S (id : Rows → Rows) where
  frame := fun _ _ _ => rfl
  loc := fun _ _ h z hz => h z hz

theorem fftGadP_local (need : Nat → Nat → Bool) (lvl d i : Nat) :
    LocalOn (S4 (0 + i) d) (fftGadP C need lvl d i) := by
  unfold fftGadP
  split
  · exact fftGad_local C d i
  · exact localOn_id _

theorem fftPassPruned_eq (need : Nat → Nat → Bool) (lvl mtrunc d : Nat) (hd : 0 < d) :
    fftPassPruned C need lvl mtrunc d =
      (idxList ((mtrunc + 4 * d - 1) / (4 * d)) d).flatMap fun i =>
        if need lvl (i / (4 * d) * (4 * d)) then
          fft4 C (0 + i) d (skw C 0 1 d (i / (4 * d) * (4 * d)))
            (skw C 0 1 d (i / (4 * d) * (4 * d) + 2 * d))
            (skw C 0 1 (2 * d) (i / (4 * d) * (4 * d)))
        else [] := by
  unfold fftPassPruned idxList
  rw [List.flatMap_assoc]
  apply flatMap_congr'
  intro q _
  by_cases hn : need lvl (q * (4 * d)) = true
  · rw [if_pos hn]
    unfold fftBlock
    apply flatMap_congr'
    intro i hi
    have hi' := List.mem_range'_1.mp hi
    obtain ⟨l, rfl⟩ : ∃ l, i = q * (4 * d) + l := ⟨i - q * (4 * d), by omega⟩
    rw [block_div q (4 * d) l (by omega), if_pos hn]
    unfold skw
    simp only [Nat.zero_add]
    congr 2 <;> omega
  · rw [if_neg hn]
    symm
    refine List.flatMap_eq_nil_iff.mpr fun i hi => ?_
    have hi' := List.mem_range'_1.mp hi
    obtain ⟨l, rfl⟩ : ∃ l, i = q * (4 * d) + l := ⟨i - q * (4 * d), by omega⟩
    rw [block_div q (4 * d) l (by omega), if_neg hn]

theorem sim_fftPassPruned (need : Nat → Nat → Bool) (lvl n mtrunc d : Nat) (hd : 0 < d)
    (hn : (mtrunc + 4 * d - 1) / (4 * d) * (4 * d) ≤ n) :
    Sim C n (fftPassPruned C need lvl mtrunc d)
      (pass4F (fftGadP C need lvl d) ((mtrunc + 4 * d - 1) / (4 * d)) d) := by
  rw [fftPassPruned_eq C need lvl mtrunc d hd]
  apply Sim.flatMap
  intro i hi
  obtain ⟨q, hq, h1, h2⟩ := (mem_idxList _ d i).mp hi
  have := succ_mul_le (D := 4 * d) hq
  unfold fftGadP
  by_cases hb : need lvl (i / (4 * d) * (4 * d)) = true
  · rw [if_pos hb, if_pos hb]
    exact sim_fft4 C n (0 + i) d _ _ _ hd (by omega)
  · rw [if_neg hb, if_neg hb]
    exact Sim.nil C n

def AgreeLive (live : Nat → Bool) (m mtrunc D : Nat) (σ κ : Rows) : Prop :=
  ∀ idx, idx < m → ∀ x, x < mtrunc → live x = true → x / D = idx / D → σ idx = κ idx

theorem div_eq_of_div_eq (x z D D' : Nat) (h : D ∣ D') (hxz : x / D = z / D) : x / D' = z / D' := by
  obtain ⟨c, rfl⟩ := h
  rw [← Nat.div_div_eq_div_mul, ← Nat.div_div_eq_div_mul, hxz]

theorem fft_pass_agree_pruned (live : Nat → Bool) (need : Nat → Nat → Bool) (lvl m mtrunc d D' : Nat)
    (hd : 0 < d) (hdm : 4 * d ∣ m) (hD' : 4 * d ∣ D')
    (hneed : ∀ x, x < mtrunc → live x = true → need lvl (x / (4 * d) * (4 * d)) = true)
    (σ κ : Rows) (hA : AgreeLive live m mtrunc D' σ κ) :
    AgreeLive live m mtrunc (4 * d)
      (pass4F (fftGadP C need lvl d) ((mtrunc + 4 * d - 1) / (4 * d)) d σ) (fftLL C m d κ) := by
  intro idx hidx x hx hlive hxd
  obtain ⟨nbF, hnbF⟩ := hdm
  have hD : 0 < 4 * d := by omega
  have hm' : m = nbF * (4 * d) := by rw [hnbF, Nat.mul_comm]
  obtain ⟨q, l, hq, hl, hS⟩ := decomp_S4 0 nbF d idx hd (Nat.zero_le _) (by omega)
  have hc := S4_cases hS
  have hqm := succ_mul_le (D := 4 * d) hq
  obtain ⟨e, he, hie⟩ : ∃ e, e < 4 * d ∧ idx = q * (4 * d) + e := ⟨idx - q * (4 * d), by omega, by omega⟩
  have hidxq : idx / (4 * d) = q := by
    rw [hie, Nat.mul_comm q, Nat.mul_add_div hD, Nat.div_eq_of_lt he, Nat.add_zero]
  have hxq : x / (4 * d) * (4 * d) = q * (4 * d) := by rw [hxd, hidxq]
  have hblk : q * (4 * d) < mtrunc := by
    have := Nat.div_mul_le_self x (4 * d)
    omega
  have hqnb : q < (mtrunc + 4 * d - 1) / (4 * d) := (mul_lt_iff_lt_ceil _ _ _ hD).mp hblk
  have hnd : need lvl (q * (4 * d)) = true := by rw [← hxq]; exact hneed x hx hlive
  rw [pass4F_in _ 0 _ d (fftGadP_local C need lvl d) σ q l hqnb hl idx hS]
  have hgad : fftGadP C need lvl d (q * (4 * d) + l) = fftGad C d (q * (4 * d) + l) := by
    unfold fftGadP
    rw [block_div q (4 * d) l (by omega), if_pos hnd]
  rw [hgad]
  have hfull := fftPassF_eq C m d nbF hd (by omega) κ idx
  rw [if_pos (by omega)] at hfull
  rw [← hfull, pass4F_in _ 0 nbF d (fftGad_local C d) κ q l hq hl idx hS]
  apply (fftGad_local C d (q * (4 * d) + l)).loc σ κ _ idx hS
  intro z' hz'
  obtain ⟨e', he', hze⟩ : ∃ e', e' < 4 * d ∧ z' = q * (4 * d) + e' := by
    unfold S4 at hz'
    exact ⟨z' - q * (4 * d), by omega, by omega⟩
  have hzq : z' / (4 * d) = q := by
    rw [hze, Nat.mul_comm q, Nat.mul_add_div hD, Nat.div_eq_of_lt he', Nat.add_zero]
  exact hA z' (by omega) x hx hlive (div_eq_of_div_eq x z' (4 * d) D' hD' (by rw [hxd, hidxq, hzq]))

def fin2GadP (need : Nat → Nat → Bool) (lvl q : Nat) : Rows → Rows :=
  if need lvl (q * 2) then bf2 (bfF C) (q * 2) (q * 2 + 1) (skewAt C (q * 2)) else id

def fin2FP (need : Nat → Nat → Bool) (lvl nb : Nat) (ρ : Rows) : Rows :=
  (List.range nb).foldl (fun ρ q => fin2GadP C need lvl q ρ) ρ

theorem sim_fftFinalPruned (need : Nat → Nat → Bool) (lvl n mtrunc : Nat)
    (hn : (mtrunc + 2 - 1) / 2 * 2 ≤ n) :
    Sim C n (fftFinalPruned C need lvl mtrunc) (fin2FP C need lvl ((mtrunc + 2 - 1) / 2)) := by
  unfold fftFinalPruned
  apply Sim.flatMap
  intro q hq
  have hq' := List.mem_range.mp hq
  have := succ_mul_le (D := 2) hq'
  unfold fin2GadP
  by_cases hb : need lvl (q * 2) = true
  · rw [if_pos hb, if_pos hb]
    exact sim_fft2 C n _ _ _ (by omega) (by omega) (by omega)
  · rw [if_neg hb, if_neg hb]
    exact Sim.nil C n

theorem fin2FP_spec (need : Nat → Nat → Bool) (lvl nb : Nat) (ρ : Rows) (q : Nat) (hq : q < nb) (z : Nat)
    (hz : z = q * 2 ∨ z = q * 2 + 1) : fin2FP C need lvl nb ρ z = fin2GadP C need lvl q ρ z := by
  have hpw : (List.range nb).Pairwise fun a b =>
      ∀ z, (z = a * 2 ∨ z = a * 2 + 1) → ¬ (z = b * 2 ∨ z = b * 2 + 1) := by
    refine List.Pairwise.imp ?_ (List.pairwise_lt_range (n := nb))
    intro a b hab z h1 h2
    omega
  have key := foldl_disjoint (fin2GadP C need lvl) (fun q z => z = q * 2 ∨ z = q * 2 + 1)
    (fun q => by
      unfold fin2GadP
      split
      · exact LocalOn.bf2 (bfF C) _ (Or.inl rfl) (Or.inr rfl)
      · exact localOn_id _) _ hpw ρ
  exact key.1 q (List.mem_range.mpr hq) z hz

theorem fft_final_agree_pruned (live : Nat → Bool) (need : Nat → Nat → Bool) (lvl m mtrunc D' : Nat)
    (hdm : 2 ∣ m) (hD' : 2 ∣ D')
    (hneed : ∀ x, x < mtrunc → live x = true → need lvl (x / 2 * 2) = true)
    (σ κ : Rows) (hA : AgreeLive live m mtrunc D' σ κ) :
    AgreeLive live m mtrunc 2 (fin2FP C need lvl ((mtrunc + 2 - 1) / 2) σ)
      (layerF (bfF C) (skw C 0 1 1) 1 0 m κ) := by
  intro idx hidx x hx hlive hxd
  have h1 := Nat.div_add_mod idx 2
  have h2 := Nat.mod_lt idx (by decide : 0 < 2)
  have hlt : idx / 2 * 2 < mtrunc := by
    have := Nat.div_mul_le_self x 2
    rw [← hxd]; omega
  have hqnb : idx / 2 < (mtrunc + 2 - 1) / 2 := (mul_lt_iff_lt_ceil _ _ _ (by decide)).mp hlt
  obtain ⟨c, hc⟩ := hdm
  have hq2 : idx / 2 * 2 + 2 ≤ m := by omega
  obtain ⟨l0, l1⟩ := layer0_pair C m κ (idx / 2) hq2
  have hnd : need lvl (idx / 2 * 2) = true := by rw [← hxd]; exact hneed x hx hlive
  have a0 : σ (idx / 2 * 2) = κ (idx / 2 * 2) := by
    apply hA _ (by omega) x hx hlive
    apply div_eq_of_div_eq x _ 2 D' hD'
    rw [Nat.mul_div_cancel _ (by decide : 0 < 2)]; exact hxd
  have a1 : σ (idx / 2 * 2 + 1) = κ (idx / 2 * 2 + 1) := by
    apply hA _ (by omega) x hx hlive
    apply div_eq_of_div_eq x _ 2 D' hD'
    omega
  have hcase : idx = idx / 2 * 2 ∨ idx = idx / 2 * 2 + 1 := by omega
  rw [fin2FP_spec C need lvl _ σ (idx / 2) hqnb idx hcase]
  unfold fin2GadP
  rw [if_pos hnd]
  rcases hcase with h | h
  · rw [h] at l0 ⊢
    rw [Nat.mul_div_cancel _ (by decide : 0 < 2)] at l0 ⊢
    rw [l0, bf2_fst, a0, a1]
  · have e : (idx / 2 * 2 + 1) / 2 = idx / 2 := by omega
    rw [h] at l1 ⊢
    rw [e] at l1 ⊢
    rw [l1, bf2_snd _ (by omega), a0, a1]

def fftPassesFP (need : Nat → Nat → Bool) (mtrunc t J : Nat) (ρ : Rows) : Rows :=
  (List.range J).foldl (fun ρ j => pass4F (fftGadP C need (t - 2 * j) (2 ^ (t - 2 * j - 2)))
    ((mtrunc + 4 * 2 ^ (t - 2 * j - 2) - 1) / (4 * 2 ^ (t - 2 * j - 2))) (2 ^ (t - 2 * j - 2)) ρ) ρ

theorem fftPassesFP_agree (live : Nat → Bool) (need : Nat → Nat → Bool) (m mtrunc t : Nat)
    (hm : m = 2 ^ t)
    (hs : ∀ lvl x, 1 ≤ lvl → lvl ≤ t → x < mtrunc → live x = true → need lvl (x / 2 ^ lvl * 2 ^ lvl) = true)
    (ρ : Rows) (J : Nat) (hJ : 2 * J ≤ t) :
    AgreeLive live m mtrunc (2 ^ (t + 2 - 2 * J)) (fftPassesFP C need mtrunc t J ρ) (fftTopF C m t J ρ) := by
  induction J with
  | zero => intro idx _ _ _ _ _; rfl
  | succ J ih =>
    have ih' := ih (by omega)
    have hstep : fftPassesFP C need mtrunc t (J + 1) ρ =
        pass4F (fftGadP C need (t - 2 * J) (2 ^ (t - 2 * J - 2)))
          ((mtrunc + 4 * 2 ^ (t - 2 * J - 2) - 1) / (4 * 2 ^ (t - 2 * J - 2))) (2 ^ (t - 2 * J - 2))
          (fftPassesFP C need mtrunc t J ρ) := by
      unfold fftPassesFP
      rw [List.range_succ, List.foldl_append]
      rfl
    have h4 : 4 * 2 ^ (t - 2 * J - 2) = 2 ^ (t + 2 - 2 * (J + 1)) := by
      rw [four_mul_pow2]; congr 1; omega
    have h4' : 4 * 2 ^ (t - 2 * J - 2) = 2 ^ (t - 2 * J) := by
      rw [four_mul_pow2]; congr 1; omega
    have := fft_pass_agree_pruned C live need (t - 2 * J) m mtrunc (2 ^ (t - 2 * J - 2))
      (2 ^ (t + 2 - 2 * J)) (Nat.two_pow_pos _)
      (by rw [h4, hm]; exact Nat.pow_dvd_pow 2 (by omega))
      (by rw [h4]; exact Nat.pow_dvd_pow 2 (by omega))
      (by intro x hx hl; rw [h4']; exact hs (t - 2 * J) x (by omega) (by omega) hx hl) _ _ ih'
    rw [h4] at this
    rw [hstep, h4]
    exact this

def fftSchedFP (need : Nat → Nat → Bool) (mtrunc t : Nat) (ρ : Rows) : Rows :=
  if t % 2 = 1 then fin2FP C need 1 ((mtrunc + 2 - 1) / 2) (fftPassesFP C need mtrunc t (t / 2) ρ)
  else fftPassesFP C need mtrunc t (t / 2) ρ

theorem sim_fftLayersPruned (need : Nat → Nat → Bool) (mtrunc m t : Nat) (hm : m = 2 ^ t)
    (ht : t / 2 ≤ C.P.bits) (hmt : mtrunc ≤ m) :
    Sim C m (fftLayersPruned C need mtrunc m).toList (fftSchedFP C need mtrunc t) := by
  rw [fftLayersPruned_toList C need mtrunc m t hm hmt ht]
  have hpass : Sim C m ((List.range (t / 2)).flatMap fun j =>
        fftPassPruned C need (t - 2 * j) mtrunc (2 ^ (t - 2 * j - 2)))
      (fftPassesFP C need mtrunc t (t / 2)) := by
    apply Sim.flatMap
    intro j hj
    have hj' := List.mem_range.mp hj
    apply sim_fftPassPruned C need _ _ mtrunc _ (Nat.two_pow_pos _)
    apply ceil_mul_le _ _ _ (by have := Nat.two_pow_pos (t - 2 * j - 2); omega) _ hmt
    rw [four_mul_pow2, hm]; exact Nat.pow_dvd_pow 2 (by omega)
  unfold fftSchedFP
  by_cases hodd : t % 2 = 1
  · rw [if_pos hodd]
    have hfin := sim_fftFinalPruned C need 1 m mtrunc (ceil_mul_le _ _ _ (by decide)
      (by rw [hm, show t = (t - 1) + 1 by omega, Nat.pow_succ]; exact Nat.dvd_mul_left _ _) hmt)
    refine Sim.congr C (hpass.append C hfin) ?_
    funext ρ
    rw [if_pos hodd]
  · rw [if_neg hodd, List.append_nil]
    refine Sim.congr C hpass ?_
    funext ρ
    rw [if_neg hodd]

/-- the rows that are right are those of the final-pass block (of size `2` for odd `t`, `4` for even `t`) of a live
row `x < mtrunc` -/
theorem run_fftLayersPruned (live : Nat → Bool) (need : Nat → Nat → Bool) (shards : Array Vec) (len : Nat)
    (w : Array Vec) (mtrunc m t : Nat) (hm : m = 2 ^ t) (ht : t / 2 ≤ C.P.bits) (hmt : mtrunc ≤ m)
    (hsz : m ≤ w.size) (hs : ∀ lvl x, 1 ≤ lvl → lvl ≤ t → x < mtrunc → live x = true → need lvl (x / 2 ^ lvl * 2 ^ lvl) = true) (idx : Nat) (hidx : idx < m)
    (x : Nat) (hx : x < mtrunc) (hlive : live x = true)
    (hblk : x / (if t % 2 = 1 then 2 else 4) = idx / (if t % 2 = 1 then 2 else 4)) :
    (run C shards len w (fftLayersPruned C need mtrunc m).toList)[idx]! = (fftRows C t 0 0 1 w)[idx]! := by
  show rowsOf (run C shards len w (fftLayersPruned C need mtrunc m).toList) idx =
    rowsOf (fftRows C t 0 0 1 w) idx
  rw [sim_fftLayersPruned C need mtrunc m t hm ht hmt shards len w hsz, fftRows, ← hm,
    rowsOf_fftRowsAux C 0 m 0 1 t w (by omega), fftF_top C m t (t / 2) (by omega)]
  have hA := fftPassesFP_agree C live need m mtrunc t hm hs (rowsOf w) (t / 2) (by omega)
  unfold fftSchedFP
  by_cases hodd : t % 2 = 1
  · rw [if_pos hodd] at hblk ⊢
    have e : t - 2 * (t / 2) = 1 := by omega
    rw [e]
    have h2m : 2 ∣ m := by
      rw [hm, show t = (t - 1) + 1 by omega, Nat.pow_succ]; exact Nat.dvd_mul_left _ _
    have := fft_final_agree_pruned C live need 1 m mtrunc _ h2m
      (by rw [show t + 2 - 2 * (t / 2) = 3 by omega]; exact ⟨4, rfl⟩)
      (fun x hx hl => hs 1 x (Nat.le_refl 1) (by omega) hx hl) _ _ hA
    exact this idx hidx x hx hlive hblk
  · rw [if_neg hodd] at hblk ⊢
    have e : t - 2 * (t / 2) = 0 := by omega
    rw [e]
    rw [show t + 2 - 2 * (t / 2) = 2 by omega] at hA
    exact hA idx hidx x hx hlive hblk

end RSV.LCHDecode

namespace RSV.Proofs.LCHSched
open RSV.Model.Leo RSV.Proofs.LeoSched RSV.Proofs.LeoSchedRange RSV.LCHDecode

variable (C : Ctx)

theorem sim_fftLayers (mtrunc m t : Nat) (hm : m = 2 ^ t) (ht : t / 2 ≤ C.P.bits) (hmt : mtrunc ≤ m) :
    Sim C m (fftLayers C mtrunc m).toList (fftSchedFP C (fun _ _ => true) mtrunc t) := by
  rw [fftLayers_toList C mtrunc m]
  exact sim_fftLayersPruned C _ mtrunc m t hm ht hmt

/-- the rows that are right are those of the final-pass blocks (of size `2` for odd `t`, `4` for even `t`) whose
start is `< mtrunc` -/
theorem run_fftLayers (shards : Array Vec) (len : Nat) (w : Array Vec) (mtrunc m t : Nat)
    (hm : m = 2 ^ t) (ht : t / 2 ≤ C.P.bits) (hmt : mtrunc ≤ m) (hsz : m ≤ w.size) (idx : Nat)
    (hidx : idx < m)
    (hblk : idx / (if t % 2 = 1 then 2 else 4) * (if t % 2 = 1 then 2 else 4) < mtrunc) :
    (run C shards len w (fftLayers C mtrunc m).toList)[idx]! = (fftRows C t 0 0 1 w)[idx]! := by
  rw [fftLayers_toList C mtrunc m]
  have hB : 0 < (if t % 2 = 1 then 2 else 4) := by split <;> decide
  exact run_fftLayersPruned C (fun _ => true) _ shards len w mtrunc m t hm ht hmt hsz
    (fun _ _ _ _ _ _ => rfl) idx hidx _ hblk rfl (Nat.mul_div_cancel _ hB)

theorem run_fftLayers_lt (shards : Array Vec) (len : Nat) (w : Array Vec) (mtrunc m t : Nat)
    (hm : m = 2 ^ t) (ht : t / 2 ≤ C.P.bits) (hmt : mtrunc ≤ m) (hsz : m ≤ w.size) (idx : Nat)
    (hidx : idx < mtrunc) :
    (run C shards len w (fftLayers C mtrunc m).toList)[idx]! = (fftRows C t 0 0 1 w)[idx]! := by
  apply run_fftLayers C shards len w mtrunc m t hm ht hmt hsz idx (by omega)
  exact Nat.lt_of_le_of_lt (Nat.div_mul_le_self _ _) hidx

end RSV.Proofs.LCHSched

#print axioms RSV.LCHDecode.sim_fftPassPruned
#print axioms RSV.LCHDecode.fft_pass_agree_pruned
#print axioms RSV.LCHDecode.sim_fftFinalPruned
#print axioms RSV.LCHDecode.fft_final_agree_pruned
#print axioms RSV.LCHDecode.run_fftLayersPruned
