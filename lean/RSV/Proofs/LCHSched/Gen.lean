import RSV.Proofs.LeoSchedRange
import RSV.Model.LeopardPruned
/-!
The loop generators `ifftLayers` / `fftLayers` of `RSV/Model/Leopard.lean` (`Id.run do` blocks with mutable
`dist / dist4 / r`) as closed `flatMap` expressions: for `m = 2^t`, `t/2` radix-4 passes followed, for odd `t`, by
one radix-2 pass; a pass runs over the blocks `r = q·dist4 < mtrunc`.  The forward generator is analysed once, in
its pruned form `fftLayersPruned` (`fftPassPruned`, `fftFinalPruned`, `fftLayersPruned_toList`; these names are
under `RSV.LCHDecode`); `fftLayers` is the instance whose test always answers `true`.
-/
namespace RSV.Proofs.LCHSched
open RSV.Model.Leo RSV.Proofs.LeoSched RSV.Proofs.LeoSchedRange

theorem forIn_append (l : List Nat) (g : Nat → List Step) (init : Array Step) :
    (forIn (m := Id) l init fun i s => pure (ForInStep.yield (s ++ (g i).toArray))) =
      pure (init ++ (l.flatMap g).toArray) := by
  induction l generalizing init with
  | nil => simp
  | cons a l ih =>
    rw [List.forIn_cons]
    show forIn l (init ++ (g a).toArray) _ = _
    rw [ih]
    simp [List.flatMap_cons, Array.append_assoc]

theorem forIn_idx {β : Type} (P : Nat → β → Prop) (n : Nat) :
    ∀ (s : Nat) (f : Nat → β → Id (ForInStep β)) (init : β), P s init →
      (∀ a, s ≤ a → a < s + n → ∀ b, P a b → ∃ b', f a b = pure (ForInStep.yield b') ∧ P (a + 1) b') →
      P (s + n) (forIn (List.range' s n) init f).run := by
  induction n with
  | zero => intro s f init h0 _; exact h0
  | succ n ih =>
    intro s f init h0 hs
    obtain ⟨b', hb', hP⟩ := hs s (Nat.le_refl _) (by omega) init h0
    rw [List.range'_succ, List.forIn_cons, hb']
    show P (s + (n + 1)) (forIn (List.range' (s + 1) n) b' f).run
    have := ih (s + 1) f b' hP (fun a h1 h2 b hb => hs a (by omega) (by omega) b hb)
    rwa [show s + 1 + n = s + (n + 1) by omega] at this

/-- the Go loops `for dist4 <= m`, `for r < mtrunc` are unrolled to a fixed number `n` of iterations in the model:
the body acts while `a < N` and leaves the state alone afterwards -/
theorem forIn_upto {β : Type} (Inv : Nat → β → Prop) (n N : Nat) (hN : N ≤ n)
    (f : Nat → β → Id (ForInStep β)) (init : β) (h0 : Inv 0 init)
    (act : ∀ a, a < N → ∀ b, Inv a b → ∃ b', f a b = pure (ForInStep.yield b') ∧ Inv (a + 1) b')
    (idle : ∀ a, N ≤ a → ∀ b, Inv N b → f a b = pure (ForInStep.yield b)) :
    Inv N (forIn (List.range' 0 n) init f).run := by
  have key := forIn_idx (fun a b => Inv (min a N) b) n 0 f init (by rwa [Nat.zero_min]) (by
    intro a _ _ b hb
    show ∃ b', _ ∧ Inv (min (a + 1) N) b'
    have hb : Inv (min a N) b := hb
    by_cases ha : a < N
    · rw [Nat.min_eq_left (Nat.le_of_lt ha)] at hb
      rw [Nat.min_eq_left ha]
      exact act a ha b hb
    · rw [Nat.min_eq_right (Nat.le_of_not_lt ha)] at hb
      rw [Nat.min_eq_right (by omega)]
      exact ⟨b, idle a (Nat.le_of_not_lt ha) b hb, hb⟩)
  rwa [Nat.zero_add, Nat.min_eq_right hN] at key

theorem bind_upto {β γ : Type} (Q : γ → Prop) (Inv : Nat → β → Prop) (n N : Nat) (hN : N ≤ n)
    {f : Nat → β → Id (ForInStep β)} {init : β} {g : β → Id γ} (h0 : Inv 0 init)
    (act : ∀ a, a < N → ∀ b, Inv a b → ∃ b', f a b = pure (ForInStep.yield b') ∧ Inv (a + 1) b')
    (idle : ∀ a, N ≤ a → ∀ b, Inv N b → f a b = pure (ForInStep.yield b))
    (hg : ∀ b, Inv N b → Q (g b).run) :
    Q ((forIn (List.range' 0 n) init f) >>= g).run :=
  hg _ (forIn_upto Inv n N hN f init h0 act idle)

theorem bind_proj {β γ δ : Type} (π : β → γ) {f : Nat → β → Id (ForInStep β)} {g : Nat → γ → Id (ForInStep γ)}
    (h : ∀ a b, ∃ b', f a b = pure (ForInStep.yield b') ∧ g a (π b) = pure (ForInStep.yield (π b')))
    (l : List Nat) (init : β) (k : γ → Id δ) :
    (forIn l (π init) g >>= k).run = (forIn l init f >>= fun b => k (π b)).run := by
  induction l generalizing init with
  | nil => rfl
  | cons a l ih =>
    obtain ⟨b', h1, h2⟩ := h a init
    rw [List.forIn_cons, List.forIn_cons, h1, h2]
    exact ih b'

theorem four_pow (j : Nat) : 4 ^ j = 2 ^ (2 * j) := by
  rw [Nat.pow_mul]

theorem four_mul_four_pow (j : Nat) : 4 * 4 ^ j = 2 ^ (2 * j + 2) := by
  rw [four_pow, four_mul_pow2]

theorem four_pow_le_iff (j t : Nat) : 4 * 4 ^ j ≤ 2 ^ t ↔ j < t / 2 := by
  rw [four_mul_four_pow, Nat.pow_le_pow_iff_right (by decide)]; omega

theorem four_pow_lt_iff (j t : Nat) : 4 ^ j < 2 ^ t ↔ 2 * j < t := by
  rw [four_pow, Nat.pow_lt_pow_iff_right (by decide)]

theorem mul_lt_iff_lt_ceil (q D n : Nat) (hD : 0 < D) : q * D < n ↔ q < (n + D - 1) / D := by
  rw [Nat.lt_div_iff_mul_lt hD]
  omega

theorem ceil_le_self (D n : Nat) (hD : 0 < D) : (n + D - 1) / D ≤ n := by
  rcases Nat.eq_zero_or_pos ((n + D - 1) / D) with h | h
  · omega
  · have h1 : (n + D - 1) / D - 1 < (n + D - 1) / D := by omega
    rw [← mul_lt_iff_lt_ceil _ D n hD] at h1
    have : (n + D - 1) / D - 1 ≤ ((n + D - 1) / D - 1) * D := Nat.le_mul_of_pos_right _ hD
    omega

theorem ceil_mul_ge (n D : Nat) (hD : 0 < D) : n ≤ (n + D - 1) / D * D := by
  have h1 := Nat.div_add_mod (n + D - 1) D
  have h2 := Nat.mod_lt (n + D - 1) hD
  rw [Nat.mul_comm ((n + D - 1) / D) D]
  omega

theorem div_mul_mono (a b D : Nat) (h : a ≤ b) : a / D * D ≤ b / D * D :=
  Nat.mul_le_mul_right D (Nat.div_le_div_right h)

theorem ceil_mul_le (n D m : Nat) (hD : 0 < D) (hdm : D ∣ m) (hn : n ≤ m) : (n + D - 1) / D * D ≤ m := by
  obtain ⟨c, hc⟩ := hdm
  have : (n + D - 1) / D ≤ c := by
    rcases Nat.lt_or_ge c ((n + D - 1) / D) with h | h
    · rw [← mul_lt_iff_lt_ceil _ _ _ hD, Nat.mul_comm] at h; omega
    · exact h
  have := Nat.mul_le_mul_right D this
  rw [Nat.mul_comm c, ← hc] at this
  exact this

variable (C : Ctx)

/-- the multiplier of the block with offset `b` in the layer with distance `d` -/
def skw (skewOff idxAdj d b : Nat) : Nat := skewAt C (skewOff + b + d - idxAdj)

def ifftBlock (base skewOff idxAdj dist r : Nat) : List Step :=
  (List.range' r dist).flatMap fun i =>
    ifft4 C (base + i) dist (skewAt C (skewOff + (r + dist) - idxAdj))
      (skewAt C (skewOff + (r + dist) + dist * 2 - idxAdj))
      (skewAt C (skewOff + (r + dist) + dist - idxAdj))

def ifftPass (base mtrunc skewOff idxAdj dist : Nat) : List Step :=
  (List.range ((mtrunc + 4 * dist - 1) / (4 * dist))).flatMap fun q =>
    ifftBlock C base skewOff idxAdj dist (q * (4 * dist))

def ifftFinal (base skewOff idxAdj dist : Nat) : List Step :=
  (List.range' 0 dist).flatMap fun i =>
    ifft2 C (base + i) (base + i + dist) (skewAt C (skewOff + dist - idxAdj))

def fftBlock (dist r : Nat) : List Step :=
  (List.range' r dist).flatMap fun i =>
    fft4 C i dist (skewAt C (r + dist - 1)) (skewAt C (r + dist + dist * 2 - 1))
      (skewAt C (r + dist + dist - 1))

theorem range_succ_flatMap {β} (n : Nat) (f : Nat → List β) :
    (List.range (n + 1)).flatMap f = (List.range n).flatMap f ++ f n := by
  rw [List.range_succ, List.flatMap_append]; simp

/-- the loop `for r := 0; r < mtrunc; r += dist4` of one pass, generic in the block generator -/
theorem mid_loop (blk : Nat → List Step) (mtrunc m D4 : Nat) (hD : 0 < D4) (hmt : mtrunc ≤ m)
    (out : Array Step)
    (f : Nat → Array Step × Nat → Id (ForInStep (Array Step × Nat)))
    (hf : ∀ a s, f a s = if s.2 < mtrunc then pure (ForInStep.yield (s.1 ++ (blk s.2).toArray, s.2 + D4))
      else pure (ForInStep.yield (s.1, s.2))) :
    ((forIn (List.range' 0 m) (out, 0) f).run).1.toList =
      out.toList ++ (List.range ((mtrunc + D4 - 1) / D4)).flatMap fun q => blk (q * D4) := by
  have hnb := ceil_le_self D4 mtrunc hD
  refine (forIn_upto (fun q (s : Array Step × Nat) => s.2 = q * D4 ∧
      s.1.toList = out.toList ++ (List.range q).flatMap fun q => blk (q * D4))
    m ((mtrunc + D4 - 1) / D4) (by omega) f (out, 0) (by simp) ?_ ?_).2
  · rintro a ha ⟨o, r⟩ ⟨hr, ho⟩
    simp only at hr ho
    rw [hf, if_pos (by rw [hr]; exact (mul_lt_iff_lt_ceil _ _ _ hD).mpr ha)]
    refine ⟨_, rfl, ?_, ?_⟩
    · show r + D4 = (a + 1) * D4
      rw [hr, Nat.succ_mul]
    · show (o ++ (blk r).toArray).toList = _
      rw [range_succ_flatMap, Array.toList_append, ho, hr, List.append_assoc]
  · rintro a ha ⟨o, r⟩ ⟨hr, _⟩
    simp only at hr
    rw [hf, if_neg (by rw [hr, mul_lt_iff_lt_ceil _ _ _ hD]; omega)]

theorem ifftLayers_toList (base mtrunc m skewOff idxAdj t : Nat) (hm : m = 2 ^ t)
    (hmt : mtrunc ≤ m) (ht : t / 2 ≤ C.P.bits) :
    (ifftLayers C base mtrunc m skewOff idxAdj).toList =
      ((List.range (t / 2)).flatMap fun j => ifftPass C base mtrunc skewOff idxAdj (4 ^ j)) ++
        (if 4 ^ (t / 2) < 2 ^ t then ifftFinal C base skewOff idxAdj (4 ^ (t / 2)) else []) := by
  unfold ifftLayers
  simp only [Std.Legacy.Range.forIn_eq_forIn_range', Std.Legacy.Range.size, Nat.sub_zero,
    Nat.add_one_sub_one, Nat.div_one, Nat.add_sub_cancel_left, forIn_append]
  apply bind_upto (fun r : Array Step => r.toList = _)
    (fun a (s : Array Step × Nat × Nat) => s.2.1 = 4 ^ a ∧ s.2.2 = 4 * s.2.1 ∧
      s.1.toList = (List.range a).flatMap fun j => ifftPass C base mtrunc skewOff idxAdj (4 ^ j))
    _ (t / 2) ht
  · simp
  · rintro a ha ⟨out, dist, dist4⟩ ⟨hd, hd4, ho⟩
    simp only at hd hd4 ho ⊢
    rw [if_pos (by rw [hd4, hd, hm, four_pow_le_iff]; exact ha)]
    refine ⟨_, rfl, ?_, ?_, ?_⟩
    · show dist4 = 4 ^ (a + 1)
      rw [hd4, hd, Nat.pow_succ, Nat.mul_comm]
    · show dist4 <<< 2 = 4 * dist4
      rw [Nat.shiftLeft_eq]; omega
    · have hD : 0 < dist4 := by
        rw [hd4, hd]; have := Nat.pow_pos (n := a) (by decide : 0 < 4); omega
      refine Eq.trans (mid_loop (fun r => ifftBlock C base skewOff idxAdj dist r) mtrunc m dist4 hD hmt
        out _ ?_) ?_
      · rintro a ⟨o, r⟩
        rfl
      · rw [range_succ_flatMap, ho]
        congr 1
        rw [hd4, hd]
        rfl
  · rintro a ha ⟨out, dist, dist4⟩ ⟨hd, hd4, _⟩
    simp only at hd hd4 ⊢
    rw [if_neg (by rw [hd4, hd, hm, four_pow_le_iff]; omega)]
  · rintro ⟨out, dist, dist4⟩ ⟨hd, hd4, ho⟩
    simp only at hd hd4 ho ⊢
    rw [← hm, ← hd]
    by_cases hlt : dist < m
    · rw [if_pos hlt, if_pos hlt]
      show (out ++ _).toList = _
      rw [Array.toList_append, ho]
      rfl
    · rw [if_neg hlt, if_neg hlt]
      show out.toList = _
      rw [ho, List.append_nil]

theorem pow2_shr2_eq (k : Nat) : 2 ^ (k + 2) >>> 2 = 2 ^ k := by
  rw [Nat.shiftRight_eq_div_pow, ← four_mul_pow2]
  exact Nat.mul_div_cancel_left _ (by decide)

/-- pass `a < t/2` of a forward transform of size `2^t` has block size `2^(t-2a)` and distance a quarter of it -/
theorem pass_dist {t a : Nat} (ha : a < t / 2) : 2 ^ (t - 2 * a) >>> 2 = 2 ^ (t - 2 * a - 2) := by
  obtain ⟨j, hj⟩ : ∃ j, t - 2 * a = j + 2 := ⟨t - 2 * a - 2, by omega⟩
  rw [hj, pow2_shr2_eq, Nat.add_sub_cancel]

theorem pass_dist4 {t a : Nat} (ha : a < t / 2) : 2 ^ (t - 2 * a) = 4 * 2 ^ (t - 2 * a - 2) := by
  rw [four_mul_pow2]; congr 1; omega

theorem sub_two_mul_half (t : Nat) : t - 2 * (t / 2) = t % 2 := by omega

/-- after the `t/2` radix-4 passes the block size is `1` or `2`: no further radix-4 pass -/
theorem last_dist (t : Nat) : 2 ^ (t - 2 * (t / 2)) >>> 2 = 0 := by
  rw [sub_two_mul_half]
  rcases Nat.mod_two_eq_zero_or_one t with h | h <;> rw [h] <;> rfl

end RSV.Proofs.LCHSched

namespace RSV.LCHDecode
open RSV.Model.Leo RSV.Proofs.LeoSched RSV.Proofs.LeoSchedRange RSV.Proofs.LCHSched

variable (C : Ctx)

def fftPassPruned (need : Nat → Nat → Bool) (lvl mtrunc dist : Nat) : List Step :=
  (List.range ((mtrunc + 4 * dist - 1) / (4 * dist))).flatMap fun q =>
    if need lvl (q * (4 * dist)) then fftBlock C dist (q * (4 * dist)) else []

def fftFinalPruned (need : Nat → Nat → Bool) (lvl mtrunc : Nat) : List Step :=
  (List.range ((mtrunc + 2 - 1) / 2)).flatMap fun q =>
    if need lvl (q * 2) then fft2 C (q * 2) (q * 2 + 1) (skewAt C (q * 2)) else []

/-- pass `j` is tested at level `mipLevel = t - 2j`, so `2^mipLevel` is the block size of the pass; the final radix-2
pass (odd `t`) is tested at level `1` -/
theorem fftLayersPruned_toList (need : Nat → Nat → Bool) (mtrunc m t : Nat) (hm : m = 2 ^ t)
    (hmt : mtrunc ≤ m) (ht : t / 2 ≤ C.P.bits) :
    (fftLayersPruned C need mtrunc m).toList =
      ((List.range (t / 2)).flatMap fun j =>
          fftPassPruned C need (t - 2 * j) mtrunc (2 ^ (t - 2 * j - 2))) ++
        (if t % 2 = 1 then fftFinalPruned C need 1 mtrunc else []) := by
  unfold fftLayersPruned
  simp only [Std.Legacy.Range.forIn_eq_forIn_range', Std.Legacy.Range.size, Nat.sub_zero,
    Nat.add_one_sub_one, Nat.div_one, Nat.add_sub_cancel_left, forIn_append]
  apply bind_upto (fun r : Array Step => r.toList = _)
    (fun a (s : Array Step × Nat × Nat × Nat) => s.2.1 = t - 2 * a ∧ s.2.2.1 = 2 ^ (t - 2 * a) ∧
      s.2.2.2 = s.2.2.1 >>> 2 ∧
      s.1.toList = (List.range a).flatMap fun j =>
        fftPassPruned C need (t - 2 * j) mtrunc (2 ^ (t - 2 * j - 2)))
    _ (t / 2) ht
  · simp [hm, Nat.log2_two_pow]
  · rintro a ha ⟨out, mip, dist4, dist⟩ ⟨hmip, hd4, hd, ho⟩
    simp only at hmip hd hd4 ho ⊢
    have hdist : dist = 2 ^ (t - 2 * a - 2) := by rw [hd, hd4, pass_dist ha]
    have hdist4 : dist4 = 4 * dist := by rw [hd4, hdist, pass_dist4 ha]
    rw [if_pos (by rw [hdist]; exact Nat.ne_of_gt (Nat.two_pow_pos _))]
    refine ⟨_, rfl, ?_, ?_, rfl, ?_⟩
    · show mip - 2 = t - 2 * (a + 1)
      rw [hmip, Nat.mul_succ, Nat.sub_sub]
    · show dist = 2 ^ (t - 2 * (a + 1))
      rw [hdist]; congr 1
    · have hD : 0 < dist4 := by rw [hd4]; exact Nat.two_pow_pos _
      refine Eq.trans (mid_loop (fun r => if need mip r then fftBlock C dist r else []) mtrunc m dist4 hD
        hmt out _ ?_) ?_
      · rintro a ⟨o, r⟩
        by_cases hn : need mip r = true
        · simp only [hn, if_true]; rfl
        · simp [hn]
      · rw [range_succ_flatMap, ho]
        congr 1
        rw [hdist4, ← hdist, hmip]
        rfl
  · rintro a ha ⟨out, mip, dist4, dist⟩ ⟨_, hd4, hd, _⟩
    simp only at hd hd4 ⊢
    rw [if_neg fun h => h (by rw [hd, hd4, last_dist])]
  · rintro ⟨out, mip, dist4, dist⟩ ⟨hmip, hd4, hd, ho⟩
    simp only at hmip hd hd4 ho ⊢
    by_cases hodd : t % 2 = 1
    · have h4 : dist4 = 2 := by rw [hd4, sub_two_mul_half, hodd]
      have h5 : mip = 1 := by rw [hmip, sub_two_mul_half, hodd]
      rw [if_pos h4, if_pos hodd]
      refine Eq.trans (mid_loop (fun r => if need mip r then fft2 C r (r + 1) (skewAt C r) else []) mtrunc m 2
        (by decide) hmt out _ ?_) ?_
      · rintro a ⟨o, r⟩
        by_cases hn : need mip r = true
        · simp only [hn, if_true]
        · simp [hn]
      · rw [ho, h5]
        rfl
    · have h4 : ¬ dist4 = 2 := by
        rw [hd4, sub_two_mul_half, (Nat.mod_two_eq_zero_or_one t).resolve_right hodd]; decide
      rw [if_neg h4, if_neg hodd]
      show out.toList = _
      rw [ho, List.append_nil]

end RSV.LCHDecode

namespace RSV.Proofs.LCHSched
open RSV.Model.Leo RSV.Proofs.LeoSched RSV.Proofs.LeoSchedRange RSV.LCHDecode

variable (C : Ctx)

/-- `fftLayers` is `fftLayersPruned` with the test that always answers `true`: the same loops, the state without
`mipLevel` -/
theorem fftLayers_toList (mtrunc m : Nat) :
    (fftLayers C mtrunc m).toList = (fftLayersPruned C (fun _ _ => true) mtrunc m).toList := by
  refine congrArg Array.toList ?_
  unfold fftLayers fftLayersPruned
  simp only [Std.Legacy.Range.forIn_eq_forIn_range', Std.Legacy.Range.size, Nat.sub_zero,
    Nat.add_one_sub_one, Nat.div_one, Nat.add_sub_cancel_left, forIn_append, if_true]
  refine bind_proj (fun s : Array Step × Nat × Nat × Nat => (s.1, s.2.2.1, s.2.2.2)) ?_ _
    (#[], m.log2, m, m >>> 2) _
  rintro a ⟨out, mip, dist4, dist⟩
  dsimp only
  split <;> exact ⟨_, rfl, rfl⟩

end RSV.Proofs.LCHSched

#print axioms RSV.LCHDecode.fftLayersPruned_toList
