import RSV.Proofs.LCHSched.Sanity
/-! The axioms of the main theorems on the loop schedules. -/
open RSV.Proofs.LCHSched

#print axioms ifftLayers_toList
#print axioms fftLayers_toList
#print axioms fftLayerRows_get
#print axioms ifftLayerRows_get
#print axioms run_ifftLayers_full
#print axioms run_ifftLayers_trunc
#print axioms run_fftLayers
#print axioms run_fftLayers_lt
#print axioms run_fftLayers_ge
#print axioms run_fftLayers_wf
#print axioms run_ifftLayers_frame
#print axioms run_ifftLayers_wf
#print axioms WF_ifftRows
#print axioms WF_fftRows
#print axioms encodeSched_toList
#print axioms run_encodeSched
#print axioms run_encodeSched_row
#print axioms encode_row
#print axioms encGroup_get_lo
