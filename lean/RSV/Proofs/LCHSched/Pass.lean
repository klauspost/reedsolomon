import RSV.Proofs.LCHSched.Sim
/-!
One radix-4 pass of the Go loops is two radix-2 layers on the processed blocks: the 4-row gadgets `ifftG4` /
`fftG4` (= `ifft4` / `fft4`) agree with (layer `d`, then layer `2d`) resp. (layer `2d`, then layer `d`) on their
own rows, and the gadgets of a pass have pairwise disjoint rows (`pass4F_eq`).
-/
namespace RSV.Proofs.LCHSched
open RSV.Model.Leo RSV.Proofs.LeoSched

def ifftG4 (bf : Vec → Vec → Nat → Vec × Vec) (x0 x1 x2 x3 m01 m23 m02 : Nat) (ρ : Rows) : Rows :=
  bf2 bf x1 x3 m02 (bf2 bf x0 x2 m02 (bf2 bf x2 x3 m23 (bf2 bf x0 x1 m01 ρ)))

def fftG4 (bf : Vec → Vec → Nat → Vec × Vec) (x0 x1 x2 x3 m01 m23 m02 : Nat) (ρ : Rows) : Rows :=
  bf2 bf x2 x3 m23 (bf2 bf x0 x1 m01 (bf2 bf x1 x3 m02 (bf2 bf x0 x2 m02 ρ)))

def S4 (x d : Nat) (z : Nat) : Prop := z = x ∨ z = x + d ∨ z = x + 2 * d ∨ z = x + 3 * d

theorem ifftG4_vals (bf) (x0 x1 x2 x3 m01 m23 m02 : Nat) (ρ : Rows) (h01 : x0 ≠ x1) (h02 : x0 ≠ x2)
    (h03 : x0 ≠ x3) (h12 : x1 ≠ x2) (h13 : x1 ≠ x3) (h23 : x2 ≠ x3) :
    ifftG4 bf x0 x1 x2 x3 m01 m23 m02 ρ x0 =
        (bf (bf (ρ x0) (ρ x1) m01).1 (bf (ρ x2) (ρ x3) m23).1 m02).1 ∧
      ifftG4 bf x0 x1 x2 x3 m01 m23 m02 ρ x1 =
        (bf (bf (ρ x0) (ρ x1) m01).2 (bf (ρ x2) (ρ x3) m23).2 m02).1 ∧
      ifftG4 bf x0 x1 x2 x3 m01 m23 m02 ρ x2 =
        (bf (bf (ρ x0) (ρ x1) m01).1 (bf (ρ x2) (ρ x3) m23).1 m02).2 ∧
      ifftG4 bf x0 x1 x2 x3 m01 m23 m02 ρ x3 =
        (bf (bf (ρ x0) (ρ x1) m01).2 (bf (ρ x2) (ρ x3) m23).2 m02).2 := by
  simp [ifftG4, bf2, h01, h02, h03, h12, h13, h23, h01.symm, h02.symm, h03.symm, h12.symm, h13.symm,
    h23.symm]

theorem fftG4_vals (bf) (x0 x1 x2 x3 m01 m23 m02 : Nat) (ρ : Rows) (h01 : x0 ≠ x1) (h02 : x0 ≠ x2)
    (h03 : x0 ≠ x3) (h12 : x1 ≠ x2) (h13 : x1 ≠ x3) (h23 : x2 ≠ x3) :
    fftG4 bf x0 x1 x2 x3 m01 m23 m02 ρ x0 =
        (bf (bf (ρ x0) (ρ x2) m02).1 (bf (ρ x1) (ρ x3) m02).1 m01).1 ∧
      fftG4 bf x0 x1 x2 x3 m01 m23 m02 ρ x1 =
        (bf (bf (ρ x0) (ρ x2) m02).1 (bf (ρ x1) (ρ x3) m02).1 m01).2 ∧
      fftG4 bf x0 x1 x2 x3 m01 m23 m02 ρ x2 =
        (bf (bf (ρ x0) (ρ x2) m02).2 (bf (ρ x1) (ρ x3) m02).2 m23).1 ∧
      fftG4 bf x0 x1 x2 x3 m01 m23 m02 ρ x3 =
        (bf (bf (ρ x0) (ρ x2) m02).2 (bf (ρ x1) (ρ x3) m02).2 m23).2 := by
  simp [fftG4, bf2, h01, h02, h03, h12, h13, h23, h01.symm, h02.symm, h03.symm, h12.symm, h13.symm,
    h23.symm]

theorem ifftG4_local (bf) (x d m01 m23 m02 : Nat) :
    LocalOn (S4 x d) (ifftG4 bf x (x + d) (x + 2 * d) (x + 3 * d) m01 m23 m02) := by
  have s0 : S4 x d x := Or.inl rfl
  have s1 : S4 x d (x + d) := Or.inr (Or.inl rfl)
  have s2 : S4 x d (x + 2 * d) := Or.inr (Or.inr (Or.inl rfl))
  have s3 : S4 x d (x + 3 * d) := Or.inr (Or.inr (Or.inr rfl))
  exact ((((LocalOn.bf2 bf m01 s0 s1).comp (LocalOn.bf2 bf m23 s2 s3)).comp
    (LocalOn.bf2 bf m02 s0 s2)).comp (LocalOn.bf2 bf m02 s1 s3))

theorem fftG4_local (bf) (x d m01 m23 m02 : Nat) :
    LocalOn (S4 x d) (fftG4 bf x (x + d) (x + 2 * d) (x + 3 * d) m01 m23 m02) := by
  have s0 : S4 x d x := Or.inl rfl
  have s1 : S4 x d (x + d) := Or.inr (Or.inl rfl)
  have s2 : S4 x d (x + 2 * d) := Or.inr (Or.inr (Or.inl rfl))
  have s3 : S4 x d (x + 3 * d) := Or.inr (Or.inr (Or.inr rfl))
  exact ((((LocalOn.bf2 bf m02 s0 s2).comp (LocalOn.bf2 bf m02 s1 s3)).comp
    (LocalOn.bf2 bf m01 s0 s1)).comp (LocalOn.bf2 bf m23 s2 s3))

variable (C : Ctx)

theorem sim_ifft4 (n b d m01 m23 m02 : Nat) (hd : 0 < d) (hb : b + 3 * d < n) :
    Sim C n (ifft4 C b d m01 m23 m02)
      (ifftG4 (bfI C) b (b + d) (b + 2 * d) (b + 3 * d) m01 m23 m02) := by
  unfold ifft4
  exact (((sim_ifft2 C n b (b + d) m01 (by omega) (by omega) (by omega)).append C
    (sim_ifft2 C n (b + 2 * d) (b + 3 * d) m23 (by omega) (by omega) (by omega))).append C
    (sim_ifft2 C n b (b + 2 * d) m02 (by omega) (by omega) (by omega))).append C
    (sim_ifft2 C n (b + d) (b + 3 * d) m02 (by omega) (by omega) (by omega))

theorem sim_fft4 (n b d m01 m23 m02 : Nat) (hd : 0 < d) (hb : b + 3 * d < n) :
    Sim C n (fft4 C b d m01 m23 m02)
      (fftG4 (bfF C) b (b + d) (b + 2 * d) (b + 3 * d) m01 m23 m02) := by
  unfold fft4
  exact (((sim_fft2 C n b (b + 2 * d) m02 (by omega) (by omega) (by omega)).append C
    (sim_fft2 C n (b + d) (b + 3 * d) m02 (by omega) (by omega) (by omega))).append C
    (sim_fft2 C n b (b + d) m01 (by omega) (by omega) (by omega))).append C
    (sim_fft2 C n (b + 2 * d) (b + 3 * d) m23 (by omega) (by omega) (by omega))

def idxList (nb d : Nat) : List Nat := (List.range nb).flatMap fun q => List.range' (q * (4 * d)) d

theorem mem_idxList (nb d i : Nat) :
    i ∈ idxList nb d ↔ ∃ q, q < nb ∧ q * (4 * d) ≤ i ∧ i < q * (4 * d) + d := by
  unfold idxList
  rw [List.mem_flatMap]
  constructor
  · rintro ⟨q, hq, hi⟩
    exact ⟨q, List.mem_range.mp hq, List.mem_range'_1.mp hi⟩
  · rintro ⟨q, hq, hi⟩
    exact ⟨q, List.mem_range.mpr hq, List.mem_range'_1.mpr hi⟩

theorem succ_mul_le {q q' D : Nat} (h : q < q') : q * D + D ≤ q' * D :=
  calc q * D + D = (q + 1) * D := (Nat.succ_mul q D).symm
    _ ≤ q' * D := Nat.mul_le_mul_right D h

theorem idxList_pairwise (base nb d : Nat) :
    (idxList nb d).Pairwise fun a b => ∀ z, S4 (base + a) d z → ¬ S4 (base + b) d z := by
  unfold idxList
  rw [List.pairwise_flatMap]
  constructor
  · intro q _
    refine List.Pairwise.imp_of_mem ?_ (List.pairwise_lt_range' (s := q * (4 * d)) (n := d))
    intro a b ha hb hab z h1 h2
    have ha' := List.mem_range'_1.mp ha
    have hb' := List.mem_range'_1.mp hb
    unfold S4 at h1 h2
    omega
  · refine List.Pairwise.imp ?_ (List.pairwise_lt_range (n := nb))
    intro q q' hqq a ha b hb z h1 h2
    have ha' := List.mem_range'_1.mp ha
    have hb' := List.mem_range'_1.mp hb
    have := succ_mul_le (D := 4 * d) hqq
    unfold S4 at h1 h2
    omega

def pass4F (G4 : Nat → Rows → Rows) (nb d : Nat) (ρ : Rows) : Rows :=
  (idxList nb d).foldl (fun ρ i => G4 i ρ) ρ

theorem pass4F_in (G4 : Nat → Rows → Rows) (base nb d : Nat)
    (hG : ∀ i, LocalOn (S4 (base + i) d) (G4 i)) (ρ : Rows) (q l : Nat) (hq : q < nb) (hl : l < d)
    (z : Nat) (hz : S4 (base + (q * (4 * d) + l)) d z) :
    pass4F G4 nb d ρ z = G4 (q * (4 * d) + l) ρ z :=
  (foldl_disjoint G4 (fun i => S4 (base + i) d) hG _ (idxList_pairwise base nb d) ρ).1 _
    ((mem_idxList nb d _).mpr ⟨q, hq, by omega, by omega⟩) z hz

theorem pass4F_out (G4 : Nat → Rows → Rows) (base nb d : Nat)
    (hG : ∀ i, LocalOn (S4 (base + i) d) (G4 i)) (ρ : Rows) (z : Nat)
    (hz : z < base ∨ base + nb * (4 * d) ≤ z) : pass4F G4 nb d ρ z = ρ z := by
  apply (foldl_disjoint G4 (fun i => S4 (base + i) d) hG _ (idxList_pairwise base nb d) ρ).2
  intro i hi hS
  obtain ⟨q, hq, h1, h2⟩ := (mem_idxList nb d i).mp hi
  have := succ_mul_le (D := 4 * d) hq
  unfold S4 at hS
  omega

theorem decomp (nb d idx : Nat) (hd : 0 < d) (h : idx < nb * (4 * d)) :
    ∃ q l, q < nb ∧ l < d ∧ (idx = q * (4 * d) + l ∨ idx = q * (4 * d) + l + d ∨
      idx = q * (4 * d) + l + 2 * d ∨ idx = q * (4 * d) + l + 3 * d) := by
  have hD : 0 < 4 * d := by omega
  refine ⟨idx / (4 * d), idx % (4 * d) % d, ?_, Nat.mod_lt _ hd, ?_⟩
  · rw [Nat.div_lt_iff_lt_mul hD]; exact h
  · have h1 := Nat.div_add_mod idx (4 * d)
    have h2 := Nat.div_add_mod (idx % (4 * d)) d
    have h3 : idx % (4 * d) / d < 4 := by
      rw [Nat.div_lt_iff_lt_mul hd]; exact Nat.mod_lt _ hD
    rw [Nat.mul_comm] at h1
    generalize idx % (4 * d) / d = c at h2 h3
    have hc : c = 0 ∨ c = 1 ∨ c = 2 ∨ c = 3 := by omega
    rcases hc with rfl | rfl | rfl | rfl <;> omega

theorem decomp_S4 (base nb d z : Nat) (hd : 0 < d) (h1 : base ≤ z) (h2 : z < base + nb * (4 * d)) :
    ∃ q l, q < nb ∧ l < d ∧ S4 (base + (q * (4 * d) + l)) d z := by
  obtain ⟨q, l, hq, hl, hc⟩ := decomp nb d (z - base) hd (by omega)
  exact ⟨q, l, hq, hl, by unfold S4; omega⟩

theorem block_div (q D l : Nat) (hl : l < D) : (q * D + l) / D * D = q * D := by
  have hD : 0 < D := by omega
  rw [Nat.mul_comm q D, Nat.mul_add_div hD, Nat.div_eq_of_lt hl, Nat.add_zero, Nat.mul_comm]

theorem pass4F_eq (G4 : Nat → Rows → Rows) (LL : Rows → Rows) (base nb d : Nat) (hd : 0 < d)
    (hG : ∀ i, LocalOn (S4 (base + i) d) (G4 i))
    (hq : ∀ q l, q < nb → l < d → ∀ ρ z, S4 (base + (q * (4 * d) + l)) d z →
      G4 (q * (4 * d) + l) ρ z = LL ρ z) (ρ : Rows) (z : Nat) :
    pass4F G4 nb d ρ z = if base ≤ z ∧ z < base + nb * (4 * d) then LL ρ z else ρ z := by
  by_cases hin : base ≤ z ∧ z < base + nb * (4 * d)
  · rw [if_pos hin]
    obtain ⟨q, l, hq', hl, hS⟩ := decomp_S4 base nb d z hd hin.1 hin.2
    rw [pass4F_in G4 base nb d hG ρ q l hq' hl z hS]
    exact hq q l hq' hl ρ z hS
  · rw [if_neg hin]
    exact pass4F_out G4 base nb d hG ρ z (by omega)

theorem layerF_quad_d (bf sk) (d base m : Nat) (ρ : Rows) (r l : Nat) (hr : 4 * d ∣ r) (hl : l < d)
    (hrm : r + 4 * d ≤ m) :
    layerF bf sk d base m ρ (base + r + l) =
        (bf (ρ (base + r + l)) (ρ (base + r + l + d)) (sk r)).1 ∧
      layerF bf sk d base m ρ (base + r + l + d) =
        (bf (ρ (base + r + l)) (ρ (base + r + l + d)) (sk r)).2 ∧
      layerF bf sk d base m ρ (base + r + l + 2 * d) =
        (bf (ρ (base + r + l + 2 * d)) (ρ (base + r + l + 3 * d)) (sk (r + 2 * d))).1 ∧
      layerF bf sk d base m ρ (base + r + l + 3 * d) =
        (bf (ρ (base + r + l + 2 * d)) (ρ (base + r + l + 3 * d)) (sk (r + 2 * d))).2 := by
  have h2 : 2 * d ∣ r := Nat.dvd_trans ⟨2, by omega⟩ hr
  have h2' : 2 * d ∣ r + 2 * d := Nat.dvd_add h2 (Nat.dvd_refl _)
  have p1 := layerF_pair bf sk d base m ρ r l h2 hl (by omega)
  have p2 := layerF_pair bf sk d base m ρ (r + 2 * d) l h2' hl (by omega)
  have e1 : base + (r + 2 * d) + l = base + r + l + 2 * d := by omega
  have e2 : base + r + l + 2 * d + d = base + r + l + 3 * d := by omega
  rw [e1, e2] at p2
  exact ⟨p1.1, p1.2, p2.1, p2.2⟩

theorem layerF_quad_2d (bf sk) (d base m : Nat) (ρ : Rows) (r l : Nat) (hr : 4 * d ∣ r) (hl : l < d)
    (hrm : r + 4 * d ≤ m) :
    layerF bf sk (2 * d) base m ρ (base + r + l) =
        (bf (ρ (base + r + l)) (ρ (base + r + l + 2 * d)) (sk r)).1 ∧
      layerF bf sk (2 * d) base m ρ (base + r + l + d) =
        (bf (ρ (base + r + l + d)) (ρ (base + r + l + 3 * d)) (sk r)).1 ∧
      layerF bf sk (2 * d) base m ρ (base + r + l + 2 * d) =
        (bf (ρ (base + r + l)) (ρ (base + r + l + 2 * d)) (sk r)).2 ∧
      layerF bf sk (2 * d) base m ρ (base + r + l + 3 * d) =
        (bf (ρ (base + r + l + d)) (ρ (base + r + l + 3 * d)) (sk r)).2 := by
  have h4 : 2 * (2 * d) ∣ r := by rwa [show 2 * (2 * d) = 4 * d by omega]
  have p1 := layerF_pair bf sk (2 * d) base m ρ r l h4 (by omega) (by omega)
  have p2 := layerF_pair bf sk (2 * d) base m ρ r (l + d) h4 (by omega) (by omega)
  have e1 : base + r + (l + d) = base + r + l + d := by omega
  have e2 : base + r + l + d + 2 * d = base + r + l + 3 * d := by omega
  rw [e1, e2] at p2
  exact ⟨p1.1, p2.1, p1.2, p2.2⟩

theorem S4_cases {x d z : Nat} (h : S4 x d z) : z = x ∨ z = x + d ∨ z = x + 2 * d ∨ z = x + 3 * d := h

theorem ifft_two_layers (bf) (sk1 sk2 : Nat → Nat) (d base m : Nat) (hd : 0 < d) (ρ : Rows)
    (r l : Nat) (hr : 4 * d ∣ r) (hl : l < d) (hrm : r + 4 * d ≤ m) (z : Nat)
    (hz : S4 (base + (r + l)) d z) :
    ifftG4 bf (base + (r + l)) (base + (r + l) + d) (base + (r + l) + 2 * d) (base + (r + l) + 3 * d)
        (sk1 r) (sk1 (r + 2 * d)) (sk2 r) ρ z =
      layerF bf sk2 (2 * d) base m (layerF bf sk1 d base m ρ) z := by
  rw [← Nat.add_assoc] at hz ⊢
  obtain ⟨v0, v1, v2, v3⟩ := ifftG4_vals bf (base + r + l) (base + r + l + d) (base + r + l + 2 * d)
    (base + r + l + 3 * d) (sk1 r) (sk1 (r + 2 * d)) (sk2 r) ρ (by omega) (by omega) (by omega)
    (by omega) (by omega) (by omega)
  obtain ⟨a0, a1, a2, a3⟩ := layerF_quad_d bf sk1 d base m ρ r l hr hl hrm
  obtain ⟨b0, b1, b2, b3⟩ := layerF_quad_2d bf sk2 d base m (layerF bf sk1 d base m ρ) r l hr hl hrm
  rcases S4_cases hz with rfl | rfl | rfl | rfl
  · rw [v0, b0, a0, a2]
  · rw [v1, b1, a1, a3]
  · rw [v2, b2, a0, a2]
  · rw [v3, b3, a1, a3]

theorem fft_two_layers (bf) (sk1 sk2 : Nat → Nat) (d base m : Nat) (hd : 0 < d) (ρ : Rows)
    (r l : Nat) (hr : 4 * d ∣ r) (hl : l < d) (hrm : r + 4 * d ≤ m) (z : Nat)
    (hz : S4 (base + (r + l)) d z) :
    fftG4 bf (base + (r + l)) (base + (r + l) + d) (base + (r + l) + 2 * d) (base + (r + l) + 3 * d)
        (sk1 r) (sk1 (r + 2 * d)) (sk2 r) ρ z =
      layerF bf sk1 d base m (layerF bf sk2 (2 * d) base m ρ) z := by
  rw [← Nat.add_assoc] at hz ⊢
  obtain ⟨v0, v1, v2, v3⟩ := fftG4_vals bf (base + r + l) (base + r + l + d) (base + r + l + 2 * d)
    (base + r + l + 3 * d) (sk1 r) (sk1 (r + 2 * d)) (sk2 r) ρ (by omega) (by omega) (by omega)
    (by omega) (by omega) (by omega)
  obtain ⟨a0, a1, a2, a3⟩ := layerF_quad_2d bf sk2 d base m ρ r l hr hl hrm
  obtain ⟨b0, b1, b2, b3⟩ := layerF_quad_d bf sk1 d base m (layerF bf sk2 (2 * d) base m ρ) r l hr hl hrm
  rcases S4_cases hz with rfl | rfl | rfl | rfl
  · rw [v0, b0, a0, a1]
  · rw [v1, b1, a0, a1]
  · rw [v2, b2, a2, a3]
  · rw [v3, b3, a2, a3]

end RSV.Proofs.LCHSched
