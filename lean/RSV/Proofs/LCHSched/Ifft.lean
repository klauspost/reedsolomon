import RSV.Proofs.LCHSched.Gen
import RSV.Proofs.LCHSched.Pass
/-!
`ifftLayers C base mtrunc m skewOff idxAdj` computes the inverse network `ifftRows` when the rows from `mtrunc`
on are zero (`run_ifftLayers_trunc`): the blocks a truncated pass skips are zero and stay zero (`ZeroFrom`), so
the pass equals the two full layers.
-/
namespace RSV.Proofs.LCHSched
open RSV.Model.Leo RSV.Proofs.LeoSched RSV.Proofs.LeoSchedRange

variable (C : Ctx)

def ifftGad (base skewOff idxAdj d i : Nat) : Rows → Rows :=
  ifftG4 (bfI C) (base + i) (base + i + d) (base + i + 2 * d) (base + i + 3 * d)
    (skw C skewOff idxAdj d (i / (4 * d) * (4 * d)))
    (skw C skewOff idxAdj d (i / (4 * d) * (4 * d) + 2 * d))
    (skw C skewOff idxAdj (2 * d) (i / (4 * d) * (4 * d)))

theorem ifftPass_eq (base mtrunc skewOff idxAdj d : Nat) (hd : 0 < d) :
    ifftPass C base mtrunc skewOff idxAdj d =
      (idxList ((mtrunc + 4 * d - 1) / (4 * d)) d).flatMap fun i =>
        ifft4 C (base + i) d (skw C skewOff idxAdj d (i / (4 * d) * (4 * d)))
          (skw C skewOff idxAdj d (i / (4 * d) * (4 * d) + 2 * d))
          (skw C skewOff idxAdj (2 * d) (i / (4 * d) * (4 * d))) := by
  unfold ifftPass idxList
  rw [List.flatMap_assoc]
  apply flatMap_congr'
  intro q _
  unfold ifftBlock
  apply flatMap_congr'
  intro i hi
  have hi' := List.mem_range'_1.mp hi
  obtain ⟨l, rfl⟩ : ∃ l, i = q * (4 * d) + l := ⟨i - q * (4 * d), by omega⟩
  rw [block_div q (4 * d) l (by omega)]
  unfold skw
  congr 2 <;> omega

theorem sim_ifftPass (n base mtrunc skewOff idxAdj d : Nat) (hd : 0 < d)
    (hn : base + (mtrunc + 4 * d - 1) / (4 * d) * (4 * d) ≤ n) :
    Sim C n (ifftPass C base mtrunc skewOff idxAdj d)
      (pass4F (ifftGad C base skewOff idxAdj d) ((mtrunc + 4 * d - 1) / (4 * d)) d) := by
  rw [ifftPass_eq C base mtrunc skewOff idxAdj d hd]
  apply Sim.flatMap
  intro i hi
  obtain ⟨q, hq, h1, h2⟩ := (mem_idxList _ d i).mp hi
  have := succ_mul_le (D := 4 * d) hq
  exact sim_ifft4 C n (base + i) d _ _ _ hd (by omega)

def ifftLL (base m skewOff idxAdj d : Nat) (ρ : Rows) : Rows :=
  layerF (bfI C) (skw C skewOff idxAdj (2 * d)) (2 * d) base m
    (layerF (bfI C) (skw C skewOff idxAdj d) d base m ρ)

theorem ifftGad_local (base skewOff idxAdj d i : Nat) :
    LocalOn (S4 (base + i) d) (ifftGad C base skewOff idxAdj d i) := ifftG4_local _ _ _ _ _ _

theorem ifftPassF_eq (base m skewOff idxAdj d nb : Nat) (hd : 0 < d) (hnb : nb * (4 * d) ≤ m)
    (ρ : Rows) (z : Nat) :
    pass4F (ifftGad C base skewOff idxAdj d) nb d ρ z =
      if base ≤ z ∧ z < base + nb * (4 * d) then ifftLL C base m skewOff idxAdj d ρ z else ρ z := by
  apply pass4F_eq _ _ base nb d hd (ifftGad_local C base skewOff idxAdj d)
  intro q l hq hl ρ z hz
  unfold ifftGad ifftLL
  rw [block_div q (4 * d) l (by omega)]
  have := succ_mul_le (D := 4 * d) hq
  exact ifft_two_layers (bfI C) _ _ d base m hd ρ (q * (4 * d)) l ⟨q, Nat.mul_comm _ _⟩ hl (by omega) z hz

theorem bfI_zero (len s : Nat) : bfI C (zeroVec len) (zeroVec len) s = (zeroVec len, zeroVec len) := by
  unfold bfI
  simp only [xorVec_zeroVec, mulVec_zeroVec]
  split <;> rfl

def ZeroFrom (len base m mtrunc D : Nat) (ρ : Rows) : Prop :=
  ∀ idx, idx < m → mtrunc ≤ idx / D * D → ρ (base + idx) = zeroVec len

theorem ifftGad_zero (len base skewOff idxAdj d i : Nat) (hd : 0 < d) (ρ : Rows)
    (h0 : ρ (base + i) = zeroVec len) (h1 : ρ (base + i + d) = zeroVec len)
    (h2 : ρ (base + i + 2 * d) = zeroVec len) (h3 : ρ (base + i + 3 * d) = zeroVec len) (z : Nat)
    (hz : S4 (base + i) d z) : ifftGad C base skewOff idxAdj d i ρ z = zeroVec len := by
  unfold ifftGad
  obtain ⟨v0, v1, v2, v3⟩ := ifftG4_vals (bfI C) (base + i) (base + i + d) (base + i + 2 * d)
    (base + i + 3 * d) (skw C skewOff idxAdj d (i / (4 * d) * (4 * d)))
    (skw C skewOff idxAdj d (i / (4 * d) * (4 * d) + 2 * d))
    (skw C skewOff idxAdj (2 * d) (i / (4 * d) * (4 * d))) ρ (by omega) (by omega) (by omega)
    (by omega) (by omega) (by omega)
  rcases S4_cases hz with rfl | rfl | rfl | rfl
  · rw [v0, h0, h1, h2, h3]; simp only [bfI_zero]
  · rw [v1, h0, h1, h2, h3]; simp only [bfI_zero]
  · rw [v2, h0, h1, h2, h3]; simp only [bfI_zero]
  · rw [v3, h0, h1, h2, h3]; simp only [bfI_zero]

theorem zeroFrom_block {len base m mtrunc d : Nat} {ρ : Rows} (hd : 0 < d)
    (hZ : ZeroFrom len base m mtrunc d ρ) (r : Nat) (hr : 4 * d ∣ r) (hrt : mtrunc ≤ r)
    (hrm : r + 4 * d ≤ m) (e : Nat) (he : e < 4 * d) : ρ (base + (r + e)) = zeroVec len := by
  apply hZ (r + e) (by omega)
  have hdr : d ∣ r := Nat.dvd_trans ⟨4, by omega⟩ hr
  obtain ⟨a, rfl⟩ := hdr
  have : d * a / d * d ≤ (d * a + e) / d * d := div_mul_mono _ _ d (by omega)
  rw [Nat.mul_div_cancel_left _ hd, Nat.mul_comm a d] at this
  omega

theorem trunc_pass_eq (len base m mtrunc skewOff idxAdj d : Nat) (hd : 0 < d) (hdm : 4 * d ∣ m)
    (hmt : mtrunc ≤ m) (ρ : Rows) (hZ : ZeroFrom len base m mtrunc d ρ) :
    pass4F (ifftGad C base skewOff idxAdj d) ((mtrunc + 4 * d - 1) / (4 * d)) d ρ =
      ifftLL C base m skewOff idxAdj d ρ := by
  obtain ⟨nbF, hnbF⟩ := hdm
  have hD : 0 < 4 * d := by omega
  have hge := ceil_mul_ge mtrunc (4 * d) hD
  have hnbm : (mtrunc + 4 * d - 1) / (4 * d) * (4 * d) ≤ m :=
    ceil_mul_le mtrunc (4 * d) m hD ⟨nbF, hnbF⟩ hmt
  funext z
  rw [ifftPassF_eq C base m skewOff idxAdj d _ hd hnbm ρ z]
  by_cases hin : base ≤ z ∧ z < base + (mtrunc + 4 * d - 1) / (4 * d) * (4 * d)
  · rw [if_pos hin]
  · rw [if_neg hin]
    have hfull := ifftPassF_eq C base m skewOff idxAdj d nbF hd (by rw [hnbF, Nat.mul_comm]; exact Nat.le_refl _) ρ z
    by_cases hin2 : base ≤ z ∧ z < base + nbF * (4 * d)
    · rw [if_pos hin2] at hfull
      rw [← hfull]
      obtain ⟨q, l, hq, hl, hS⟩ := decomp_S4 base nbF d z hd hin2.1 hin2.2
      rw [pass4F_in _ base nbF d (ifftGad_local C base skewOff idxAdj d) ρ q l hq hl z hS]
      have hqm := succ_mul_le (D := 4 * d) hq
      have hqn : (mtrunc + 4 * d - 1) / (4 * d) ≤ q := by
        rcases Nat.lt_or_ge q ((mtrunc + 4 * d - 1) / (4 * d)) with h | h
        · have := succ_mul_le (D := 4 * d) h
          have := S4_cases hS
          omega
        · exact h
      have hqt : mtrunc ≤ q * (4 * d) := Nat.le_trans hge (Nat.mul_le_mul_right _ hqn)
      have hb := fun e he => zeroFrom_block hd hZ (q * (4 * d)) ⟨q, Nat.mul_comm _ _⟩ hqt
        (by rw [hnbF, Nat.mul_comm (4 * d) nbF]; exact hqm) e he
      -- the four rows of the gadget lie in the skipped block `q`
      have h0 := hb l (by omega)
      have h1 : ρ (base + (q * (4 * d) + l) + d) = zeroVec len := by
        rw [Nat.add_assoc, Nat.add_assoc]; exact hb (l + d) (by omega)
      have h2 : ρ (base + (q * (4 * d) + l) + 2 * d) = zeroVec len := by
        rw [Nat.add_assoc, Nat.add_assoc]; exact hb (l + 2 * d) (by omega)
      have h3 : ρ (base + (q * (4 * d) + l) + 3 * d) = zeroVec len := by
        rw [Nat.add_assoc, Nat.add_assoc]; exact hb (l + 3 * d) (by omega)
      have hz0 : ρ z = zeroVec len := by
        rcases S4_cases hS with rfl | rfl | rfl | rfl <;> assumption
      rw [hz0]
      exact (ifftGad_zero C len base skewOff idxAdj d _ hd ρ h0 h1 h2 h3 z hS).symm
    · unfold ifftLL
      have hm' : m = nbF * (4 * d) := by rw [hnbF, Nat.mul_comm]
      rw [layerF_out _ _ _ _ _ _ _ (by omega), layerF_out _ _ _ _ _ _ _ (by omega)]

theorem div_mul_le_of_dvd (idx D D' : Nat) (hD : 0 < D) (h : D ∣ D') : idx / D' * D' ≤ idx / D * D := by
  obtain ⟨c, rfl⟩ := h
  have h1 : idx / (D * c) * (D * c) = D * (c * (idx / (D * c))) := by
    rw [Nat.mul_comm, Nat.mul_assoc]
  have h2 := Nat.div_mul_le_self idx (D * c)
  have h3 : D * (c * (idx / (D * c))) / D * D ≤ idx / D * D := div_mul_mono _ _ D (by omega)
  rw [Nat.mul_div_cancel_left _ hD, Nat.mul_comm _ D] at h3
  omega

theorem trunc_pass_zero (len base m mtrunc skewOff idxAdj d : Nat) (hd : 0 < d) (ρ : Rows)
    (hZ : ZeroFrom len base m mtrunc d ρ) :
    ZeroFrom len base m mtrunc (4 * d)
      (pass4F (ifftGad C base skewOff idxAdj d) ((mtrunc + 4 * d - 1) / (4 * d)) d ρ) := by
  intro idx hidx hge
  have hD : 0 < 4 * d := by omega
  have hnq : (mtrunc + 4 * d - 1) / (4 * d) ≤ idx / (4 * d) := by
    rcases Nat.lt_or_ge (idx / (4 * d)) ((mtrunc + 4 * d - 1) / (4 * d)) with h | h
    · rw [← mul_lt_iff_lt_ceil _ _ _ hD] at h; omega
    · exact h
  have h1 : (mtrunc + 4 * d - 1) / (4 * d) * (4 * d) ≤ idx :=
    Nat.le_trans (Nat.mul_le_mul_right _ hnq) (Nat.div_mul_le_self idx (4 * d))
  rw [pass4F_out _ base _ d (ifftGad_local C base skewOff idxAdj d) ρ _ (by omega)]
  exact hZ idx hidx (Nat.le_trans hge (div_mul_le_of_dvd idx d (4 * d) hd ⟨4, Nat.mul_comm 4 d⟩))

theorem sim_ifftFinal (n base skewOff idxAdj dist : Nat) (hd : 0 < dist) (hn : base + 2 * dist ≤ n) :
    Sim C n (ifftFinal C base skewOff idxAdj dist)
      (layerF (bfI C) (skw C skewOff idxAdj dist) dist base (2 * dist)) := by
  unfold ifftFinal
  refine Sim.congr C (Sim.flatMap C (List.range' 0 dist) _
    (fun i => bf2 (bfI C) (base + i) (base + i + dist) (skewAt C (skewOff + dist - idxAdj)))
    (fun i hi => by
      have := List.mem_range'_1.mp hi
      exact sim_ifft2 C n _ _ _ (by omega) (by omega) (by omega))) ?_
  funext ρ z
  have hpw : (List.range' 0 dist).Pairwise fun a b =>
      ∀ z, (z = base + a ∨ z = base + a + dist) → ¬ (z = base + b ∨ z = base + b + dist) := by
    refine List.Pairwise.imp_of_mem ?_ (List.pairwise_lt_range' (s := 0) (n := dist))
    intro a b ha hb hab z h1 h2
    have ha' := List.mem_range'_1.mp ha
    have hb' := List.mem_range'_1.mp hb
    omega
  have key := foldl_disjoint
    (fun i => bf2 (bfI C) (base + i) (base + i + dist) (skewAt C (skewOff + dist - idxAdj)))
    (fun i z => z = base + i ∨ z = base + i + dist)
    (fun i => LocalOn.bf2 (bfI C) _ (Or.inl rfl) (Or.inr rfl)) _ hpw ρ
  have hsk : skw C skewOff idxAdj dist 0 = skewAt C (skewOff + dist - idxAdj) := by
    unfold skw; congr 1
  by_cases hin : base ≤ z ∧ z < base + 2 * dist
  · by_cases hlo : z < base + dist
    · obtain ⟨l, rfl⟩ : ∃ l, z = base + l := ⟨z - base, by omega⟩
      rw [key.1 l (List.mem_range'_1.mpr (by omega)) _ (Or.inl rfl)]
      have p := (layerF_pair (bfI C) (skw C skewOff idxAdj dist) dist base (2 * dist) ρ 0 l
        (Nat.dvd_zero _) (by omega) (by omega)).1
      rw [Nat.add_zero, hsk] at p
      rw [p, bf2_fst]
    · obtain ⟨l, rfl⟩ : ∃ l, z = base + l + dist := ⟨z - base - dist, by omega⟩
      rw [key.1 l (List.mem_range'_1.mpr (by omega)) _ (Or.inr rfl)]
      have p := (layerF_pair (bfI C) (skw C skewOff idxAdj dist) dist base (2 * dist) ρ 0 l
        (Nat.dvd_zero _) (by omega) (by omega)).2
      rw [Nat.add_zero, hsk] at p
      rw [p, bf2_snd _ (by omega)]
  · rw [key.2 z (fun i hi hS => by have := List.mem_range'_1.mp hi; omega),
      layerF_out _ _ _ _ _ _ _ (by omega)]

def ifftF (base m skewOff idxAdj : Nat) : Nat → Rows → Rows
  | 0, ρ => ρ
  | k + 1, ρ => layerF (bfI C) (skw C skewOff idxAdj (2 ^ k)) (2 ^ k) base m (ifftF base m skewOff idxAdj k ρ)

theorem rowsOf_ifftRowsAux (base m skewOff idxAdj k : Nat) (w : Array Vec) (h : base + m ≤ w.size) :
    rowsOf (ifftRowsAux C base m skewOff idxAdj k w) = ifftF C base m skewOff idxAdj k (rowsOf w) := by
  induction k with
  | zero => rfl
  | succ k ih =>
    rw [ifftRowsAux, ifftLayerRows, rowsOf_layerRows _ _ _ _ _ _ (by rw [size_ifftRowsAux]; exact h), ih]
    rfl

theorem ifftF_succ_succ (base m skewOff idxAdj k : Nat) (ρ : Rows) :
    ifftF C base m skewOff idxAdj (k + 2) ρ =
      ifftLL C base m skewOff idxAdj (2 ^ k) (ifftF C base m skewOff idxAdj k ρ) := by
  show layerF _ _ (2 ^ (k + 1)) _ _ (layerF _ _ _ _ _ _) = _
  rw [Nat.pow_succ']
  rfl

def ifftPassesF (base mtrunc skewOff idxAdj h : Nat) (ρ : Rows) : Rows :=
  (List.range h).foldl (fun ρ j => pass4F (ifftGad C base skewOff idxAdj (4 ^ j))
    ((mtrunc + 4 * 4 ^ j - 1) / (4 * 4 ^ j)) (4 ^ j) ρ) ρ

theorem ifftPassesF_spec (len base m mtrunc skewOff idxAdj t : Nat) (hm : m = 2 ^ t) (hmt : mtrunc ≤ m)
    (ρ : Rows) (hZ : ZeroFrom len base m mtrunc 1 ρ) (h : Nat) (hh : 2 * h ≤ t) :
    ifftPassesF C base mtrunc skewOff idxAdj h ρ = ifftF C base m skewOff idxAdj (2 * h) ρ ∧
      ZeroFrom len base m mtrunc (4 ^ h) (ifftPassesF C base mtrunc skewOff idxAdj h ρ) := by
  induction h with
  | zero => exact ⟨rfl, hZ⟩
  | succ h ih =>
    obtain ⟨ih1, ih2⟩ := ih (by omega)
    have hd : 0 < 4 ^ h := Nat.pow_pos (by decide)
    have hdm : 4 * 4 ^ h ∣ m := by
      rw [hm, four_mul_four_pow]; exact Nat.pow_dvd_pow 2 (by omega)
    have hstep : ifftPassesF C base mtrunc skewOff idxAdj (h + 1) ρ =
        pass4F (ifftGad C base skewOff idxAdj (4 ^ h)) ((mtrunc + 4 * 4 ^ h - 1) / (4 * 4 ^ h)) (4 ^ h)
          (ifftPassesF C base mtrunc skewOff idxAdj h ρ) := by
      unfold ifftPassesF
      rw [List.range_succ, List.foldl_append]
      rfl
    rw [hstep]
    constructor
    · rw [trunc_pass_eq C len base m mtrunc skewOff idxAdj (4 ^ h) hd hdm hmt _ ih2, ih1,
        show 2 * (h + 1) = 2 * h + 2 by omega, ifftF_succ_succ, four_pow]
    · have := trunc_pass_zero C len base m mtrunc skewOff idxAdj (4 ^ h) hd _ ih2
      rw [show 4 ^ (h + 1) = 4 * 4 ^ h by rw [Nat.pow_succ, Nat.mul_comm]]
      exact this

def ifftSchedF (base mtrunc m skewOff idxAdj t : Nat) (ρ : Rows) : Rows :=
  if 2 * (t / 2) < t then
    layerF (bfI C) (skw C skewOff idxAdj (4 ^ (t / 2))) (4 ^ (t / 2)) base m
      (ifftPassesF C base mtrunc skewOff idxAdj (t / 2) ρ)
  else ifftPassesF C base mtrunc skewOff idxAdj (t / 2) ρ

theorem sim_ifftLayers (base mtrunc m skewOff idxAdj t : Nat) (hm : m = 2 ^ t)
    (ht : t / 2 ≤ C.P.bits) (hmt : mtrunc ≤ m) :
    Sim C (base + m) (ifftLayers C base mtrunc m skewOff idxAdj).toList
      (ifftSchedF C base mtrunc m skewOff idxAdj t) := by
  rw [ifftLayers_toList C base mtrunc m skewOff idxAdj t hm hmt ht]
  have hpass : Sim C (base + m)
      ((List.range (t / 2)).flatMap fun j => ifftPass C base mtrunc skewOff idxAdj (4 ^ j))
      (ifftPassesF C base mtrunc skewOff idxAdj (t / 2)) := by
    apply Sim.flatMap
    intro j hj
    have hj' := List.mem_range.mp hj
    have hd : 0 < 4 ^ j := Nat.pow_pos (by decide)
    apply sim_ifftPass C _ base mtrunc skewOff idxAdj (4 ^ j) hd
    have := ceil_mul_le mtrunc (4 * 4 ^ j) m (by omega)
      (by rw [hm, four_mul_four_pow]; exact Nat.pow_dvd_pow 2 (by omega)) hmt
    omega
  unfold ifftSchedF
  by_cases hodd : 4 ^ (t / 2) < 2 ^ t
  · rw [if_pos hodd]
    rw [four_pow_lt_iff] at hodd
    have hd : 0 < 4 ^ (t / 2) := Nat.pow_pos (by decide)
    have h2 : 2 * 4 ^ (t / 2) = m := by
      rw [hm, four_pow, ← Nat.pow_succ']; congr 1; omega
    have hfin := sim_ifftFinal C (base + m) base skewOff idxAdj (4 ^ (t / 2)) hd (by omega)
    rw [h2] at hfin
    refine Sim.congr C (hpass.append C hfin) ?_
    funext ρ
    rw [if_pos hodd]
  · rw [if_neg hodd, List.append_nil]
    rw [four_pow_lt_iff] at hodd
    refine Sim.congr C hpass ?_
    funext ρ
    rw [if_neg hodd]

theorem run_ifftLayers_trunc (shards : Array Vec) (len : Nat) (w : Array Vec)
    (base mtrunc m skewOff idxAdj t : Nat) (hm : m = 2 ^ t) (ht : t / 2 ≤ C.P.bits) (hmt : mtrunc ≤ m)
    (hsz : base + m ≤ w.size)
    (hzero : ∀ idx, mtrunc ≤ idx → idx < m → w[base + idx]! = zeroVec len) :
    run C shards len w (ifftLayers C base mtrunc m skewOff idxAdj).toList =
      ifftRows C t base skewOff idxAdj w := by
  apply rowsOf_inj (by simp)
  have hZ : ZeroFrom len base m mtrunc 1 (rowsOf w) := by
    intro idx hidx hge
    rw [Nat.div_one, Nat.mul_one] at hge
    exact hzero idx hge hidx
  obtain ⟨e1, _⟩ := ifftPassesF_spec C len base m mtrunc skewOff idxAdj t hm hmt (rowsOf w) hZ (t / 2)
    (by omega)
  rw [sim_ifftLayers C base mtrunc m skewOff idxAdj t hm ht hmt shards len w hsz, ifftRows, ← hm,
    rowsOf_ifftRowsAux C base m skewOff idxAdj t w hsz]
  unfold ifftSchedF
  by_cases hodd : 2 * (t / 2) < t
  · rw [if_pos hodd]
    have ht' : ifftF C base m skewOff idxAdj t = ifftF C base m skewOff idxAdj (2 * (t / 2) + 1) := by
      congr 1; omega
    rw [ht', e1, four_pow]
    rfl
  · rw [if_neg hodd, e1]
    rw [show 2 * (t / 2) = t by omega]

theorem run_ifftLayers_full (shards : Array Vec) (len : Nat) (w : Array Vec)
    (base m skewOff idxAdj t : Nat) (hm : m = 2 ^ t) (ht : t / 2 ≤ C.P.bits) (hsz : base + m ≤ w.size) :
    run C shards len w (ifftLayers C base m m skewOff idxAdj).toList =
      ifftRows C t base skewOff idxAdj w :=
  run_ifftLayers_trunc C shards len w base m m skewOff idxAdj t hm ht (Nat.le_refl _) hsz
    (fun idx h1 h2 => by omega)

end RSV.Proofs.LCHSched
