import RSV.Proofs.LCHSched.Encode
/-!
A 3-bit toy context with arbitrary tables, and instances of the refinement theorems on it: odd and even `t`,
`base ≠ 0`, both `idxAdj` conventions, with truncation; one kernel evaluation shows that the zero padding in
`run_ifftLayers_trunc` is needed.
-/
namespace RSV.Proofs.LCHSched.Sanity
open RSV.Model.Leo RSV.Proofs.LeoSched RSV.Proofs.LCHSched

def toyC : Ctx :=
  ⟨⟨3, 0, #[]⟩, ⟨#[0, 3, 1, 6, 2, 5, 4, 7], #[1, 2, 4, 3, 6, 7, 5, 1]⟩,
   ⟨#[1, 7, 3, 2, 5, 0, 6, 4, 1, 2, 3, 4, 5, 6, 7, 0, 3, 3, 1, 2, 6, 5, 4, 3, 2, 1], #[]⟩⟩

def toyW : Array Vec :=
  #[#[1], #[2], #[3], #[4], #[5], #[6], #[7], #[1], #[2], #[5], #[3], #[6], #[1], #[2], #[7], #[4], #[3], #[5]]

/-- `toyW` with rows `[k, 17)` zeroed -/
def toyZ (k : Nat) : Array Vec :=
  Array.ofFn (n := 18) fun i => if k ≤ i.val ∧ i.val < 17 then #[0] else toyW[i.val]!

-- full inverse transforms (t = 3, 2, 4, 1), encoder and decoder skew conventions
example : run toyC #[] 1 toyW (ifftLayers toyC 1 8 8 2 0).toList = ifftRows toyC 3 1 2 0 toyW :=
  run_ifftLayers_full toyC #[] 1 toyW 1 8 2 0 3 rfl (by decide) (by decide)
example : run toyC #[] 1 toyW (ifftLayers toyC 0 4 4 3 1).toList = ifftRows toyC 2 0 3 1 toyW :=
  run_ifftLayers_full toyC #[] 1 toyW 0 4 3 1 2 rfl (by decide) (by decide)
example : run toyC #[] 1 toyW (ifftLayers toyC 1 16 16 3 1).toList = ifftRows toyC 4 1 3 1 toyW :=
  run_ifftLayers_full toyC #[] 1 toyW 1 16 3 1 4 rfl (by decide) (by decide)
example : run toyC #[] 1 toyW (ifftLayers toyC 1 2 2 3 1).toList = ifftRows toyC 1 1 3 1 toyW :=
  run_ifftLayers_full toyC #[] 1 toyW 1 2 3 1 1 rfl (by decide) (by decide)
-- truncated inverse transforms on zero-padded input
example : run toyC #[] 1 (toyZ 6) (ifftLayers toyC 1 5 16 3 1).toList = ifftRows toyC 4 1 3 1 (toyZ 6) := by
  have hz : ∀ idx < 16, 5 ≤ idx → (toyZ 6)[1 + idx]! = zeroVec 1 := by decide +kernel
  exact run_ifftLayers_trunc toyC #[] 1 (toyZ 6) 1 5 16 3 1 4 rfl (by decide) (by decide) (by decide)
    fun idx h1 h2 => hz idx h2 h1
example : run toyC #[] 1 (toyZ 4) (ifftLayers toyC 1 3 8 3 0).toList = ifftRows toyC 3 1 3 0 (toyZ 4) := by
  have hz : ∀ idx < 8, 3 ≤ idx → (toyZ 4)[1 + idx]! = zeroVec 1 := by decide +kernel
  exact run_ifftLayers_trunc toyC #[] 1 (toyZ 4) 1 3 8 3 0 3 rfl (by decide) (by decide) (by decide)
    fun idx h1 h2 => hz idx h2 h1
-- … and the zero padding is necessary
example : run toyC #[] 1 toyW (ifftLayers toyC 1 5 16 3 1).toList ≠ ifftRows toyC 4 1 3 1 toyW := by
  decide +kernel
-- forward transforms
example : run toyC #[] 1 toyW (fftLayers toyC 8 8).toList = fftRows toyC 3 0 0 1 toyW :=
  run_fftLayers_full toyC #[] 1 toyW 8 3 rfl (by decide) (by decide)
example : run toyC #[] 1 toyW (fftLayers toyC 16 16).toList = fftRows toyC 4 0 0 1 toyW :=
  run_fftLayers_full toyC #[] 1 toyW 16 4 rfl (by decide) (by decide)
example : run toyC #[] 1 toyW (fftLayers toyC 4 4).toList = fftRows toyC 2 0 0 1 toyW :=
  run_fftLayers_full toyC #[] 1 toyW 4 2 rfl (by decide) (by decide)
-- truncated forward transform: the rows of the processed final blocks agree
example : ∀ i < 6, (run toyC #[] 1 toyW (fftLayers toyC 5 8).toList)[i]! = (fftRows toyC 3 0 0 1 toyW)[i]! :=
  fun i hi => run_fftLayers toyC #[] 1 toyW 5 8 3 rfl (by decide) (by decide) (by decide) i (by omega)
    (by show i / 2 * 2 < 5; omega)
example : ∀ i < 8, (run toyC #[] 1 toyW (fftLayers toyC 5 16).toList)[i]! = (fftRows toyC 4 0 0 1 toyW)[i]! :=
  fun i hi => run_fftLayers toyC #[] 1 toyW 5 16 4 rfl (by decide) (by decide) (by decide) i (by omega)
    (by show i / 4 * 4 < 5; omega)

end RSV.Proofs.LCHSched.Sanity
