import RSV.Proofs.LCHSched.Ifft
import RSV.Proofs.LCHSched.Fft
/-!
What the layer schedules and the networks leave alone (rows outside `[base, base + m)`), and that they keep rows
of `len` symbols.
-/
namespace RSV.Proofs.LCHSched
open RSV.Model.Leo RSV.Proofs.LeoSched RSV.Proofs.LeoSchedRange

variable (C : Ctx)

theorem step_frame_ge {n k : Nat} (shards : Array Vec) (len : Nat) (w : Array Vec) {s : Step}
    (hs : InRange n k s) (x : Nat) (hx : n ≤ x) : (step C shards len w s)[x]! = w[x]! := by
  cases s with
  | load d sh => exact get!_set!_ne _ _ _ _ (by have := hs.1; omega)
  | loadMul d sh m => exact get!_set!_ne _ _ _ _ (by have := hs.1; omega)
  | clear d => exact get!_set!_ne _ _ _ _ (by have : d < n := hs; omega)
  | mulAdd d src m => exact get!_set!_ne _ _ _ _ (by have := hs.1; omega)
  | xor d src => exact get!_set!_ne _ _ _ _ (by have := hs.1; omega)

theorem run_frame_ge {n k : Nat} (shards : Array Vec) (len : Nat) (w : Array Vec) (steps : List Step)
    (hs : ∀ s ∈ steps, InRange n k s) (x : Nat) (hx : n ≤ x) :
    (run C shards len w steps)[x]! = w[x]! := by
  induction steps generalizing w with
  | nil => rfl
  | cons s ss ih =>
    rw [run_cons, ih _ (fun t ht => hs t (by simp [ht])), step_frame_ge C shards len w (hs s (by simp)) x hx]

theorem Sim.run_irrel {n : Nat} {L : List Step} {F : Rows → Rows} (h : Sim C n L F)
    (shards shards' : Array Vec) (len len' : Nat) (w : Array Vec) (hw : n ≤ w.size) :
    run C shards len w L = run C shards' len' w L := by
  apply rowsOf_inj (by simp)
  rw [h shards len w hw, h shards' len' w hw]

theorem foldl_frame {ι : Type} (G : ι → Rows → Rows) (l : List ι) (z : Nat)
    (h : ∀ j ∈ l, ∀ ρ, G j ρ z = ρ z) (ρ : Rows) : l.foldl (fun ρ j => G j ρ) ρ z = ρ z := by
  induction l generalizing ρ with
  | nil => rfl
  | cons a l ih =>
    rw [List.foldl_cons, ih (fun j hj => h j (by simp [hj])), h a (by simp)]

theorem ifftSchedF_frame (base mtrunc m skewOff idxAdj t : Nat) (hm : m = 2 ^ t) (hmt : mtrunc ≤ m)
    (ρ : Rows) (z : Nat) (hz : z < base ∨ base + m ≤ z) :
    ifftSchedF C base mtrunc m skewOff idxAdj t ρ z = ρ z := by
  have hp : ifftPassesF C base mtrunc skewOff idxAdj (t / 2) ρ z = ρ z := by
    unfold ifftPassesF
    apply foldl_frame
    intro j hj ρ
    have hj' := List.mem_range.mp hj
    have hd : 0 < 4 ^ j := Nat.pow_pos (by decide)
    have := ceil_mul_le mtrunc (4 * 4 ^ j) m (by omega)
      (by rw [hm, four_mul_four_pow]; exact Nat.pow_dvd_pow 2 (by omega)) hmt
    exact pass4F_out _ base _ _ (ifftGad_local C base skewOff idxAdj (4 ^ j)) ρ z (by omega)
  unfold ifftSchedF
  split
  · rw [layerF_out _ _ _ _ _ _ _ hz, hp]
  · exact hp

theorem run_ifftLayers_frame (shards : Array Vec) (len : Nat) (w : Array Vec)
    (base mtrunc m skewOff idxAdj t : Nat) (hm : m = 2 ^ t) (ht : t / 2 ≤ C.P.bits) (hmt : mtrunc ≤ m)
    (hsz : base + m ≤ w.size) (x : Nat) (hx : x < base ∨ base + m ≤ x) :
    (run C shards len w (ifftLayers C base mtrunc m skewOff idxAdj).toList)[x]! = w[x]! := by
  show rowsOf (run C shards len w (ifftLayers C base mtrunc m skewOff idxAdj).toList) x = rowsOf w x
  rw [sim_ifftLayers C base mtrunc m skewOff idxAdj t hm ht hmt shards len w hsz,
    ifftSchedF_frame C base mtrunc m skewOff idxAdj t hm hmt _ x hx]

theorem WF_empty (len : Nat) : WF len #[] := fun i hi => absurd hi (Nat.not_lt_zero i)

theorem run_ifftLayers_wf (shards : Array Vec) (len : Nat) (w : Array Vec)
    (base mtrunc m skewOff idxAdj t : Nat) (hm : m = 2 ^ t) (ht : t / 2 ≤ C.P.bits) (hmt : mtrunc ≤ m)
    (hsz : base + m ≤ w.size) (hw : WF len w) :
    WF len (run C shards len w (ifftLayers C base mtrunc m skewOff idxAdj).toList) := by
  rw [(sim_ifftLayers C base mtrunc m skewOff idxAdj t hm ht hmt).run_irrel C shards #[] len len w hsz]
  refine (run_wf C hw (WF_empty len) ?_).1
  intro s hs
  exact ifftLayers_in C base mtrunc m skewOff idxAdj w.size _ t hm hmt hsz s hs

theorem run_fftLayers_ge (shards : Array Vec) (len : Nat) (w : Array Vec) (mtrunc m t : Nat)
    (hm : m = 2 ^ t) (hmt : mtrunc ≤ m) (x : Nat) (hx : m ≤ x) :
    (run C shards len w (fftLayers C mtrunc m).toList)[x]! = w[x]! :=
  run_frame_ge C shards len w _ (fftLayers_in C mtrunc m m 0 t hm hmt (Nat.le_refl _)) x hx

theorem run_fftLayers_wf (shards : Array Vec) (len : Nat) (w : Array Vec) (mtrunc m t : Nat)
    (hm : m = 2 ^ t) (ht : t / 2 ≤ C.P.bits) (hmt : mtrunc ≤ m) (hsz : m ≤ w.size) (hw : WF len w) :
    WF len (run C shards len w (fftLayers C mtrunc m).toList) := by
  rw [(sim_fftLayers C mtrunc m t hm ht hmt).run_irrel C shards #[] len len w hsz]
  refine (run_wf C hw (WF_empty len) ?_).1
  intro s hs
  exact fftLayers_in C mtrunc m w.size _ t hm hmt hsz s hs

theorem run_fftLayers_full (shards : Array Vec) (len : Nat) (w : Array Vec) (m t : Nat) (hm : m = 2 ^ t)
    (ht : t / 2 ≤ C.P.bits) (hsz : m ≤ w.size) :
    run C shards len w (fftLayers C m m).toList = fftRows C t 0 0 1 w := by
  apply ext! (by simp)
  intro x _
  by_cases h : x < m
  · exact run_fftLayers_lt C shards len w m m t hm ht (Nat.le_refl _) hsz x h
  · rw [run_fftLayers_ge C shards len w m m t hm (Nat.le_refl _) x (by omega),
      fftRows_get_out C t 0 0 1 w (by rw [← hm]; omega) x (Or.inr (by rw [← hm]; omega))]

end RSV.Proofs.LCHSched
