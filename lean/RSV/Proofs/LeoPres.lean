import RSV.Proofs.BinFieldOrder
import RSV.Proofs.LeoField.Cantor
import RSV.Proofs.LeoField.Loops
import RSV.Proofs.LeoField.Nibbles
/-!
# Leopard's run-time tables `initLUTs P`, entry by entry, for any parameters (no table is evaluated)

`LeoPres P Pinv k` collects what has to be known about the constants of a `k`-bit Leopard field: `x` is a
primitive element modulo `P.poly`, and `Pinv.cantor` is the inverse of the Cantor basis.  With
`T = Leo.initLUTs P`, `cm = Leo.cantorMap P`, `cmi = Leo.cantorMap Pinv`:

* `log_get`: `T.log[a]! = dlog (cm a)` for `a < 2^k` (`dlog 0 = 2^k - 1`);
* `exp_get`: `T.exp[n]! = cmi (x^n)` for `n ≤ 2^k - 1`;
* `cm_mulLog`, `cm_leoMul`: the log/exp products are the products of GF(2)[x]/(P.poly) under the Cantor map;
  hence xor-linearity (`mulLog_xor`; as `MulLinearOn` in `LeoPres/Linear.lean`) and the field identities of `leoMul`.

The table proofs follow the five loops of the model (`LeoPres/Loops.lean`): the LFSR loop writes `i` at the
pairwise distinct positions `x^i`, the doubling loop computes the Cantor map, loop 3 is a pointwise map, loop 4
writes `i` at the pairwise distinct positions `log[i]` (`i = 0` at position `2^k - 1`, overwritten by the
final `exp[modulus] := exp[0]`).
-/
namespace RSV.Proofs
open RSV.Model RSV.BF RSV.Proofs.Leo16 RSV.Proofs.LeoField RSV.Proofs.Arr

structure LeoPres (P Pinv : Leo.Params) (k : Nat) : Prop where
  prim : Primitive k P.poly
  cantor : CantorInv P Pinv k

namespace LeoPres
variable {P Pinv : Leo.Params} {k : Nat} (H : LeoPres P Pinv k)
include H

theorem order_eq : P.order = 2 ^ k := by
  show 1 <<< P.bits = 2 ^ k
  rw [H.cantor.bits, Nat.one_shiftLeft]

theorem modulus_eq : P.modulus = 2 ^ k - 1 := by
  show P.order - 1 = _
  rw [H.order_eq]

theorem one_lt : 1 < 2 ^ k := Nat.one_lt_two_pow (Nat.ne_of_gt H.prim.toBasis.pos)

/-- the LFSR step of `initLUTs` is multiplication by `x`: bit `k-1` of `s < 2^k` is set iff `2s ≥ 2^k` -/
theorem step_eq_xtime {s : Nat} (hs : s < 2 ^ k) : step P s = xtime k P.poly s := by
  obtain ⟨m, rfl⟩ : ∃ m, k = m + 1 := ⟨k - 1, by have := H.prim.toBasis.pos; omega⟩
  unfold step xtime
  rw [H.order_eq, Nat.add_sub_cancel, Nat.testBit_eq_decide_div_mod_eq, Nat.shiftLeft_eq]
  rw [Nat.pow_succ] at hs ⊢
  by_cases hle : 2 ^ m ≤ s
  · rw [Nat.div_eq_of_lt_le (k := 1) (by omega) (by omega), if_pos (by omega), if_pos (by decide)]
  · rw [Nat.div_eq_of_lt (by omega), if_neg (by omega), if_neg (by decide)]

theorem step_iter (n : Nat) : (step P)^[n] 1 = xpow k P.poly n := by
  induction n with
  | zero => rfl
  | succ n ih =>
    rw [Function.iterate_succ_apply', ih, H.step_eq_xtime (H.prim.toBasis.xpow_lt n), xpow_succ]

/-- the written value is spelt `(fun i => i) i` so that `foldl_setg_* (xpow k P.poly) (fun i => i)` match
syntactically -/
theorem lfsr_fst : (lfsr P).1 =
    (List.range' 0 (2 ^ k - 1)).foldl (fun e i => e.set! (xpow k P.poly i) ((fun i => i) i))
      (Array.replicate (2 ^ k) 0) := by
  unfold lfsr
  rw [lfsr_fold, H.order_eq, H.modulus_eq]
  have : (fun (e : Array Nat) i => e.set! ((step P)^[i] 1) i) =
      fun e i => e.set! (xpow k P.poly i) i := by
    funext e i; rw [H.step_iter]
  rw [this]

theorem exp1_size : (exp1 P).size = 2 ^ k := by
  unfold exp1
  rw [size_set!, H.lfsr_fst, foldl_setg_size (xpow k P.poly) (fun i => i)]; simp

theorem exp1_get {v : Nat} (hv : v < 2 ^ k) : (exp1 P)[v]! = dlog k P.poly v := by
  unfold exp1
  rw [H.modulus_eq]
  by_cases h0 : v = 0
  · subst h0
    rw [H.prim.dlog_zero]
    apply get!_set!_self
    rw [H.lfsr_fst, foldl_setg_size (xpow k P.poly) (fun i => i)]; simpa using hv
  · rw [get!_set!_ne _ _ _ _ (Ne.symm h0), H.lfsr_fst]
    have hk := H.prim.dlog_lt h0 hv
    have := foldl_setg_hit (xpow k P.poly) (fun i => i) (List.range' 0 (2 ^ k - 1)) (dlog k P.poly v)
      (by rw [List.mem_range'_1]; omega)
      (fun y hy h => by
        rw [List.mem_range'_1] at hy
        exact H.prim.inj _ _ (by omega) hk h)
      (Array.replicate (2 ^ k) 0) (by have := H.prim.toBasis.xpow_lt (dlog k P.poly v); simpa using this)
    rw [H.prim.xpow_dlog h0 hv] at this
    exact this

theorem log2_spec : (log2 P).size = 2 ^ k ∧ ∀ j, j < 2 ^ k → (log2 P)[j]! = Leo.cantorMap P j := by
  have := cantor_loop P.cantor (Leo.cantorMap P) (2 ^ k) k (Nat.le_refl _) (cantorMap_zero P)
    (fun i hi j hj => H.cantor.cm_add_two_pow hi hj) k (Nat.le_refl _)
  unfold log2
  rw [H.order_eq, H.cantor.bits]
  exact this

theorem log3_size : (log3 P).size = 2 ^ k := by
  unfold log3
  rw [H.order_eq, (foldl_map_get _ _ (2 ^ k) (by rw [H.log2_spec.1])).1, H.log2_spec.1]

theorem log3_get {a : Nat} (ha : a < 2 ^ k) : (log3 P)[a]! = dlog k P.poly (Leo.cantorMap P a) := by
  unfold log3
  rw [H.order_eq, (foldl_map_get _ _ (2 ^ k) (by rw [H.log2_spec.1])).2 a, if_pos ha,
    H.log2_spec.2 a ha, H.exp1_get (H.cantor.cm_lt a)]

theorem log3_zero : (log3 P)[0]! = 2 ^ k - 1 := by
  rw [H.log3_get (Nat.two_pow_pos k), cantorMap_zero, H.prim.dlog_zero]

theorem log3_lt {a : Nat} (h0 : a ≠ 0) (ha : a < 2 ^ k) : (log3 P)[a]! < 2 ^ k - 1 := by
  rw [H.log3_get ha]; exact H.prim.dlog_lt (H.cantor.cm_ne_zero h0 ha) (H.cantor.cm_lt a)

theorem log3_inj {a b : Nat} (ha : a < 2 ^ k) (hb : b < 2 ^ k)
    (h : (log3 P)[a]! = (log3 P)[b]!) : a = b := by
  by_cases ha0 : a = 0
  · by_cases hb0 : b = 0
    · rw [ha0, hb0]
    · have := H.log3_lt hb0 hb; rw [ha0, H.log3_zero] at h; omega
  · by_cases hb0 : b = 0
    · have := H.log3_lt ha0 ha; rw [hb0, H.log3_zero] at h; omega
    · rw [H.log3_get ha, H.log3_get hb] at h
      exact H.cantor.cm_inj ha hb (H.prim.dlog_inj (H.cantor.cm_ne_zero ha0 ha) (H.cantor.cm_lt a)
        (H.cantor.cm_ne_zero hb0 hb) (H.cantor.cm_lt b) h)

theorem exp4_size : (exp4 P).size = 2 ^ k := by
  unfold exp4; rw [foldl_setg_size (fun a => (log3 P)[a]!) (fun a => a), H.exp1_size]

theorem exp4_get_log {a : Nat} (ha : a < 2 ^ k) : (exp4 P)[(log3 P)[a]!]! = a := by
  unfold exp4
  rw [H.order_eq]
  exact foldl_setg_hit (fun a => (log3 P)[a]!) (fun a => a) (List.range' 0 (2 ^ k)) a
    (by rw [List.mem_range'_1]; omega)
    (fun y hy h => by
      rw [List.mem_range'_1] at hy
      exact H.log3_inj (by omega) ha h)
    (exp1 P) (by
      rw [H.exp1_size]
      by_cases h0 : a = 0
      · rw [h0, H.log3_zero]; omega
      · have := H.log3_lt h0 ha; omega)

theorem exp4_get {n : Nat} (hn : n < 2 ^ k - 1) :
    (exp4 P)[n]! = Leo.cantorMap Pinv (xpow k P.poly n) := by
  have hl : (log3 P)[Leo.cantorMap Pinv (xpow k P.poly n)]! = n := by
    rw [H.log3_get (H.cantor.cmi_lt _), H.cantor.cm_cmi (H.prim.toBasis.xpow_lt n), H.prim.dlog_xpow hn]
  have := H.exp4_get_log (H.cantor.cmi_lt (xpow k P.poly n))
  rwa [hl] at this

theorem exp4_modulus : (exp4 P)[2 ^ k - 1]! = 0 := by
  have := H.exp4_get_log (a := 0) (Nat.two_pow_pos k)
  rwa [H.log3_zero] at this

theorem log_size : (Leo.initLUTs P).log.size = 2 ^ k := by rw [initLUTs_eq, H.log3_size]

theorem exp_size : (Leo.initLUTs P).exp.size = 2 ^ k := by
  rw [initLUTs_eq]; unfold exp5; rw [size_set!, H.exp4_size]

theorem log_get {a : Nat} (ha : a < 2 ^ k) :
    (Leo.initLUTs P).log[a]! = dlog k P.poly (Leo.cantorMap P a) := by
  rw [initLUTs_eq, H.log3_get ha]

theorem exp_get {n : Nat} (hn : n ≤ 2 ^ k - 1) :
    (Leo.initLUTs P).exp[n]! = Leo.cantorMap Pinv (xpow k P.poly n) := by
  rw [initLUTs_eq]
  unfold exp5
  rw [H.modulus_eq]
  have h1 := H.one_lt
  by_cases h : n = 2 ^ k - 1
  · subst h
    rw [get!_set!_self _ _ _ (by rw [H.exp4_size]; omega), H.exp4_get (by omega), H.prim.per]; rfl
  · rw [get!_set!_ne _ _ _ _ (Ne.symm h), H.exp4_get (by omega)]

theorem log_spec {a : Nat} (h0 : a ≠ 0) (ha : a < 2 ^ k) :
    xpow k P.poly ((Leo.initLUTs P).log[a]!) = Leo.cantorMap P a := by
  rw [H.log_get ha]; exact H.prim.xpow_dlog (H.cantor.cm_ne_zero h0 ha) (H.cantor.cm_lt a)

theorem log_lt {a : Nat} (h0 : a ≠ 0) (ha : a < 2 ^ k) : (Leo.initLUTs P).log[a]! < 2 ^ k - 1 := by
  rw [H.log_get ha]; exact H.prim.dlog_lt (H.cantor.cm_ne_zero h0 ha) (H.cantor.cm_lt a)

theorem log_zero : (Leo.initLUTs P).log[0]! = 2 ^ k - 1 := by
  rw [H.log_get (Nat.two_pow_pos k), cantorMap_zero, H.prim.dlog_zero]

theorem log_le {a : Nat} (ha : a < 2 ^ k) : (Leo.initLUTs P).log[a]! ≤ 2 ^ k - 1 := by
  by_cases h0 : a = 0
  · rw [h0, H.log_zero]
  · exact Nat.le_of_lt (H.log_lt h0 ha)

theorem cm_exp {n : Nat} (hn : n ≤ 2 ^ k - 1) :
    Leo.cantorMap P ((Leo.initLUTs P).exp[n]!) = xpow k P.poly n := by
  rw [H.exp_get hn, H.cantor.cm_cmi (H.prim.toBasis.xpow_lt n)]

theorem exp_lt {n : Nat} (hn : n ≤ 2 ^ k - 1) : (Leo.initLUTs P).exp[n]! < 2 ^ k := by
  rw [H.exp_get hn]; exact H.cantor.cmi_lt _

theorem exp_ne_zero {n : Nat} (hn : n ≤ 2 ^ k - 1) : (Leo.initLUTs P).exp[n]! ≠ 0 := by
  rw [H.exp_get hn]; exact H.cantor.cmi_ne_zero (H.prim.xpow_ne_zero n) (H.prim.toBasis.xpow_lt n)

theorem exp_modulus : (Leo.initLUTs P).exp[2 ^ k - 1]! = (Leo.initLUTs P).exp[0]! := by
  rw [H.exp_get (Nat.le_refl _), H.exp_get (Nat.zero_le _), H.prim.per]; rfl

theorem exp_zero : (Leo.initLUTs P).exp[0]! = 1 := by
  rw [H.exp_get (Nat.zero_le _)]; exact H.cantor.cmi_one H.prim.toBasis.pos

theorem exp_log {a : Nat} (h0 : a ≠ 0) (ha : a < 2 ^ k) :
    (Leo.initLUTs P).exp[(Leo.initLUTs P).log[a]!]! = a := by
  rw [H.exp_get (H.log_le ha), H.log_spec h0 ha, H.cantor.cmi_cm ha]

/-- the one exception: `exp[log[0]] = exp[2^k-1] = exp[0] = 1 ≠ 0` -/
theorem exp_log_zero : (Leo.initLUTs P).exp[(Leo.initLUTs P).log[0]!]! = 1 := by
  rw [H.log_zero, H.exp_modulus, H.exp_zero]

theorem log_exp {n : Nat} (hn : n < 2 ^ k - 1) : (Leo.initLUTs P).log[(Leo.initLUTs P).exp[n]!]! = n := by
  rw [H.exp_get (by omega), H.log_get (H.cantor.cmi_lt _), H.cantor.cm_cmi (H.prim.toBasis.xpow_lt n),
    H.prim.dlog_xpow hn]

theorem addMod_eq {x y : Nat} (hx : x ≤ 2 ^ k - 1) (hy : y ≤ 2 ^ k - 1) :
    Leo.addMod P x y = if x + y < 2 ^ k then x + y else x + y - (2 ^ k - 1) := by
  show (x + y + (x + y) >>> P.bits) % P.order = _
  rw [H.order_eq, H.cantor.bits, Nat.shiftRight_eq_div_pow]
  have h1 := H.one_lt
  split
  next hlt => rw [Nat.div_eq_of_lt hlt, Nat.add_zero, Nat.mod_eq_of_lt hlt]
  next hge =>
    rw [Nat.div_eq_of_lt_le (k := 1) (by omega) (by omega), Nat.mod_eq_sub_mod (by omega),
      Nat.mod_eq_of_lt (by omega)]
    omega

theorem addMod_lt (x y : Nat) : Leo.addMod P x y < 2 ^ k := by
  show _ % P.order < _
  rw [H.order_eq]; exact Nat.mod_lt _ (Nat.two_pow_pos k)

theorem addMod_le (x y : Nat) : Leo.addMod P x y ≤ 2 ^ k - 1 := by
  have := H.addMod_lt x y; omega

theorem xpow_addMod {x y : Nat} (hx : x ≤ 2 ^ k - 1) (hy : y ≤ 2 ^ k - 1) :
    xpow k P.poly (Leo.addMod P x y) = xpow k P.poly (x + y) := by
  rw [H.addMod_eq hx hy]
  split
  · rfl
  · have h : x + y = (x + y - (2 ^ k - 1)) + (2 ^ k - 1) := by omega
    conv => rhs; rw [h]
    exact (H.prim.xpow_add_modulus _).symm

theorem mulLog_lt (a m : Nat) : Leo.mulLog P (Leo.initLUTs P) a m < 2 ^ k := by
  unfold Leo.mulLog
  split
  · exact Nat.two_pow_pos k
  · exact H.exp_lt (H.addMod_le _ _)

theorem cm_mulLog {a m : Nat} (ha : a < 2 ^ k) (hm : m < 2 ^ k) :
    Leo.cantorMap P (Leo.mulLog P (Leo.initLUTs P) a m) =
      pmul k P.poly (Leo.cantorMap P a) (xpow k P.poly m) := by
  unfold Leo.mulLog
  split
  next h => subst h; rw [cantorMap_zero, pmul_zero_left]
  next h =>
    rw [H.cm_exp (H.addMod_le _ _), H.xpow_addMod (H.log_le ha) (by omega), H.prim.toBasis.xpow_add,
      H.log_spec h ha]

theorem mulLog_xor {a b m : Nat} (ha : a < 2 ^ k) (hb : b < 2 ^ k) (hm : m < 2 ^ k) :
    Leo.mulLog P (Leo.initLUTs P) (a ^^^ b) m =
      Leo.mulLog P (Leo.initLUTs P) a m ^^^ Leo.mulLog P (Leo.initLUTs P) b m := by
  have hab : a ^^^ b < 2 ^ k := Nat.xor_lt_two_pow ha hb
  apply H.cantor.cm_inj (H.mulLog_lt _ _) (Nat.xor_lt_two_pow (H.mulLog_lt _ _) (H.mulLog_lt _ _))
  rw [cantorMap_xor, H.cm_mulLog hab hm, H.cm_mulLog ha hm, H.cm_mulLog hb hm, cantorMap_xor,
    pmul_xor_left]

/-- multiplying by `exp(2^k - 1) = x^(2^k-1) = 1` is the identity -/
theorem mulLog_modulus {a : Nat} (ha : a < 2 ^ k) : Leo.mulLog P (Leo.initLUTs P) a (2 ^ k - 1) = a := by
  apply H.cantor.cm_inj (H.mulLog_lt _ _) ha
  rw [H.cm_mulLog ha (by have := H.one_lt; omega), H.prim.per, pmul_one_right H.prim.toBasis.pos]

theorem leoMul_lt (a b : Nat) : Leo.leoMul (Leo.mkCtx P) a b < 2 ^ k := by
  unfold Leo.leoMul
  split
  · exact Nat.two_pow_pos k
  · exact H.exp_lt (H.addMod_le _ _)

omit H in
theorem leoMul_eq_mulLog {a b : Nat} (hb : b ≠ 0) :
    Leo.leoMul (Leo.mkCtx P) a b = Leo.mulLog P (Leo.initLUTs P) a ((Leo.initLUTs P).log[b]!) := by
  unfold Leo.leoMul Leo.mulLog
  by_cases ha : a = 0
  · simp [ha]
  · simp only [ha, hb, decide_false, Bool.or_self, Bool.false_eq_true, if_false]; rfl

theorem cm_leoMul {a b : Nat} (ha : a < 2 ^ k) (hb : b < 2 ^ k) :
    Leo.cantorMap P (Leo.leoMul (Leo.mkCtx P) a b) =
      pmul k P.poly (Leo.cantorMap P a) (Leo.cantorMap P b) := by
  by_cases hb0 : b = 0
  · subst hb0
    have : Leo.leoMul (Leo.mkCtx P) a 0 = 0 := by simp [Leo.leoMul]
    rw [this, cantorMap_zero, pmul_zero_right]
  · rw [leoMul_eq_mulLog hb0, H.cm_mulLog ha (by have := H.log_lt hb0 hb; omega), H.log_spec hb0 hb]

theorem leoMul_comm {a b : Nat} (ha : a < 2 ^ k) (hb : b < 2 ^ k) :
    Leo.leoMul (Leo.mkCtx P) a b = Leo.leoMul (Leo.mkCtx P) b a := by
  apply H.cantor.cm_inj (H.leoMul_lt _ _) (H.leoMul_lt _ _)
  rw [H.cm_leoMul ha hb, H.cm_leoMul hb ha, pmul_comm (H.cantor.cm_lt _) (H.cantor.cm_lt _)]

theorem leoMul_assoc {a b c : Nat} (ha : a < 2 ^ k) (hb : b < 2 ^ k) (hc : c < 2 ^ k) :
    Leo.leoMul (Leo.mkCtx P) (Leo.leoMul (Leo.mkCtx P) a b) c =
      Leo.leoMul (Leo.mkCtx P) a (Leo.leoMul (Leo.mkCtx P) b c) := by
  apply H.cantor.cm_inj (H.leoMul_lt _ _) (H.leoMul_lt _ _)
  rw [H.cm_leoMul (H.leoMul_lt _ _) hc, H.cm_leoMul ha hb, H.cm_leoMul ha (H.leoMul_lt _ _),
    H.cm_leoMul hb hc,
    H.prim.toBasis.pmul_assoc (H.cantor.cm_lt _) (H.cantor.cm_lt _) (H.cantor.cm_lt _)]

theorem leoMul_xor_right {a b c : Nat} (ha : a < 2 ^ k) (hb : b < 2 ^ k) (hc : c < 2 ^ k) :
    Leo.leoMul (Leo.mkCtx P) a (b ^^^ c) =
      Leo.leoMul (Leo.mkCtx P) a b ^^^ Leo.leoMul (Leo.mkCtx P) a c := by
  apply H.cantor.cm_inj (H.leoMul_lt _ _) (Nat.xor_lt_two_pow (H.leoMul_lt _ _) (H.leoMul_lt _ _))
  rw [cantorMap_xor, H.cm_leoMul ha (Nat.xor_lt_two_pow hb hc), H.cm_leoMul ha hb, H.cm_leoMul ha hc,
    cantorMap_xor, pmul_xor_right]

theorem leoMul_xor_left {a b c : Nat} (ha : a < 2 ^ k) (hb : b < 2 ^ k) (hc : c < 2 ^ k) :
    Leo.leoMul (Leo.mkCtx P) (a ^^^ b) c =
      Leo.leoMul (Leo.mkCtx P) a c ^^^ Leo.leoMul (Leo.mkCtx P) b c := by
  apply H.cantor.cm_inj (H.leoMul_lt _ _) (Nat.xor_lt_two_pow (H.leoMul_lt _ _) (H.leoMul_lt _ _))
  rw [cantorMap_xor, H.cm_leoMul (Nat.xor_lt_two_pow ha hb) hc, H.cm_leoMul ha hc, H.cm_leoMul hb hc,
    cantorMap_xor, pmul_xor_left]

theorem leoMul_one {a : Nat} (ha : a < 2 ^ k) : Leo.leoMul (Leo.mkCtx P) a 1 = a := by
  apply H.cantor.cm_inj (H.leoMul_lt _ _) ha
  rw [H.cm_leoMul ha H.one_lt, H.cantor.one, pmul_one_right H.prim.toBasis.pos]

theorem one_leoMul {a : Nat} (ha : a < 2 ^ k) : Leo.leoMul (Leo.mkCtx P) 1 a = a := by
  rw [H.leoMul_comm H.one_lt ha, H.leoMul_one ha]

/-- no zero divisors: both log/exp branches of `leoMul` return an entry of `exp`, which is never `0` -/
theorem leoMul_eq_zero {a b : Nat} :
    Leo.leoMul (Leo.mkCtx P) a b = 0 ↔ a = 0 ∨ b = 0 := by
  unfold Leo.leoMul
  constructor
  · intro h
    by_contra hab
    rw [if_neg (by simpa using hab)] at h
    exact H.exp_ne_zero (H.addMod_le _ _) h
  · intro h
    rw [if_pos (by simpa using h)]

theorem leoMul_inv {a : Nat} (ha : a < 2 ^ k) (h0 : a ≠ 0) :
    Leo.leoMul (Leo.mkCtx P) a
      ((Leo.initLUTs P).exp[2 ^ k - 1 - (Leo.initLUTs P).log[a]!]!) = 1 := by
  have hl := H.log_lt h0 ha
  have hn : 2 ^ k - 1 - (Leo.initLUTs P).log[a]! ≤ 2 ^ k - 1 := Nat.sub_le _ _
  apply H.cantor.cm_inj (H.leoMul_lt _ _) H.one_lt
  rw [H.cm_leoMul ha (H.exp_lt hn), H.cm_exp hn, ← H.log_spec h0 ha, ← H.prim.toBasis.xpow_add, H.cantor.one,
    show (Leo.initLUTs P).log[a]! + (2 ^ k - 1 - (Leo.initLUTs P).log[a]!) = 2 ^ k - 1 by omega,
    H.prim.per]

/-- entries `a &&& 15` and `(a >>> 4) + 16` of the nibble table compose to the product of the byte `a`:
`a` is the xor of its two nibbles in place and `mulLog` is xor-linear -/
theorem nibbles_byte (hk : 8 ≤ k) {m a : Nat} (hm : m < 2 ^ k) (ha : a < 256) :
    (Leo.nibbleProducts P (Leo.initLUTs P) m)[a &&& 15]! ^^^
      (Leo.nibbleProducts P (Leo.initLUTs P) m)[(a >>> 4) + 16]! = Leo.mulLog P (Leo.initLUTs P) a m := by
  have h1 := and15_lt a
  have h2 := shr4_lt ha
  have h3 : (a >>> 4) <<< 4 < 256 := shl_lt (n := 4) h2 4
  have hB : 2 ^ 8 ≤ 2 ^ k := Nat.pow_le_pow_right (by decide) hk
  rw [nib_0 _ _ _ _ h1, nib_1 _ _ _ _ h2, H.order_eq, Nat.mod_eq_of_lt (by omega), Nat.mod_eq_of_lt (by omega),
    ← H.mulLog_xor (by omega) (by omega) hm, byte_nibbles]

end LeoPres
end RSV.Proofs
