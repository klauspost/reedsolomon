import RSV.Proofs.LCHDecode.FwhtCast
import RSV.Proofs.LCHDecode.Layout
/-!
# Leopard's error-locator table `errLocs` is the table of logarithms of `Λ` / `Λ'`

`errLocs = fwht (fwht e0 · walsh)`, `walsh = fwht log'`: by the convolution theorem of the Walsh–Hadamard transform
(`H_mul_H`) and `2^k ≡ 1 (mod 2^k - 1)`, `errLocs[i] ≡ ∑_{j ∈ E} log'(i ^^^ j)`, hence
`g ^ errLocs[i] = ∏_{j ∈ E, j ≠ i} (φ i + φ j)`: `errLocs_ok`.
-/
namespace RSV.LCHDecode
open RSV.Model RSV.Model.Leo RSV.LCHBridge RSV.Proofs RSV.Proofs.LeoPres Finset

theorem ofFn_get {n : ℕ} (f : Fin n → ℕ) (j : ℕ) (hj : j < n) : (Array.ofFn f)[j]! = f ⟨j, hj⟩ := by
  simp [hj]

theorem ofFn_get_ge {n : ℕ} (f : Fin n → ℕ) (j : ℕ) (hj : n ≤ j) : (Array.ofFn f)[j]! = 0 := by
  simp [hj]

theorem foldl_seti (h : ℕ → ℕ) (b0 : Array ℕ) : ∀ n, n ≤ b0.size →
    ((List.range' 0 n).foldl (fun b a => b.set! a (h a)) b0).size = b0.size ∧
    ∀ i, ((List.range' 0 n).foldl (fun b a => b.set! a (h a)) b0)[i]! = if i < n then h i else b0[i]! := by
  intro n
  induction n with
  | zero => exact fun _ => ⟨rfl, fun i => by simp⟩
  | succ n ih =>
    intro hn
    obtain ⟨hs, hg⟩ := ih (by omega)
    rw [List.range'_1_concat, List.foldl_append]
    simp only [List.foldl_cons, List.foldl_nil, Nat.zero_add]
    refine ⟨by simpa using hs, fun i => ?_⟩
    by_cases hin : n = i
    · subst hin
      rw [Arr.get!_set!_self _ _ _ (by omega), if_pos (by omega)]
    · rw [Arr.get!_set!_ne _ _ _ _ hin, hg]
      by_cases h1 : i < n
      · rw [if_pos h1, if_pos (by omega)]
      · rw [if_neg h1, if_neg (by omega)]

/-- the table `log'` the transform is applied to: `log` with entry `0` cleared -/
def walsh0 (P : Params) (T : LUTs) : Array ℕ :=
  ((List.range' 0 P.order).foldl (fun b a => b.set! a T.log[a]!) (Array.replicate P.order 0)).set! 0 0

theorem initFFTSkew_walsh_eq (P : Params) (T : LUTs) :
    (initFFTSkew P T).walsh = fwht P (walsh0 P T) P.order := by
  unfold initFFTSkew
  simp only [Std.Legacy.Range.forIn_eq_forIn_range', Std.Legacy.Range.size,
    List.forIn_pure_yield_eq_foldl, bind_pure_comp, map_pure, Id.run_pure, Nat.sub_zero,
    Nat.add_one_sub_one, Nat.div_one]
  rfl

theorem walsh0_spec (P : Params) (T : LUTs) :
    (walsh0 P T).size = P.order ∧
    ∀ j, (walsh0 P T)[j]! = if j = 0 then 0 else if j < P.order then T.log[j]! else 0 := by
  obtain ⟨hs, hg⟩ := foldl_seti (fun a => T.log[a]!) (Array.replicate P.order 0) P.order (by simp)
  have hpos : 0 < P.order := by unfold Params.order; rw [Nat.one_shiftLeft]; exact Nat.two_pow_pos _
  unfold walsh0
  refine ⟨by simpa using hs, fun j => ?_⟩
  by_cases hj : j = 0
  · subst hj
    rw [if_pos rfl, Arr.get!_set!_self _ _ _ (by rw [hs]; simpa using hpos)]
  · rw [if_neg hj, Arr.get!_set!_ne _ _ _ _ (Ne.symm hj), hg]
    by_cases h1 : j < P.order
    · rw [if_pos h1, if_pos h1]
    · rw [if_neg h1, if_neg h1]; simp [h1]

/-- the indicator `e0` of `errLocs`, as a function -/
def e0fn (d p m : ℕ) (missing : ℕ → Bool) (i : ℕ) : ℕ :=
  if i < p then (if missing (d + i) then 1 else 0)
  else if i < m then 1
  else if i < m + d then (if missing (i - m) then 1 else 0)
  else 0

theorem e0fn_eq {d p : ℕ} {missing : ℕ → Bool} (hp : p ≤ ceilPow2 p) (i : ℕ) :
    e0fn d p (ceilPow2 p) missing i = if i ∈ erasedSet d p missing then 1 else 0 := by
  unfold e0fn
  simp only [mem_erasedSet]
  by_cases h1 : i < p
  · rw [if_pos h1]
    by_cases hm : missing (d + i) = true
    · rw [if_pos hm, if_pos (Or.inl ⟨h1, hm⟩)]
    · rw [if_neg hm, if_neg]
      rintro (⟨_, h⟩ | h | h)
      exacts [hm h, by omega, by omega]
  · rw [if_neg h1]
    by_cases h2 : i < ceilPow2 p
    · rw [if_pos h2, if_pos (Or.inr (Or.inl ⟨by omega, h2⟩))]
    · rw [if_neg h2]
      by_cases h3 : i < ceilPow2 p + d
      · rw [if_pos h3]
        by_cases hm : missing (i - ceilPow2 p) = true
        · rw [if_pos hm, if_pos (Or.inr (Or.inr ⟨by omega, h3, hm⟩))]
        · rw [if_neg hm, if_neg]
          rintro (h | h | ⟨_, _, h⟩)
          exacts [by omega, by omega, hm h]
      · rw [if_neg h3, if_neg (by omega)]

theorem two_pow_cast (k : ℕ) : (2 : ZMod (2 ^ k - 1)) ^ k = 1 := by
  have h : ((2 ^ k - 1 + 1 : ℕ) : ZMod (2 ^ k - 1)) = 1 := by
    rw [Nat.cast_add, ZMod.natCast_self, zero_add, Nat.cast_one]
  rw [Nat.sub_add_cancel Nat.one_le_two_pow] at h
  rw [← h]; push_cast; rfl

theorem H_congr {R : Type*} [CommRing R] (k : ℕ) {f g : ℕ → R} (h : ∀ j, j < 2 ^ k → f j = g j) (x : ℕ) :
    H k f x = H k g x := by
  unfold H
  exact sum_congr rfl fun j hj => by rw [h j (mem_range.mp hj)]

variable {K : Type} [Field K] {C : Ctx}

theorem pow_cast_congr (F : FieldCtx C K) {a b : ℕ}
    (h : ((a : ℕ) : ZMod (2 ^ F.k - 1)) = ((b : ℕ) : ZMod (2 ^ F.k - 1))) : F.g ^ a = F.g ^ b := by
  have hm : a % (2 ^ F.k - 1) = b % (2 ^ F.k - 1) := (ZMod.natCast_eq_natCast_iff a b _).mp h
  rw [pow_eq_pow_mod a F.g_pow_modulus, pow_eq_pow_mod b F.g_pow_modulus, hm]

/-- `e0` of `errLocs` -/
def e0A (C : Ctx) (d p : ℕ) (missing : ℕ → Bool) : Array ℕ :=
  Array.ofFn fun i : Fin C.P.order => e0fn d p (ceilPow2 p) missing i.val

/-- `e2` of `errLocs` -/
def e2A (C : Ctx) (e1 : Array ℕ) : Array ℕ :=
  Array.ofFn fun i : Fin C.P.order => (e1[i.val]! * C.S.walsh[i.val]!) % C.P.modulus

theorem errLocs_eq (C : Ctx) (d p : ℕ) (missing : ℕ → Bool) :
    errLocs C d p missing = fwht C.P (e2A C (fwht C.P (e0A C d p missing) (ceilPow2 p + d))) C.P.order := rfl

/-- the table `A` has `2^k` entries, all `≤ 2^k - 1`, and reads as `f` modulo `2^k - 1` -/
structure Tbl (k : ℕ) (A : Array ℕ) (f : ℕ → ZMod (2 ^ k - 1)) : Prop where
  size : A.size = 2 ^ k
  le : ∀ j : ℕ, A[j]! ≤ 2 ^ k - 1
  val : ∀ j : ℕ, j < 2 ^ k → ((A[j]! : ℕ) : ZMod (2 ^ k - 1)) = f j

theorem Tbl.zero_ge {k : ℕ} {A : Array ℕ} {f : ℕ → ZMod (2 ^ k - 1)} (h : Tbl k A f) {j : ℕ} (hj : 2 ^ k ≤ j) :
    A[j]! = 0 := RSV.Proofs.LeoSched.get!_ge A j (by rw [h.size]; exact hj)

theorem Tbl.ofFn {k n : ℕ} (hn : n = 2 ^ k) (g : Fin n → ℕ) (f : ℕ → ZMod (2 ^ k - 1))
    (hle : ∀ i, g i ≤ 2 ^ k - 1) (hval : ∀ i, ((g i : ℕ) : ZMod (2 ^ k - 1)) = f i.val) :
    Tbl k (Array.ofFn g) f where
  size := by rw [Array.size_ofFn, hn]
  le j := by
    by_cases hj : j < n
    · rw [ofFn_get _ _ hj]; exact hle _
    · rw [ofFn_get_ge _ _ (by omega)]; omega
  val j hj := by rw [ofFn_get _ _ (by omega)]; exact hval _

theorem Tbl.fwht {k : ℕ} (P : Params) (h : ℕ) (hk : P.bits = k) (hev : k = 2 * h) {A : Array ℕ}
    {f : ℕ → ZMod (2 ^ k - 1)} (hA : Tbl k A f) {mtrunc : ℕ} (hm : mtrunc ≤ 2 ^ k)
    (hz : ∀ j, mtrunc ≤ j → A[j]! = 0) : Tbl k (Leo.fwht P A mtrunc) (H k f) := by
  obtain ⟨h1, h2, h3⟩ := fwht_H P h hk hev A mtrunc hA.size hm hz hA.le
  exact ⟨h1, h2, fun x hx => by rw [h3 x hx]; exact H_congr k hA.val x⟩

/-- The error-locator table.  For a context whose `walsh` table is the one `initFFTSkew` builds, a field reading
`F` with an even number of bits, and a decoder layout that fits (`ceilPow2 p + d ≤ 2^k`): `errLocs` holds at every
`i < 2^k` the logarithm of `∏_{j ∈ E, j ≠ i} (φ i + φ j)`, `E` the erased positions. -/
theorem errLocs_ok (F : FieldCtx C K) (hW : C.S.walsh = (initFFTSkew C.P C.T).walsh) (hev : F.k % 2 = 0)
    (d p : ℕ) (missing : ℕ → Bool) (hdp : ceilPow2 p + d ≤ 2 ^ F.k) (hp : p ≤ ceilPow2 p) :
    ElOK F (erasedSet d p missing) (errLocs C d p missing) := by
  have hord : C.P.order = 2 ^ F.k := order_eq F
  have hmod : C.P.modulus = 2 ^ F.k - 1 := modulus_eq F
  have hev' : F.k = 2 * (F.k / 2) := by omega
  have h2 : 2 ≤ 2 ^ F.k := by
    calc 2 = 2 ^ 1 := rfl
      _ ≤ 2 ^ F.k := Nat.pow_le_pow_right (by decide) F.hk
  -- the indicator of the erased set, and its transform
  have t0 : Tbl F.k (e0A C d p missing) fun j => if j ∈ erasedSet d p missing then 1 else 0 :=
    Tbl.ofFn hord _ _ (fun i => by rw [e0fn_eq hp]; split <;> omega)
      (fun i => by rw [e0fn_eq hp]; split <;> simp)
  have t1 := t0.fwht C.P (F.k / 2) F.hbits hev' hdp fun j hj => by
    by_cases hj' : j < C.P.order
    · unfold e0A
      rw [ofFn_get _ _ hj', e0fn_eq hp, if_neg fun hmem => by have := erasedSet_lt hp hmem; dsimp only at this; omega]
    · exact t0.zero_ge (by omega)
  -- `walsh` is the transform of `log'`
  obtain ⟨w0s, w0g⟩ := walsh0_spec C.P C.T
  rw [hord] at w0s w0g
  have tw : Tbl F.k (walsh0 C.P C.T) fun j => (((walsh0 C.P C.T)[j]! : ℕ) : ZMod (2 ^ F.k - 1)) :=
    ⟨w0s, fun j => by
      rw [w0g]
      split
      · omega
      · split
        · rename_i h0 hlt
          have := F.log_lt j h0 hlt
          omega
        · omega, fun _ _ => rfl⟩
  have tW := tw.fwht C.P (F.k / 2) F.hbits hev' (Nat.le_refl _) fun j hj => tw.zero_ge hj
  rw [show Leo.fwht C.P (walsh0 C.P C.T) (2 ^ F.k) = C.S.walsh by rw [hW, initFFTSkew_walsh_eq, hord]] at tW
  -- the entrywise product, and its transform
  have t2 : Tbl F.k (e2A C (Leo.fwht C.P (e0A C d p missing) (ceilPow2 p + d))) _ :=
    Tbl.ofFn hord _ (fun j => H F.k (fun j => if j ∈ erasedSet d p missing then 1 else 0) j *
        H F.k (fun j => (((walsh0 C.P C.T)[j]! : ℕ) : ZMod (2 ^ F.k - 1))) j)
      (fun i => by rw [hmod]; exact Nat.le_of_lt (Nat.mod_lt _ (by omega)))
      (fun i => by rw [hmod, ZMod.natCast_mod, Nat.cast_mul, t1.val _ (by omega), tW.val _ (by omega)])
  have t3 := t2.fwht C.P (F.k / 2) F.hbits hev' (Nat.le_refl _) fun j hj => t2.zero_ge hj
  rw [show Leo.fwht C.P (e2A C (Leo.fwht C.P (e0A C d p missing) (ceilPow2 p + d))) (2 ^ F.k) =
    errLocs C d p missing by rw [errLocs_eq, hord]] at t3
  intro i hi
  refine ⟨by have := t3.le i; omega, ?_⟩
  have hc : (((errLocs C d p missing)[i]! : ℕ) : ZMod (2 ^ F.k - 1)) =
      ((∑ j ∈ erasedSet d p missing, (walsh0 C.P C.T)[i ^^^ j]! : ℕ) : ZMod (2 ^ F.k - 1)) := by
    rw [t3.val i hi, H_mul_H _ _ _ _ hi, two_pow_cast, one_mul]
    unfold xconv
    rw [Nat.cast_sum]
    have hsub : erasedSet d p missing ⊆ range (2 ^ F.k) := fun j hj =>
      mem_range.mpr (lt_of_lt_of_le (erasedSet_lt hp hj) hdp)
    simp only [ite_mul, one_mul, zero_mul]
    rw [sum_ite_mem, inter_eq_right.mpr hsub]
  have h1 : F.g ^ (walsh0 C.P C.T)[i ^^^ i]! = 1 := by rw [Nat.xor_self, w0g, if_pos rfl, pow_zero]
  rw [pow_cast_congr F hc, ← prod_pow_eq_pow_sum,
    ← prod_erase (erasedSet d p missing) (f := fun j => F.g ^ (walsh0 C.P C.T)[i ^^^ j]!) (a := i) h1]
  refine prod_congr rfl fun j hj => ?_
  obtain ⟨hne, hjE⟩ := mem_erase.mp hj
  have hjlt : j < 2 ^ F.k := lt_of_lt_of_le (erasedSet_lt hp hjE) hdp
  have hx0 : i ^^^ j ≠ 0 := fun h0 => hne (Nat.xor_eq_zero_iff.mp h0).symm
  have hxlt : i ^^^ j < 2 ^ F.k := Nat.xor_lt_two_pow hi hjlt
  rw [w0g, if_neg hx0, if_pos hxlt, F.log_spec _ hx0 hxlt, F.φ_xor _ _ hi hjlt]

end RSV.LCHDecode
