import RSV.Model.LeoTables
import RSV.Proofs.LeoPres.Loops
/-!
The `Id.run do` block of `Leo.fwht P data mtrunc` is, literally, a fold of `fround` over the state
`(data, dist, dist4)` (`fwht_eq`); one round is `passArr` (blocks `q * dist4`, `q < ⌈mtrunc / dist4⌉`), one block is
`blockArr` (`i < dist`), one butterfly is `bstep` (four reads, four `set!`s at `off, off + D, off + 2D, off + 3D`).
The butterflies of a pass touch pairwise disjoint quadruples, so a pass over `Q` blocks is a simultaneous update: at
`q·4D + i + c·D` (`q < Q`, `i < D`) the output `bf_c` of the butterfly on the four old values, everything from `Q·4D`
on untouched (`passArr_spec`).
-/
namespace RSV.LCHDecode
open RSV.Model RSV.Proofs RSV.Proofs.LeoPres

/-- the four outputs of the radix-4 butterfly -/
def wbf0 (P : Leo.Params) (t0 t1 t2 t3 : Nat) : Nat := Leo.addMod P (Leo.addMod P t0 t1) (Leo.addMod P t2 t3)
def wbf1 (P : Leo.Params) (t0 t1 t2 t3 : Nat) : Nat := Leo.addMod P (Leo.subMod P t0 t1) (Leo.subMod P t2 t3)
def wbf2 (P : Leo.Params) (t0 t1 t2 t3 : Nat) : Nat := Leo.subMod P (Leo.addMod P t0 t1) (Leo.addMod P t2 t3)
def wbf3 (P : Leo.Params) (t0 t1 t2 t3 : Nat) : Nat := Leo.subMod P (Leo.subMod P t0 t1) (Leo.subMod P t2 t3)

def bstep (P : Leo.Params) (D : Nat) (b : Array Nat) (off : Nat) : Array Nat :=
  (((b.set! off (wbf0 P b[off]! b[off + D]! b[off + D * 2]! b[off + D * 3]!)).set!
      (off + D) (wbf1 P b[off]! b[off + D]! b[off + D * 2]! b[off + D * 3]!)).set!
      (off + D * 2) (wbf2 P b[off]! b[off + D]! b[off + D * 2]! b[off + D * 3]!)).set!
      (off + D * 3) (wbf3 P b[off]! b[off + D]! b[off + D * 2]! b[off + D * 3]!)

def blockArr (P : Leo.Params) (D r n : Nat) (b : Array Nat) : Array Nat :=
  (List.range' 0 n).foldl (fun b i => bstep P D b (r + i)) b

def passArr (P : Leo.Params) (D D4 Q : Nat) (b : Array Nat) : Array Nat :=
  (List.range' 0 Q).foldl (fun b q => blockArr P D (q * D4) D b) b

def fround (P : Leo.Params) (mtrunc : Nat) (s : Array Nat × Nat × Nat) : Array Nat × Nat × Nat :=
  if s.2.2 ≤ P.order then
    (passArr P s.2.1 s.2.2 ((mtrunc + s.2.2 - 1) / s.2.2) s.1, s.2.2, s.2.2 <<< 2)
  else (s.1, s.2.1, s.2.2)

theorem ite_pure_yield {β : Type} (c : Prop) [Decidable c] (a b : β) :
    (if c then (pure (ForInStep.yield a) : Id (ForInStep β)) else pure (ForInStep.yield b)) =
      pure (ForInStep.yield (if c then a else b)) := by
  split <;> rfl

theorem fwht_eq (P : Leo.Params) (data : Array Nat) (mtrunc : Nat) :
    Leo.fwht P data mtrunc =
      ((List.range' 0 (P.bits / 2)).foldl (fun s _ => fround P mtrunc s) (data, 1, 4)).1 := by
  unfold Leo.fwht
  simp only [Std.Legacy.Range.forIn_eq_forIn_range', Std.Legacy.Range.size,
    List.forIn_pure_yield_eq_foldl, bind_pure_comp, map_pure, Nat.sub_zero,
    Nat.add_one_sub_one, Nat.div_one, ite_pure_yield]
  rfl

theorem bstep_size (P : Leo.Params) (D : Nat) (b : Array Nat) (off : Nat) :
    (bstep P D b off).size = b.size := by
  unfold bstep; simp

theorem bstep_frame (P : Leo.Params) (D : Nat) (b : Array Nat) (off j : Nat)
    (h0 : j ≠ off) (h1 : j ≠ off + D) (h2 : j ≠ off + D * 2) (h3 : j ≠ off + D * 3) :
    (bstep P D b off)[j]! = b[j]! := by
  unfold bstep
  rw [Arr.get!_set!_ne _ _ _ _ (Ne.symm h3), Arr.get!_set!_ne _ _ _ _ (Ne.symm h2), Arr.get!_set!_ne _ _ _ _ (Ne.symm h1),
    Arr.get!_set!_ne _ _ _ _ (Ne.symm h0)]

theorem bstep_get (P : Leo.Params) (D : Nat) (b : Array Nat) (off : Nat) (hD : 0 < D)
    (hsz : off + D * 3 < b.size) :
    (bstep P D b off)[off]! = wbf0 P b[off]! b[off + D]! b[off + D * 2]! b[off + D * 3]! ∧
    (bstep P D b off)[off + D]! = wbf1 P b[off]! b[off + D]! b[off + D * 2]! b[off + D * 3]! ∧
    (bstep P D b off)[off + D * 2]! = wbf2 P b[off]! b[off + D]! b[off + D * 2]! b[off + D * 3]! ∧
    (bstep P D b off)[off + D * 3]! = wbf3 P b[off]! b[off + D]! b[off + D * 2]! b[off + D * 3]! := by
  unfold bstep
  refine ⟨?_, ?_, ?_, ?_⟩
  · rw [Arr.get!_set!_ne _ _ _ _ (by omega), Arr.get!_set!_ne _ _ _ _ (by omega), Arr.get!_set!_ne _ _ _ _ (by omega),
      Arr.get!_set!_self _ _ _ (by omega)]
  · rw [Arr.get!_set!_ne _ _ _ _ (by omega), Arr.get!_set!_ne _ _ _ _ (by omega), Arr.get!_set!_self _ _ _ (by simp; omega)]
  · rw [Arr.get!_set!_ne _ _ _ _ (by omega), Arr.get!_set!_self _ _ _ (by simp; omega)]
  · rw [Arr.get!_set!_self _ _ _ (by simp; omega)]

theorem blockArr_succ (P : Leo.Params) (D r n : Nat) (b : Array Nat) :
    blockArr P D r (n + 1) b = bstep P D (blockArr P D r n b) (r + n) := by
  unfold blockArr
  rw [List.range'_1_concat, List.foldl_append]
  simp only [List.foldl_cons, List.foldl_nil, Nat.zero_add]

theorem blockArr_spec (P : Leo.Params) (D r : Nat) (b : Array Nat) (hD : 0 < D) (hsz : r + D * 4 ≤ b.size) :
    ∀ n, n ≤ D →
    (blockArr P D r n b).size = b.size ∧
    (∀ i, i < n →
      (blockArr P D r n b)[r + i]! = wbf0 P b[r + i]! b[r + i + D]! b[r + i + D * 2]! b[r + i + D * 3]! ∧
      (blockArr P D r n b)[r + i + D]! = wbf1 P b[r + i]! b[r + i + D]! b[r + i + D * 2]! b[r + i + D * 3]! ∧
      (blockArr P D r n b)[r + i + D * 2]! = wbf2 P b[r + i]! b[r + i + D]! b[r + i + D * 2]! b[r + i + D * 3]! ∧
      (blockArr P D r n b)[r + i + D * 3]! = wbf3 P b[r + i]! b[r + i + D]! b[r + i + D * 2]! b[r + i + D * 3]!) ∧
    (∀ j, (∀ i, i < n → j ≠ r + i ∧ j ≠ r + i + D ∧ j ≠ r + i + D * 2 ∧ j ≠ r + i + D * 3) →
      (blockArr P D r n b)[j]! = b[j]!) := by
  intro n
  induction n with
  | zero => exact fun _ => ⟨rfl, fun i hi => absurd hi (Nat.not_lt_zero i), fun j _ => rfl⟩
  | succ n ih =>
    intro hn
    obtain ⟨ihs, ih1, ih2⟩ := ih (by omega)
    rw [blockArr_succ]
    obtain ⟨g0, g1, g2, g3⟩ := bstep_get P D (blockArr P D r n b) (r + n) hD (by rw [ihs]; omega)
    have e0 : (blockArr P D r n b)[r + n]! = b[r + n]! := ih2 _ (fun i hi => by omega)
    have e1 : (blockArr P D r n b)[r + n + D]! = b[r + n + D]! := ih2 _ (fun i hi => by omega)
    have e2 : (blockArr P D r n b)[r + n + D * 2]! = b[r + n + D * 2]! := ih2 _ (fun i hi => by omega)
    have e3 : (blockArr P D r n b)[r + n + D * 3]! = b[r + n + D * 3]! := ih2 _ (fun i hi => by omega)
    rw [e0, e1, e2, e3] at g0 g1 g2 g3
    refine ⟨by rw [bstep_size, ihs], fun i hi => ?_, fun j hj => ?_⟩
    · by_cases hin : i = n
      · subst hin; exact ⟨g0, g1, g2, g3⟩
      · have hlt : i < n := by omega
        obtain ⟨a0, a1, a2, a3⟩ := ih1 i hlt
        rw [bstep_frame _ _ _ _ _ (by omega) (by omega) (by omega) (by omega),
          bstep_frame _ _ _ _ _ (by omega) (by omega) (by omega) (by omega),
          bstep_frame _ _ _ _ _ (by omega) (by omega) (by omega) (by omega),
          bstep_frame _ _ _ _ _ (by omega) (by omega) (by omega) (by omega)]
        exact ⟨a0, a1, a2, a3⟩
    · obtain ⟨h0, h1, h2, h3⟩ := hj n (by omega)
      rw [bstep_frame _ _ _ _ _ h0 h1 h2 h3]
      exact ih2 j (fun i hi => hj i (by omega))

theorem passArr_succ (P : Leo.Params) (D D4 Q : Nat) (b : Array Nat) :
    passArr P D D4 (Q + 1) b = blockArr P D (Q * D4) D (passArr P D D4 Q b) := by
  unfold passArr
  rw [List.range'_1_concat, List.foldl_append]
  simp only [List.foldl_cons, List.foldl_nil, Nat.zero_add]

theorem passArr_spec (P : Leo.Params) (D : Nat) (b : Array Nat) (hD : 0 < D) :
    ∀ Q, Q * (D * 4) ≤ b.size →
    (passArr P D (D * 4) Q b).size = b.size ∧
    (∀ q i, q < Q → i < D →
      (passArr P D (D * 4) Q b)[q * (D * 4) + i]! =
        wbf0 P b[q * (D * 4) + i]! b[q * (D * 4) + i + D]! b[q * (D * 4) + i + D * 2]! b[q * (D * 4) + i + D * 3]! ∧
      (passArr P D (D * 4) Q b)[q * (D * 4) + i + D]! =
        wbf1 P b[q * (D * 4) + i]! b[q * (D * 4) + i + D]! b[q * (D * 4) + i + D * 2]! b[q * (D * 4) + i + D * 3]! ∧
      (passArr P D (D * 4) Q b)[q * (D * 4) + i + D * 2]! =
        wbf2 P b[q * (D * 4) + i]! b[q * (D * 4) + i + D]! b[q * (D * 4) + i + D * 2]! b[q * (D * 4) + i + D * 3]! ∧
      (passArr P D (D * 4) Q b)[q * (D * 4) + i + D * 3]! =
        wbf3 P b[q * (D * 4) + i]! b[q * (D * 4) + i + D]! b[q * (D * 4) + i + D * 2]! b[q * (D * 4) + i + D * 3]!) ∧
    (∀ j, Q * (D * 4) ≤ j → (passArr P D (D * 4) Q b)[j]! = b[j]!) := by
  intro Q
  induction Q with
  | zero => exact fun _ => ⟨rfl, fun q i hq => absurd hq (Nat.not_lt_zero q), fun j _ => rfl⟩
  | succ Q ih =>
    intro hQ
    have hQ' : (Q + 1) * (D * 4) = Q * (D * 4) + D * 4 := by rw [Nat.add_mul, Nat.one_mul]
    obtain ⟨ihs, ih1, ih2⟩ := ih (by omega)
    rw [passArr_succ]
    obtain ⟨bs, b1, b2⟩ := blockArr_spec P D (Q * (D * 4)) (passArr P D (D * 4) Q b) hD
      (by rw [ihs]; omega) D (Nat.le_refl D)
    refine ⟨by rw [bs, ihs], fun q i hq hi => ?_, fun j hj => ?_⟩
    · by_cases hqQ : q = Q
      · subst hqQ
        have := b1 i hi
        rw [ih2 _ (by omega), ih2 _ (by omega), ih2 _ (by omega), ih2 _ (by omega)] at this
        exact this
      · have hlt : q < Q := by omega
        have hle : (q + 1) * (D * 4) ≤ Q * (D * 4) := Nat.mul_le_mul_right _ hlt
        rw [Nat.add_mul, Nat.one_mul] at hle
        rw [b2 _ (fun i' _ => by omega), b2 _ (fun i' _ => by omega), b2 _ (fun i' _ => by omega),
          b2 _ (fun i' _ => by omega)]
        exact ih1 q i hlt hi
    · rw [b2 _ (fun i' _ => by omega)]
      exact ih2 j (by omega)

end RSV.LCHDecode
