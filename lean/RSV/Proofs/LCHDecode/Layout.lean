import RSV.Proofs.LeoSchedRange
import RSV.Proofs.LCHDecode.Iface
/-!
The layout of the decoder's work area: `m = ceilPow2 p = 2^t` parity positions (`p` used, `m - p` padding), then the
`d` data positions, up to `n = ceilPow2 (m + d) = 2^T` rows.
-/
namespace RSV.LCHDecode
open RSV.Model RSV.Model.Leo RSV.Proofs.LeoSched Finset

/-- the erased positions of the decoder layout: missing parity `i < p` at `i`, the padding `p ≤ i < m`, missing data
`c < d` at `m + c` (`m = ceilPow2 p`) -/
def erasedSet (d p : ℕ) (missing : ℕ → Bool) : Finset ℕ :=
  (range p).filter (fun i => missing (d + i) = true) ∪ Ico p (ceilPow2 p) ∪
    ((range d).filter (fun c => missing c = true)).image (fun c => ceilPow2 p + c)

/-- `erasedSet` with the Boolean predicates coerced instead of compared with `true`; only the statement of
`reconstruct_rows_cantor` uses this spelling -/
def erasedPos (d p : ℕ) (missing : ℕ → Bool) : Finset ℕ :=
  (Finset.range p).filter (fun i => missing (d + i)) ∪ Finset.Ico p (ceilPow2 p) ∪
    ((Finset.range d).filter (fun c => missing c)).image (ceilPow2 p + ·)

theorem erasedPos_eq_erasedSet (d p : ℕ) (missing : ℕ → Bool) :
    erasedPos d p missing = erasedSet d p missing := rfl

theorem mem_erasedSet {d p : ℕ} {missing : ℕ → Bool} {x : ℕ} :
    x ∈ erasedSet d p missing ↔
      (x < p ∧ missing (d + x) = true) ∨ (p ≤ x ∧ x < ceilPow2 p) ∨
        (ceilPow2 p ≤ x ∧ x < ceilPow2 p + d ∧ missing (x - ceilPow2 p) = true) := by
  unfold erasedSet
  simp only [mem_union, mem_filter, mem_range, mem_Ico, mem_image]
  constructor
  · rintro ((h | h) | ⟨c, ⟨hc, hm⟩, rfl⟩)
    · exact Or.inl h
    · exact Or.inr (Or.inl h)
    · exact Or.inr (Or.inr ⟨by omega, by omega, by rw [Nat.add_sub_cancel_left]; exact hm⟩)
  · rintro (h | h | ⟨h1, h2, h3⟩)
    · exact Or.inl (Or.inl h)
    · exact Or.inl (Or.inr h)
    · exact Or.inr ⟨x - ceilPow2 p, ⟨by omega, h3⟩, by omega⟩

theorem erasedSet_lt {d p : ℕ} {missing : ℕ → Bool} (hp : p ≤ ceilPow2 p) {i : ℕ}
    (hi : i ∈ erasedSet d p missing) : i < ceilPow2 p + d := by
  rw [mem_erasedSet] at hi
  omega

theorem card_erasedSet {d p : ℕ} {missing : ℕ → Bool} (hpm : p ≤ ceilPow2 p)
    (hmiss : ((Finset.range (d + p)).filter (fun i => missing i)).card ≤ p) :
    (erasedSet d p missing).card ≤ ceilPow2 p := by
  unfold erasedSet
  have h1 := card_union_le ((range p).filter (fun i => missing (d + i) = true) ∪ Ico p (ceilPow2 p))
    (((range d).filter (fun c => missing c = true)).image (fun c => ceilPow2 p + c))
  have h2 := card_union_le ((range p).filter (fun i => missing (d + i) = true)) (Ico p (ceilPow2 p))
  have h3 : (((range d).filter (fun c => missing c = true)).image (fun c => ceilPow2 p + c)).card ≤
      ((range d).filter (fun c => missing c = true)).card := card_image_le
  have h4 : (Ico p (ceilPow2 p)).card = ceilPow2 p - p := Nat.card_Ico _ _
  -- the missing parity and data shards, as disjoint subsets of the missing shards
  have h5 : ((range p).filter (fun i => missing (d + i) = true)).card =
      (((range p).filter (fun i => missing (d + i) = true)).image (d + ·)).card :=
    (card_image_of_injective _ (fun a b h => Nat.add_left_cancel h)).symm
  have hdisj : Disjoint (((range p).filter (fun i => missing (d + i) = true)).image (d + ·))
      ((range d).filter (fun c => missing c = true)) := by
    rw [disjoint_left]
    intro x hx hx'
    simp only [mem_image, mem_filter, mem_range] at hx hx'
    obtain ⟨a, _, rfl⟩ := hx
    omega
  have hsub : (((range p).filter (fun i => missing (d + i) = true)).image (d + ·)) ∪
      ((range d).filter (fun c => missing c = true)) ⊆ (range (d + p)).filter (fun i => missing i = true) := by
    intro x hx
    simp only [mem_union, mem_image, mem_filter, mem_range] at hx ⊢
    rcases hx with ⟨a, ⟨ha, hm⟩, rfl⟩ | ⟨hx, hm⟩
    · exact ⟨by omega, hm⟩
    · exact ⟨by omega, hm⟩
  have h6 := card_le_card hsub
  rw [card_union_of_disjoint hdisj] at h6
  omega

/-- the shard that feeds work row `x`: parity shard `x` at `x < m`, data shard `x - m` above -/
def src (d m x : ℕ) : ℕ := if x < m then d + x else x - m

theorem src_present {d p : ℕ} {missing : ℕ → Bool} {x : ℕ} (hx : x < ceilPow2 p + d)
    (h : x ∉ erasedSet d p missing) :
    src d (ceilPow2 p) x < d + p ∧ missing (src d (ceilPow2 p) x) = false ∧ (x < p ∨ ceilPow2 p ≤ x) := by
  rw [mem_erasedSet] at h
  unfold src
  by_cases hm : x < ceilPow2 p
  · rw [if_pos hm]
    have hxp : x < p := by omega
    exact ⟨by omega, by simpa using fun hh => h (Or.inl ⟨hxp, hh⟩), Or.inl hxp⟩
  · rw [if_neg hm]
    exact ⟨by omega, by simpa using fun hh => h (Or.inr (Or.inr ⟨by omega, hx, hh⟩)), Or.inr (by omega)⟩

/-- the shapes of the decoder for `d` data and `p` parity shards in a field of `2^k` elements -/
structure Shape (k d p t T : ℕ) : Prop where
  hm : ceilPow2 p = 2 ^ t
  hn : ceilPow2 (ceilPow2 p + d) = 2 ^ T
  hpm : p ≤ ceilPow2 p
  hmn : ceilPow2 p + d ≤ 2 ^ T
  hTk : T ≤ k

theorem Shape.le {k d p t T : ℕ} (S : Shape k d p t T) : t ≤ T :=
  (Nat.pow_le_pow_iff_right (a := 2) (by decide)).mp (by rw [← S.hm]; have := S.hmn; omega)

theorem exists_shape {k d p : ℕ} (hp64 : p ≤ 2 ^ 64) (hk64 : k ≤ 64) (hadm : ceilPow2 p + d ≤ 2 ^ k) :
    ∃ t T, Shape k d p t T := by
  obtain ⟨t, ht⟩ := RSV.Proofs.LeoSched.ceilPow2_pow2 p
  obtain ⟨T, hT⟩ := RSV.Proofs.LeoSched.ceilPow2_pow2 (ceilPow2 p + d)
  have h64 : (2 : ℕ) ^ k ≤ 2 ^ 64 := Nat.pow_le_pow_right (by decide) hk64
  have h1 := le_ceilPow2 (ceilPow2 p + d) (by omega)
  have h2 := ceilPow2_le_two_pow hadm
  rw [hT] at h1 h2
  exact ⟨t, T, ht, hT, le_ceilPow2 p hp64, h1, (Nat.pow_le_pow_iff_right (a := 2) (by decide)).mp h2⟩

end RSV.LCHDecode

