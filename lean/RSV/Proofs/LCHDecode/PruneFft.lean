import RSV.Proofs.LCHDecode.PruneGen
/-!
Soundness of the bit-field pruning of the final FFT.  `NeedSound live need t mtrunc`: for every level `1 ≤ lvl ≤ t`
and every live row `x < mtrunc`, `need lvl` answers `true` at the start of the aligned `2^lvl`-block of `x` (a
spurious `true` is harmless; level `0` is never queried).  Then the pruned transform equals the un-pruned one on
every live row (`prune_sound`), and the decoder with the pruned final transform returns what `reconstruct` returns
when `need` is sound for `reconLive`, the rows `reconstruct` reads (`reconstructPruned_eq`).
-/
namespace RSV.LCHDecode
open RSV.Model.Leo RSV.Proofs.LeoSched RSV.Proofs.LeoSchedRange RSV.Proofs.LCHSched

variable (C : Ctx)

/-- one-sided soundness of the bit field for the read set `live` -/
def NeedSound (live : Nat → Bool) (need : Nat → Nat → Bool) (t mtrunc : Nat) : Prop :=
  ∀ lvl x, 1 ≤ lvl → lvl ≤ t → x < mtrunc → live x = true → need lvl (x / 2 ^ lvl * 2 ^ lvl) = true

/-- it is enough to constrain `need` on the levels and aligned block starts the loops query -/
theorem NeedSound.of_aligned_blocks {live : Nat → Bool} {need : Nat → Nat → Bool} {t mtrunc : Nat}
    (h : ∀ lvl r x, 1 ≤ lvl → lvl ≤ t → 2 ^ lvl ∣ r → r < mtrunc → x < mtrunc → live x = true →
      x / 2 ^ lvl = r / 2 ^ lvl → need lvl r = true) :
    NeedSound live need t mtrunc := by
  intro lvl x h1 h2 hx hl
  apply h lvl _ x h1 h2 (Nat.dvd_mul_left _ _) _ hx hl
  · rw [Nat.mul_div_cancel _ (Nat.two_pow_pos lvl)]
  · exact Nat.lt_of_le_of_lt (Nat.div_mul_le_self x (2 ^ lvl)) hx

theorem NeedSound.of_blocks {live : Nat → Bool} {need : Nat → Nat → Bool} {t mtrunc : Nat}
    (h : ∀ lvl r x, live x = true → x / 2 ^ lvl = r / 2 ^ lvl → need lvl r = true) :
    NeedSound live need t mtrunc :=
  .of_aligned_blocks fun lvl r x _ _ _ _ _ => h lvl r x

theorem NeedSound.mono {live live' : Nat → Bool} {need : Nat → Nat → Bool} {t mtrunc : Nat}
    (h : NeedSound live need t mtrunc) (hl : ∀ x, live' x = true → live x = true) :
    NeedSound live' need t mtrunc :=
  fun lvl x h1 h2 h3 h4 => h lvl x h1 h2 h3 (hl x h4)

theorem prune_sound (live : Nat → Bool) (need : Nat → Nat → Bool) (shards : Array Vec) (len : Nat)
    (w : Array Vec) (mtrunc m t : Nat) (hm : m = 2 ^ t) (ht : t / 2 ≤ C.P.bits) (hmt : mtrunc ≤ m)
    (hsz : m ≤ w.size) (hs : NeedSound live need t mtrunc) (x : Nat) (hx : x < mtrunc)
    (hlive : live x = true) :
    (run C shards len w (fftLayersPruned C need mtrunc m).toList)[x]! =
      (run C shards len w (fftLayers C mtrunc m).toList)[x]! := by
  rw [run_fftLayersPruned C live need shards len w mtrunc m t hm ht hmt hsz hs x (by omega) x hx hlive rfl,
    run_fftLayers_lt C shards len w mtrunc m t hm ht hmt hsz x hx]

/-- the work rows `reconstruct` reads: erased data positions `m + i`, and erased parity positions `i < p` when
`recoverAll` (`m = ceilPow2 p`) -/
def reconLive (d p : Nat) (missing : Nat → Bool) (recoverAll : Bool) (x : Nat) : Bool :=
  if x < ceilPow2 p then recoverAll && (decide (x < p) && missing (d + x))
  else decide (x < ceilPow2 p + d) && missing (x - ceilPow2 p)

theorem reconLive_iff (d p : Nat) (missing : Nat → Bool) (recoverAll : Bool) (x : Nat) :
    reconLive d p missing recoverAll x = true ↔
      (x < ceilPow2 p ∧ recoverAll = true ∧ x < p ∧ missing (d + x) = true) ∨
      (ceilPow2 p ≤ x ∧ x < ceilPow2 p + d ∧ missing (x - ceilPow2 p) = true) := by
  unfold reconLive
  by_cases hx : x < ceilPow2 p
  · rw [if_pos hx]
    simp only [Bool.and_eq_true, decide_eq_true_eq]
    constructor
    · intro h; exact Or.inl ⟨hx, h⟩
    · rintro (h | h)
      · exact h.2
      · omega
  · rw [if_neg hx]
    simp only [Bool.and_eq_true, decide_eq_true_eq]
    constructor
    · intro h; exact Or.inr ⟨by omega, h⟩
    · rintro (h | h)
      · omega
      · exact h.2

theorem run_reconSchedPruned_row (live : Nat → Bool) (need : Nat → Nat → Bool) (sh : Array Vec) (len : Nat)
    (w : Array Vec) (d p T : Nat) (missing : Nat → Bool) (el : Array Nat)
    (hn : ceilPow2 (ceilPow2 p + d) = 2 ^ T) (hT : T / 2 ≤ C.P.bits) (hmn : ceilPow2 p + d ≤ 2 ^ T)
    (hsz : 2 ^ T ≤ w.size) (hs : NeedSound live need T (ceilPow2 p + d)) (x : Nat)
    (hx : x < ceilPow2 p + d) (hlive : live x = true) :
    (run C sh len w (reconSchedPruned C need d p missing el).toList)[x]! =
      (run C sh len w (reconSched C d p missing el).toList)[x]! := by
  rw [reconSchedPruned_toList, reconSched_toList, hn, run_append, run_append _ _ _ _ _ (fftLayers _ _ _).toList]
  exact prune_sound C live need sh len _ (ceilPow2 p + d) (2 ^ T) T rfl hT hmn
    (by simp only [size_run]; exact hsz) hs x hx hlive

theorem reconstructPruned_eq (need : Nat → Nat → Bool) (d p len : Nat) (sh : Array Vec)
    (missing : Nat → Bool) (recoverAll : Bool) (T : Nat) (hn : ceilPow2 (ceilPow2 p + d) = 2 ^ T)
    (hT : T / 2 ≤ C.P.bits) (hpm : p ≤ ceilPow2 p) (hmn : ceilPow2 p + d ≤ 2 ^ T)
    (hs : NeedSound (reconLive d p missing recoverAll) need T (ceilPow2 p + d)) :
    reconstructPruned C need d p len sh missing recoverAll = reconstruct C d p len sh missing recoverAll := by
  unfold reconstructPruned reconstruct
  simp only
  refine congrArg Array.ofFn (funext fun i => ?_)
  have hrow := run_reconSchedPruned_row C (reconLive d p missing recoverAll) need sh len
    (Array.replicate (ceilPow2 (ceilPow2 p + d)) (zeroVec len)) d p T missing (errLocs C d p missing) hn hT hmn
    (by simp [hn]) hs
  by_cases hmi : missing i.val = true
  · by_cases hid : i.val < d
    · have := hrow (ceilPow2 p + i.val) (by omega) (by
        rw [reconLive_iff, Nat.add_sub_cancel_left]
        exact Or.inr ⟨by omega, by omega, hmi⟩)
      simp only [hmi, hid, Bool.not_true, Bool.false_eq_true, if_false, if_true, this]
    · by_cases hra : recoverAll = true
      · have := hrow (i.val - d) (by omega) (by
          rw [reconLive_iff, show d + (i.val - d) = i.val by omega]
          exact Or.inl ⟨by omega, hra, by omega, hmi⟩)
        simp only [hmi, hid, hra, Bool.not_true, Bool.false_eq_true, if_false, if_true, this]
      · simp only [hmi, hid, hra, Bool.not_true, Bool.false_eq_true, if_false]
  · simp [hmi]

end RSV.LCHDecode

#print axioms RSV.LCHDecode.prune_sound
#print axioms RSV.LCHDecode.run_reconSchedPruned_row
#print axioms RSV.LCHDecode.reconstructPruned_eq
