import RSV.Proofs.LCHDecode.FwhtLayers
import RSV.Proofs.LCHDecode.FwhtMath
import RSV.Proofs.LCHBridge.Basic
import Mathlib.Data.ZMod.Basic
/-!
# `fwht` computes the Walsh–Hadamard transform modulo `2^k - 1`

`addMod`/`subMod` on representatives in `[0, modulus]` (both `0` and `modulus` stand for zero) are `+`/`-` in
`ZMod (2^k - 1)`; hence `fwht_H`: entrywise, `(fwht P data mtrunc)[x] ≡ H k data x`, entries stay `≤ modulus`.
-/
namespace RSV.LCHDecode
open RSV.Model RSV.Proofs.Leo16

variable (P : Leo.Params) {k : ℕ}

theorem addMod_cast (hk : P.bits = k) {a b : ℕ} (ha : a ≤ 2 ^ k - 1) (hb : b ≤ 2 ^ k - 1) :
    Leo.addMod P a b ≤ 2 ^ k - 1 ∧ ((Leo.addMod P a b : ℕ) : ZMod (2 ^ k - 1)) = (a : ZMod (2 ^ k - 1)) + b := by
  obtain ⟨h1, h2⟩ := LCHBridge.addMod_mod P hk ha hb
  exact ⟨h1, by rw [← Nat.cast_add, ZMod.natCast_eq_natCast_iff']; exact h2⟩

theorem subMod_cast (hk : P.bits = k) {a b : ℕ} (ha : a ≤ 2 ^ k - 1) (hb : b ≤ 2 ^ k - 1) :
    Leo.subMod P a b ≤ 2 ^ k - 1 ∧ ((Leo.subMod P a b : ℕ) : ZMod (2 ^ k - 1)) = (a : ZMod (2 ^ k - 1)) - b := by
  have hM : P.modulus = 2 ^ k - 1 := by unfold Leo.Params.modulus Leo.Params.order; rw [hk, Nat.one_shiftLeft]
  unfold Leo.subMod
  rw [hM]
  split
  · rename_i hle
    exact ⟨by omega, Nat.cast_sub hle⟩
  · refine ⟨by omega, ?_⟩
    rw [Nat.cast_sub (by omega), Nat.cast_add, ZMod.natCast_self, add_zero]

theorem wlN_cast (hk : P.bits = k) (b : ℕ) (f : ℕ → ℕ) (hf : ∀ x, f x ≤ 2 ^ k - 1) (x : ℕ) :
    wlN P b f x ≤ 2 ^ k - 1 ∧
    ((wlN P b f x : ℕ) : ZMod (2 ^ k - 1)) = wl b (fun j => ((f j : ℕ) : ZMod (2 ^ k - 1))) x := by
  unfold wlN wl
  split
  · exact subMod_cast P hk (hf _) (hf _)
  · exact addMod_cast P hk (hf _) (hf _)

theorem WN_cast (hk : P.bits = k) (f : ℕ → ℕ) (hf : ∀ x, f x ≤ 2 ^ k - 1) : ∀ n x,
    WN P n f x ≤ 2 ^ k - 1 ∧
    ((WN P n f x : ℕ) : ZMod (2 ^ k - 1)) = W n (fun j => ((f j : ℕ) : ZMod (2 ^ k - 1))) x := by
  intro n
  induction n with
  | zero => exact fun x => ⟨hf x, rfl⟩
  | succ n ih =>
    intro x
    have h := wlN_cast P hk n (WN P n f) (fun y => (ih y).1) x
    refine ⟨h.1, ?_⟩
    show ((wlN P n (WN P n f) x : ℕ) : ZMod (2 ^ k - 1)) = wl n (W n _) x
    rw [h.2]
    congr 1
    exact funext fun y => (ih y).2

theorem fwht_H (h : ℕ) (hk : P.bits = k) (hev : k = 2 * h) (data : Array ℕ) (mtrunc : ℕ)
    (hsz : data.size = 2 ^ k) (hm : mtrunc ≤ 2 ^ k) (hz : ∀ j, mtrunc ≤ j → data[j]! = 0)
    (hle : ∀ j : ℕ, data[j]! ≤ 2 ^ k - 1) :
    (Leo.fwht P data mtrunc).size = 2 ^ k ∧
    (∀ x : ℕ, (Leo.fwht P data mtrunc)[x]! ≤ 2 ^ k - 1) ∧
    ∀ x, x < 2 ^ k → (((Leo.fwht P data mtrunc)[x]! : ℕ) : ZMod (2 ^ k - 1)) =
      H k (fun j : ℕ => ((data[j]! : ℕ) : ZMod (2 ^ k - 1))) x := by
  subst hk
  obtain ⟨h1, h2⟩ := fwht_WN P h hev data mtrunc hsz hm hz
  refine ⟨h1, fun x => ?_, fun x hx => ?_⟩
  · rw [h2]; exact (WN_cast P rfl _ hle _ x).1
  · rw [h2, (WN_cast P rfl _ hle _ x).2, W_eq_H _ _ _ hx]

end RSV.LCHDecode
