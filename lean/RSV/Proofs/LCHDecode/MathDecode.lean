import RSV.Proofs.LCHDecode.MathDeriv
import RSV.Proofs.LCH.Correct

/-!
The decoding identity of the formal-derivative method.  `n = 2^T` points `ω_0 … ω_{n-1}`; a codeword
`c j = f(ω_j)` of a polynomial `f = ∑ a_j X_j` with `a_j = 0` for `j ≥ n - m`; an erasure set `E ⊆ [0, n)`, `|E| ≤ m`;
`locVal β k E i = ∏_{e ∈ E, e ≠ i} (ω_i + ω_e)` is the locator `Λ(x) = ∏_{e∈E} (x - ω_e)` at the present positions and
its formal derivative at the erased ones.  With `w j = if j ∈ E then 0 else c j * Λ_j`, `w` is the value vector of
`f·Λ` (degree `< n`), and `(f·Λ)'(ω_e) = f(ω_e)·Λ'(ω_e)` at the roots of `Λ`: `decode_identity`, `decode_recover`.
-/

namespace RSV.LCHDecode
open RSV.LCH Finset Polynomial

noncomputable section

variable {K : Type} [Field K] [CharP K 2] {β : ℕ → K} {k : ℕ}

def locVal (β : ℕ → K) (k : ℕ) (E : Finset ℕ) (i : ℕ) : K :=
  ∏ e ∈ E.erase i, (omega β k i + omega β k e)

theorem locVal_ne_zero (hβ : Indep β k) {E : Finset ℕ} (hE : ∀ e ∈ E, e < 2 ^ k) {i : ℕ}
    (hi : i < 2 ^ k) : locVal β k E i ≠ 0 := by
  unfold locVal
  rw [Finset.prod_ne_zero_iff]
  intro e he
  rw [mem_erase] at he
  rw [← CharTwo.sub_eq_add, sub_ne_zero]
  exact fun h => he.1 (hβ i hi e (hE e he.2) h).symm

/-- the error-locator polynomial `Λ = ∏_{e∈E} (X - ω_e)` -/
def locPoly (β : ℕ → K) (k : ℕ) (E : Finset ℕ) : K[X] := Lagrange.nodal E (omega β k)

theorem eval_locPoly_of_notMem {E : Finset ℕ} {i : ℕ} (hi : i ∉ E) :
    (locPoly β k E).eval (omega β k i) = locVal β k E i := by
  unfold locPoly locVal
  rw [Lagrange.eval_nodal, erase_eq_of_notMem hi]
  exact Finset.prod_congr rfl fun e _ => CharTwo.sub_eq_add _ _

omit [CharP K 2] in
theorem eval_locPoly_of_mem {E : Finset ℕ} {i : ℕ} (hi : i ∈ E) :
    (locPoly β k E).eval (omega β k i) = 0 :=
  Lagrange.eval_nodal_at_node hi

theorem eval_derivative_locPoly {E : Finset ℕ} {i : ℕ} (hi : i ∈ E) :
    (derivative (locPoly β k E)).eval (omega β k i) = locVal β k E i := by
  classical
  unfold locPoly locVal
  rw [Lagrange.eval_nodal_derivative_eval_node_eq hi, Lagrange.eval_nodal]
  exact Finset.prod_congr rfl fun e _ => CharTwo.sub_eq_add _ _

theorem Pp_ifft_eq_of_eval (hβ : Indep β k) {T : ℕ} (hT : T ≤ k) {g : K[X]} {w : ℕ → K}
    (hdeg : g.degree < ((2 ^ T : ℕ) : WithBot ℕ))
    (hev : ∀ j < 2 ^ T, g.eval (omega β k j) = w j) : g = Pp β k T (ifft β k T 0 w) := by
  have hle : 2 ^ T ≤ 2 ^ k := Nat.pow_le_pow_right (by decide) hT
  refine eq_of_degrees_lt_of_eval_index_eq (v := fun j => omega β k j) (range (2 ^ T)) ?_ ?_ ?_ ?_
  · intro x hx y hy hxy
    have hx' : x < 2 ^ T := by simpa using hx
    have hy' : y < 2 ^ T := by simpa using hy
    exact hβ x (by omega) y (by omega) hxy
  · rwa [card_range]
  · rw [card_range]; exact degree_Pp_lt β k T _
  · intro j hj
    have hj' := mem_range.mp hj
    have h := P_ifft hβ hT (dvd_zero _) w hj'
    rw [zero_add] at h
    rw [hev j hj', eval_Pp, h]

theorem decode_identity (hβ : Indep β k) (hC : Cantor β k) {T m : ℕ} (hT : T ≤ k)
    {a c : ℕ → K} (ha : ∀ j, 2 ^ T - m ≤ j → j < 2 ^ T → a j = 0)
    (hc : ∀ j < 2 ^ T, c j = P β k T a (omega β k j))
    {E : Finset ℕ} (hE : ∀ e ∈ E, e < 2 ^ T) (hcard : E.card ≤ m)
    {w : ℕ → K} (hw : ∀ j < 2 ^ T, w j = if j ∈ E then 0 else c j * locVal β k E j)
    {e : ℕ} (he : e ∈ E) :
    fft β k T 0 (derivLoop (2 ^ T) (ifft β k T 0 w)) e = c e * locVal β k E e := by
  have heT := hE e he
  set b := ifft β k T 0 w with hb
  set g : K[X] := Pp β k T a * locPoly β k E with hg
  have hdeg : g.degree < ((2 ^ T : ℕ) : WithBot ℕ) := by
    by_cases hf0 : Pp β k T a = 0
    · rw [hg, hf0, zero_mul, degree_zero]; exact WithBot.bot_lt_coe _
    · have h1 : (Pp β k T a).natDegree < 2 ^ T - m :=
        (natDegree_lt_iff_degree_lt hf0).mpr (degree_Pp_lt_of_zero_above β k ha)
      have h2 : (locPoly β k E).natDegree = E.card := Lagrange.natDegree_nodal
      have h3 : g.natDegree ≤ (Pp β k T a).natDegree + (locPoly β k E).natDegree :=
        natDegree_mul_le
      refine lt_of_le_of_lt degree_le_natDegree ?_
      exact_mod_cast (show g.natDegree < 2 ^ T by omega)
  have hev : ∀ j < 2 ^ T, g.eval (omega β k j) = w j := by
    intro j hj
    rw [hw j hj, hg, eval_mul, eval_Pp]
    by_cases hjE : j ∈ E
    · rw [if_pos hjE, eval_locPoly_of_mem hjE, mul_zero]
    · rw [if_neg hjE, eval_locPoly_of_notMem hjE, hc j hj]
  have hgb : g = Pp β k T b := Pp_ifft_eq_of_eval hβ hT hdeg hev
  have hloop : ∀ l < 2 ^ T, derivLoop (2 ^ T) b l = b l + derivCoeff T b l :=
    fun l hl => derivLoop_eq_derivCoeff b hl
  have h0 := fft_correct hβ hT (dvd_zero _) (derivLoop (2 ^ T) b) heT
  rw [zero_add] at h0
  rw [h0, P_congr β k hloop, P_add, ← eval_Pp, ← eval_Pp, ← derivative_Pp hβ hC hT, ← hgb,
    hev e heT, hw e heT, if_pos he, zero_add, hg, derivative_mul, eval_add, eval_mul, eval_mul,
    eval_locPoly_of_mem he, mul_zero, zero_add, eval_derivative_locPoly he, eval_Pp, hc e heT]

/-- the recipe: transform, differentiate, transform back, divide by `Λ'(ω_e)` -/
theorem decode_recover (hβ : Indep β k) (hC : Cantor β k) {T m : ℕ} (hT : T ≤ k)
    {a c : ℕ → K} (ha : ∀ j, 2 ^ T - m ≤ j → j < 2 ^ T → a j = 0)
    (hc : ∀ j < 2 ^ T, c j = P β k T a (omega β k j))
    {E : Finset ℕ} (hE : ∀ e ∈ E, e < 2 ^ T) (hcard : E.card ≤ m)
    {w : ℕ → K} (hw : ∀ j < 2 ^ T, w j = if j ∈ E then 0 else c j * locVal β k E j)
    {e : ℕ} (he : e ∈ E) :
    fft β k T 0 (derivLoop (2 ^ T) (ifft β k T 0 w)) e * (locVal β k E e)⁻¹ = c e := by
  have hle : 2 ^ T ≤ 2 ^ k := Nat.pow_le_pow_right (by decide) hT
  have hne : locVal β k E e ≠ 0 :=
    locVal_ne_zero hβ (fun x hx => lt_of_lt_of_le (hE x hx) hle) (lt_of_lt_of_le (hE e he) hle)
  rw [decode_identity hβ hC hT ha hc hE hcard hw he, mul_assoc, mul_inv_cancel₀ hne, mul_one]

end

end RSV.LCHDecode
