import RSV.Proofs.LCHDecode.PruneFft
import RSV.Model.LeopardPrunedBits
import RSV.Proofs.Bitfield
/-!
The word-level bit fields are sound for the rows the decoder reads.
`need8 d p missing recoverAll lvl r` (`RSV/Model/LeopardPrunedBits.lean`) is `errorBits.isNeeded(lvl, r)` of
`leopard8.go` after the `set` calls of `reconstruct` (`errorBitPositions`, `RSV/Model/LeopardPruned.lean`) and
`prepare()`, on the word-level model `BF8` of `RSV/Model/BitfieldImpl.lean`; `need16` is the same for `leopard.go`
(`BF16`).  Every row `reconstruct` reads is a position that was `set` (the padding `p … m`, set when `recoverAll`, is
never read: a harmless spurious `true`), and `isNeeded` after `prepare` is `Bitfield.needed` (`bf8_prepare` /
`bf16_prepare`), which is `true` at the start of the aligned `2^lvl`-block of a set position for every level `≥ 1`.
GF(2^16) `isNeeded` at level `0` is never queried (`NeedSound` asks for levels `≥ 1` only: the pruned loops test the
levels `t, t-2, … ≥ 2` in the radix-4 passes and `1` in the final radix-2 pass).
-/
namespace RSV.LCHDecode
open RSV.Model.Leo RSV.Proofs.LeoSched RSV.Proofs.LeoSchedRange RSV.Proofs.LCHSched
open RSV.Model.BitfieldImpl

theorem reconLive_mem (d p : Nat) (missing : Nat → Bool) (recoverAll : Bool) (x : Nat)
    (h : reconLive d p missing recoverAll x = true) : x ∈ errorBitPositions d p missing recoverAll := by
  unfold errorBitPositions
  simp only
  rcases (reconLive_iff d p missing recoverAll x).mp h with ⟨_, hra, hxp, hm⟩ | ⟨hx, hxd, hm⟩
  · apply List.mem_append_left
    apply List.mem_append_left
    rw [List.mem_filter, List.mem_range]
    exact ⟨hxp, by rw [hra, hm]; rfl⟩
  · apply List.mem_append_right
    rw [List.mem_map]
    refine ⟨x - ceilPow2 p, ?_, by omega⟩
    rw [List.mem_filter, List.mem_range]
    exact ⟨by omega, hm⟩

theorem errorBitPositions_lt (d p : Nat) (missing : Nat → Bool) (recoverAll : Bool)
    (hpm : p ≤ ceilPow2 p) (e : Nat) (he : e ∈ errorBitPositions d p missing recoverAll) :
    e < ceilPow2 p + d := by
  unfold errorBitPositions at he
  simp only [List.mem_append, List.mem_filter, List.mem_range, List.mem_range'_1, List.mem_map] at he
  rcases he with (h | h) | ⟨i, hi, rfl⟩
  · omega
  · omega
  · omega

theorem needed_of_mem (bits : Nat) (erased : List Nat) (lvl e : Nat) (hl : 1 ≤ lvl) (he : e ∈ erased) :
    RSV.Model.Bitfield.needed bits erased lvl (e / 2 ^ lvl * 2 ^ lvl) = true := by
  unfold RSV.Model.Bitfield.needed
  by_cases hb : lvl ≥ bits
  · rw [if_pos hb]
  · rw [if_neg hb, if_neg (by omega), List.any_eq_true]
    refine ⟨e, he, ?_⟩
    rw [Nat.shiftRight_eq_div_pow, Nat.shiftRight_eq_div_pow, Nat.mul_div_cancel _ (Nat.two_pow_pos lvl)]
    exact beq_self_eq_true _

theorem needSound8 (d p : Nat) (missing : Nat → Bool) (recoverAll : Bool) (T : Nat)
    (hpm : p ≤ ceilPow2 p) (hadm : ceilPow2 p + d ≤ 256) :
    NeedSound (reconLive d p missing recoverAll) (need8 d p missing recoverAll) T (ceilPow2 p + d) := by
  intro lvl x h1 _ hx hl
  have hle := Nat.div_mul_le_self x (2 ^ lvl)
  show ((BF8.ofList (errorBitPositions d p missing recoverAll)).prepare).isNeeded lvl _ = true
  rw [RSV.Proofs.Bitfield.bf8_prepare _
    (fun e he => by have := errorBitPositions_lt d p missing recoverAll hpm e he; omega) lvl _ (by omega)]
  exact needed_of_mem 8 _ lvl x h1 (reconLive_mem d p missing recoverAll x hl)

theorem needSound16 (d p : Nat) (missing : Nat → Bool) (recoverAll : Bool) (T : Nat)
    (hpm : p ≤ ceilPow2 p) (hadm : ceilPow2 p + d ≤ 65536) :
    NeedSound (reconLive d p missing recoverAll) (need16 d p missing recoverAll) T (ceilPow2 p + d) := by
  intro lvl x h1 _ hx hl
  have hle := Nat.div_mul_le_self x (2 ^ lvl)
  show ((BF16.ofList (errorBitPositions d p missing recoverAll)).prepare).isNeeded lvl _ = true
  rw [RSV.Proofs.Bitfield.bf16_prepare
    (fun e he => by have := errorBitPositions_lt d p missing recoverAll hpm e he; omega) lvl _ h1 (by omega)]
  exact needed_of_mem 16 _ lvl x h1 (reconLive_mem d p missing recoverAll x hl)

/-- GF(2^8): the decoder that runs its final FFT through the prepared `errorBitfield8` returns exactly what the
decoder with the full FFT returns — every admissible shape, every erasure set, both modes -/
theorem reconstructPruned_bf8 (d p len : Nat) (sh : Array Vec) (missing : Nat → Bool) (recoverAll : Bool)
    (hadm : ceilPow2 p + d ≤ 256) :
    reconstructPruned (mkCtx P8) (need8 d p missing recoverAll) d p len sh missing recoverAll =
      reconstruct (mkCtx P8) d p len sh missing recoverAll := by
  have hpm : p ≤ ceilPow2 p := RSV.Proofs.LeoSched.le_ceilPow2_of_lt (by omega)
  obtain ⟨t, T, S⟩ := exists_shape (k := 8) (by omega) (by decide) hadm
  have hb : (mkCtx P8).P.bits = 8 := rfl
  exact reconstructPruned_eq (mkCtx P8) _ d p len sh missing recoverAll T S.hn (by rw [hb]; have := S.hTk; omega)
    hpm S.hmn (needSound8 d p missing recoverAll T hpm hadm)

/-- GF(2^16): the same with `errorBitfield` -/
theorem reconstructPruned_bf16 (d p len : Nat) (sh : Array Vec) (missing : Nat → Bool) (recoverAll : Bool)
    (hadm : ceilPow2 p + d ≤ 65536) :
    reconstructPruned (mkCtx P16) (need16 d p missing recoverAll) d p len sh missing recoverAll =
      reconstruct (mkCtx P16) d p len sh missing recoverAll := by
  have hpm : p ≤ ceilPow2 p := RSV.Proofs.LeoSched.le_ceilPow2_of_lt (by omega)
  obtain ⟨t, T, S⟩ := exists_shape (k := 16) (by omega) (by decide) hadm
  have hb : (mkCtx P16).P.bits = 16 := rfl
  exact reconstructPruned_eq (mkCtx P16) _ d p len sh missing recoverAll T S.hn (by rw [hb]; have := S.hTk; omega)
    hpm S.hmn (needSound16 d p missing recoverAll T hpm hadm)

end RSV.LCHDecode

#print axioms RSV.LCHDecode.needSound8
#print axioms RSV.LCHDecode.needSound16
#print axioms RSV.LCHDecode.reconstructPruned_bf8
#print axioms RSV.LCHDecode.reconstructPruned_bf16
