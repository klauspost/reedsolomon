import RSV.Proofs.LCHDecode.MathDecode
import RSV.Proofs.LCH.Encode

/-!
The encoder produces Reed–Solomon codewords: the full codeword of the encoder of `RSV.LCH.Encode` (parity at
`[0, m)`, data group `g` at `[(g+1)m, (g+2)m)`, zeros up to `n`; `m = 2^t`, `n = 2^T`) has novel-basis coefficients
vanishing on `[n - m, n)` (`codeword_top_zero`), so the recipe of `MathDecode` recovers its erased symbols
(`decode_codeword`).
-/

namespace RSV.LCHDecode
open RSV.LCH Finset

noncomputable section

variable {K : Type} [Field K] [CharP K 2] (β : ℕ → K) (k : ℕ)

/-- the full codeword: parity, then the data groups, then zeros -/
def codeword (t G : ℕ) (data : ℕ → ℕ → K) : ℕ → K := fun j =>
  if j < 2 ^ t then parity β k t G data j
  else if j < (G + 1) * 2 ^ t then data (j / 2 ^ t - 1) (j % 2 ^ t) else 0

variable {β k}

omit [CharP K 2] in
/-- The last `2^t` outputs of an inverse transform of size `2^(t+d)` are the sum of the inverse transforms of the
`2^d` cosets: the upper output of every inverse butterfly is `x + y`, so each layer above `t` adds the last block of
the lower half to the last block of the upper half. -/
theorem ifft_top_block (t : ℕ) {j : ℕ} (hj : j < 2 ^ t) : ∀ (d off : ℕ) (c : ℕ → K),
    ifft β k (t + d) off c ((2 ^ d - 1) * 2 ^ t + j)
      = ∑ h ∈ range (2 ^ d), ifft β k t (off + h * 2 ^ t) (fun x => c (x + h * 2 ^ t)) j := by
  intro d
  induction d with
  | zero => intro off c; simp
  | succ d ih =>
    intro off c
    have hN : 2 ^ (t + d) = 2 ^ d * 2 ^ t := by rw [pow_add, Nat.mul_comm]
    have hd := Nat.two_pow_pos d
    have hidx : (2 ^ (d + 1) - 1) * 2 ^ t + j = ((2 ^ d - 1) * 2 ^ t + j) + 2 ^ (t + d) := by
      rw [hN, pow_succ, show 2 ^ d * 2 - 1 = (2 ^ d - 1) + 2 ^ d by omega, Nat.add_mul]; omega
    have hlt : (2 ^ d - 1) * 2 ^ t + j < 2 ^ (t + d) := by
      rw [hN, Nat.sub_mul, Nat.one_mul]
      have := Nat.le_mul_of_pos_left (2 ^ t) hd
      omega
    have hhigh : ¬ ((2 ^ d - 1) * 2 ^ t + j + 2 ^ (t + d)) % 2 ^ (t + d + 1) < 2 ^ (t + d) := by
      rw [Nat.mod_eq_of_lt (by rw [pow_succ]; omega)]; omega
    rw [show t + (d + 1) = t + d + 1 from rfl, ifft_succ, hidx, ifftLayer_high β k hhigh, Nat.add_sub_cancel,
      ifft_shift β k (dvd_refl _), ih, ih, pow_succ, Nat.mul_two, sum_range_add]
    congr 1
    refine sum_congr rfl fun h _ => ?_
    have e : (2 ^ d + h) * 2 ^ t = 2 ^ (t + d) + h * 2 ^ t := by rw [Nat.add_mul, hN]
    simp only [e, Nat.add_assoc, Nat.add_comm (h * 2 ^ t)]

/-- RS form of the encoder: the novel-basis coefficients of the codeword vanish on `[n - m, n)`,
i.e. the codeword is the evaluation vector of a polynomial of degree `< n - m`.  By `ifft_top_block` these
coefficients are the sum over the cosets of the coset interpolants: coset `0` (the parity symbols) contributes the
sum of the data interpolants, coset `g + 1` the interpolant of data group `g`, the padding nothing. -/
theorem codeword_top_zero {t T G : ℕ} (htT : t ≤ T)
    (hG : (G + 1) * 2 ^ t ≤ 2 ^ T) (data : ℕ → ℕ → K) :
    ∀ j, 2 ^ T - 2 ^ t ≤ j → j < 2 ^ T → ifft β k T 0 (codeword β k t G data) j = 0 := by
  obtain ⟨d, rfl⟩ := Nat.exists_eq_add_of_le htT
  have hm := Nat.two_pow_pos t
  have hN : 2 ^ (t + d) = 2 ^ d * 2 ^ t := by rw [pow_add, Nat.mul_comm]
  have hG' : G + 1 ≤ 2 ^ d := by rw [hN] at hG; exact Nat.le_of_mul_le_mul_right hG hm
  intro j h1 h2
  obtain ⟨j', rfl⟩ := Nat.exists_eq_add_of_le h1
  have hj' : j' < 2 ^ t := by
    have := Nat.le_mul_of_pos_left (2 ^ t) (Nat.two_pow_pos d)
    rw [hN] at h2; omega
  rw [show 2 ^ (t + d) - 2 ^ t = (2 ^ d - 1) * 2 ^ t by rw [hN, Nat.sub_mul, Nat.one_mul],
    ifft_top_block t hj', ← Nat.add_sub_of_le hG', sum_range_add, sum_range_succ']
  -- the padding
  rw [sum_eq_zero (s := range (2 ^ d - (G + 1))) fun h _ => ?pad, add_zero]
  case pad =>
    have : (fun x => codeword β k t G data (x + (G + 1 + h) * 2 ^ t)) = 0 := funext fun x => by
      unfold codeword
      have : (G + 1) * 2 ^ t ≤ (G + 1 + h) * 2 ^ t := Nat.mul_le_mul_right _ (Nat.le_add_right _ _)
      have : 2 ^ t ≤ (G + 1) * 2 ^ t := Nat.le_mul_of_pos_left _ (Nat.succ_pos G)
      rw [if_neg (by omega), if_neg (by omega)]; rfl
    rw [this, ifft_zero]; rfl
  -- coset `0`: the parity symbols
  have h0 : ifft β k t (0 + 0 * 2 ^ t) (fun x => codeword β k t G data (x + 0 * 2 ^ t)) j'
      = ∑ g ∈ range G, ifft β k t ((g + 1) * 2 ^ t) (data g) j' := by
    rw [Nat.zero_mul, Nat.add_zero,
      ifft_congr β k (g := fft β k t 0 fun idx => ∑ g ∈ range G, ifft β k t ((g + 1) * 2 ^ t) (data g) idx)
        (fun x hx => by unfold codeword; rw [Nat.add_zero, if_pos hx]; rfl) j' hj', ifft_fft]
  -- coset `g + 1`: data group `g`
  have hg : ∀ g ∈ range G, ifft β k t (0 + (g + 1) * 2 ^ t)
      (fun x => codeword β k t G data (x + (g + 1) * 2 ^ t)) j' = ifft β k t ((g + 1) * 2 ^ t) (data g) j' := by
    intro g hg
    rw [Nat.zero_add]
    refine ifft_congr β k (fun x hx => ?_) j' hj'
    have h1 : (g + 1) * 2 ^ t < (G + 1) * 2 ^ t :=
      Nat.mul_lt_mul_of_pos_right (by have := mem_range.mp hg; omega) hm
    have h2 : (g + 1 + 1) * 2 ^ t ≤ (G + 1) * 2 ^ t :=
      Nat.mul_le_mul_right _ (by have := mem_range.mp hg; omega)
    have h3 : 2 ^ t ≤ (g + 1) * 2 ^ t := Nat.le_mul_of_pos_left _ (Nat.succ_pos g)
    unfold codeword
    rw [if_neg (by omega), if_pos (by rw [Nat.add_mul, Nat.one_mul] at h2; omega),
      Nat.add_mul_div_right _ _ hm, Nat.add_mul_mod_self_right, Nat.div_eq_of_lt hx, Nat.mod_eq_of_lt hx,
      Nat.zero_add, Nat.add_sub_cancel]
  rw [sum_congr rfl hg, h0]
  exact CharTwo.add_self_eq_zero _

omit [CharP K 2] in
theorem codeword_parity {t G : ℕ} (data : ℕ → ℕ → K) {r : ℕ} (hr : r < 2 ^ t) :
    codeword β k t G data r = parity β k t G data r := by
  unfold codeword; rw [if_pos hr]

omit [CharP K 2] in
theorem codeword_data {t G : ℕ} (data : ℕ → ℕ → K) {x : ℕ} (hx : x < G * 2 ^ t) :
    codeword β k t G data (2 ^ t + x) = data (x / 2 ^ t) (x % 2 ^ t) := by
  have hm := Nat.two_pow_pos t
  unfold codeword
  rw [if_neg (by omega), if_pos (by rw [Nat.add_mul]; omega)]
  congr 1
  · rw [Nat.add_comm, Nat.add_div_right _ hm]; rfl
  · rw [Nat.add_mod_left]

omit [CharP K 2] in
theorem codeword_pad {t G : ℕ} (data : ℕ → ℕ → K) {j : ℕ} (hj : (G + 1) * 2 ^ t ≤ j) :
    codeword β k t G data j = 0 := by
  have hm := Nat.two_pow_pos t
  have : 2 ^ t ≤ (G + 1) * 2 ^ t := Nat.le_mul_of_pos_left _ (Nat.succ_pos G)
  unfold codeword
  rw [if_neg (by omega), if_neg (by omega)]

theorem codeword_eq_eval (hβ : Indep β k) {t T G : ℕ} (hT : T ≤ k) (data : ℕ → ℕ → K) {j : ℕ}
    (hj : j < 2 ^ T) :
    codeword β k t G data j
      = P β k T (ifft β k T 0 (codeword β k t G data)) (omega β k j) := by
  have := P_ifft hβ hT (dvd_zero _) (codeword β k t G data) hj
  rw [zero_add] at this
  exact this.symm

theorem decode_codeword (hβ : Indep β k) (hC : Cantor β k) {t T G : ℕ} (htT : t ≤ T) (hT : T ≤ k)
    (hG : (G + 1) * 2 ^ t ≤ 2 ^ T) (data : ℕ → ℕ → K)
    {E : Finset ℕ} (hE : ∀ e ∈ E, e < 2 ^ T) (hcard : E.card ≤ 2 ^ t)
    {w : ℕ → K} (hw : ∀ j < 2 ^ T, w j =
      if j ∈ E then 0 else codeword β k t G data j * locVal β k E j)
    {e : ℕ} (he : e ∈ E) :
    fft β k T 0 (derivLoop (2 ^ T) (ifft β k T 0 w)) e * (locVal β k E e)⁻¹
      = codeword β k t G data e :=
  decode_recover hβ hC hT (codeword_top_zero htT hG data)
    (fun _ hj => codeword_eq_eval hβ hT data hj) hE hcard hw he

end

end RSV.LCHDecode
