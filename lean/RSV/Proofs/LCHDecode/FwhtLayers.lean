import RSV.Proofs.LCHDecode.FwhtLoops
import RSV.Proofs.LCHSched.Gen
import RSV.Proofs.LCHSched.Pass
import Mathlib.Tactic.Ring
/-!
One pass of Leopard's `fwht` with distance `2^t` (radix-4 butterflies on blocks of `4·2^t`) is the two radix-2 Walsh
layers at bits `t`, `t + 1`, in `addMod`/`subMod` arithmetic.  The truncation at `mtrunc` is exact: a skipped block
holds literal zeros, and a butterfly of literal zeros yields literal zeros (`addMod 0 0 = 0`, `subMod 0 0 = 0`), so
after `n` layers the table vanishes from `rup mtrunc n` on.  Hence for `bits = 2h` and a table of `2^bits` entries
that vanishes from `mtrunc ≤ 2^bits` on, `fwht P data mtrunc` is `WN P bits` of the table (`fwht_WN`).
-/
namespace RSV.LCHDecode
open RSV.Model RSV.Proofs.Leo16

/-- radix-2 Walsh layer at bit `b`, in Leopard's arithmetic, on functions -/
def wlN (P : Leo.Params) (b : Nat) (f : Nat → Nat) (x : Nat) : Nat :=
  if x.testBit b then Leo.subMod P (f (x - 2 ^ b)) (f x) else Leo.addMod P (f x) (f (x + 2 ^ b))

/-- the first `n` layers (bits `0, …, n-1`, in this order) -/
def WN (P : Leo.Params) : Nat → (Nat → Nat) → Nat → Nat
  | 0, f => f
  | n + 1, f => wlN P n (WN P n f)

theorem wlN_false (P : Leo.Params) {b x D : Nat} (f : Nat → Nat) (hD : 2 ^ b = D) (h : x.testBit b = false) :
    wlN P b f x = Leo.addMod P (f x) (f (x + D)) := by
  unfold wlN; rw [h, hD]; rfl

theorem wlN_true (P : Leo.Params) {b x D : Nat} (f : Nat → Nat) (hD : 2 ^ b = D) (h : x.testBit b = true) :
    wlN P b f x = Leo.subMod P (f (x - D)) (f x) := by
  unfold wlN; rw [h, hD]; rfl

theorem tbits (t q i c : Nat) (hi : i < 2 ^ t) (hc : c < 4) :
    (q * (2 ^ t * 4) + i + 2 ^ t * c).testBit t = decide (c % 2 = 1) ∧
    (q * (2 ^ t * 4) + i + 2 ^ t * c).testBit (t + 1) = decide (2 ≤ c) := by
  have h : q * (2 ^ t * 4) + i + 2 ^ t * c = 2 ^ t * (4 * q + c) + i := by ring
  rw [h, Nat.testBit_two_pow_mul_add _ hi, Nat.testBit_two_pow_mul_add _ hi, if_neg (by omega),
    if_neg (by omega), Nat.sub_self, Nat.add_sub_cancel_left, Nat.testBit_succ, Nat.testBit_zero,
    Nat.testBit_zero]
  constructor
  · congr 1; apply propext; omega
  · congr 1; apply propext; omega

theorem wl2_block (P : Leo.Params) (t q i : Nat) (hi : i < 2 ^ t) (f : Nat → Nat) :
    wlN P (t + 1) (wlN P t f) (q * (2 ^ t * 4) + i) =
      wbf0 P (f (q * (2 ^ t * 4) + i)) (f (q * (2 ^ t * 4) + i + 2 ^ t)) (f (q * (2 ^ t * 4) + i + 2 ^ t * 2))
        (f (q * (2 ^ t * 4) + i + 2 ^ t * 3)) ∧
    wlN P (t + 1) (wlN P t f) (q * (2 ^ t * 4) + i + 2 ^ t) =
      wbf1 P (f (q * (2 ^ t * 4) + i)) (f (q * (2 ^ t * 4) + i + 2 ^ t)) (f (q * (2 ^ t * 4) + i + 2 ^ t * 2))
        (f (q * (2 ^ t * 4) + i + 2 ^ t * 3)) ∧
    wlN P (t + 1) (wlN P t f) (q * (2 ^ t * 4) + i + 2 ^ t * 2) =
      wbf2 P (f (q * (2 ^ t * 4) + i)) (f (q * (2 ^ t * 4) + i + 2 ^ t)) (f (q * (2 ^ t * 4) + i + 2 ^ t * 2))
        (f (q * (2 ^ t * 4) + i + 2 ^ t * 3)) ∧
    wlN P (t + 1) (wlN P t f) (q * (2 ^ t * 4) + i + 2 ^ t * 3) =
      wbf3 P (f (q * (2 ^ t * 4) + i)) (f (q * (2 ^ t * 4) + i + 2 ^ t)) (f (q * (2 ^ t * 4) + i + 2 ^ t * 2))
        (f (q * (2 ^ t * 4) + i + 2 ^ t * 3)) := by
  obtain ⟨a0, b0⟩ := tbits t q i 0 hi (by omega)
  obtain ⟨a1, b1⟩ := tbits t q i 1 hi (by omega)
  obtain ⟨a2, b2⟩ := tbits t q i 2 hi (by omega)
  obtain ⟨a3, b3⟩ := tbits t q i 3 hi (by omega)
  have hp : 2 ^ (t + 1) = 2 ^ t * 2 := Nat.pow_succ ..
  rw [Nat.mul_zero, Nat.add_zero] at a0 b0
  rw [Nat.mul_one] at a1 b1
  generalize hr : q * (2 ^ t * 4) + i = r at *
  generalize hD : 2 ^ t = D at *
  simp only [Nat.reduceMod, Nat.zero_ne_one, decide_false, decide_true, Nat.reduceLeDiff,
    Nat.one_mod, Nat.not_ofNat_le_one, Nat.le_refl] at a0 b0 a1 b1 a2 b2 a3 b3
  have e1 : r + D - D = r := Nat.add_sub_cancel ..
  have e2 : r + D * 2 + D = r + D * 3 := by omega
  have e3 : r + D * 3 - D = r + D * 2 := by omega
  have e4 : r + D * 2 - D * 2 = r := Nat.add_sub_cancel ..
  have e5 : r + D + D * 2 = r + D * 3 := by omega
  have e6 : r + D * 3 - D * 2 = r + D := by omega
  refine ⟨?_, ?_, ?_, ?_⟩
  · rw [wlN_false P _ hp b0, wlN_false P _ hD a0, wlN_false P _ hD a2, e2]; rfl
  · rw [wlN_false P _ hp b1, wlN_true P _ hD a1, e5, wlN_true P _ hD a3, e1, e3]; rfl
  · rw [wlN_true P _ hp b2, e4, wlN_false P _ hD a0, wlN_false P _ hD a2, e2]; rfl
  · rw [wlN_true P _ hp b3, e6, wlN_true P _ hD a1, wlN_true P _ hD a3, e1, e3]; rfl

theorem passArr_wl (P : Leo.Params) (t Q : Nat) (b : Array Nat) (hsz : Q * (2 ^ t * 4) ≤ b.size) (x : Nat) :
    (passArr P (2 ^ t) (2 ^ t * 4) Q b)[x]! =
      if x < Q * (2 ^ t * 4) then wlN P (t + 1) (wlN P t (fun j => b[j]!)) x else b[x]! := by
  obtain ⟨_, p1, p2⟩ := passArr_spec P (2 ^ t) b (Nat.two_pow_pos t) Q hsz
  by_cases hx : x < Q * (2 ^ t * 4)
  · rw [if_pos hx]
    rw [Nat.mul_comm _ 4] at hx
    obtain ⟨q, i, hq, hi, hc⟩ := Proofs.LCHSched.decomp Q (2 ^ t) x (Nat.two_pow_pos t) hx
    rw [Nat.mul_comm 4, Nat.mul_comm 2, Nat.mul_comm 3] at hc
    obtain ⟨w0, w1, w2, w3⟩ := wl2_block P t q i hi (fun j => b[j]!)
    obtain ⟨s0, s1, s2, s3⟩ := p1 q i hq hi
    rcases hc with rfl | rfl | rfl | rfl
    · rw [w0, s0]
    · rw [w1, s1]
    · rw [w2, s2]
    · rw [w3, s3]
  · rw [if_neg hx]
    exact p2 x (by omega)

theorem addMod_zero (P : Leo.Params) : Leo.addMod P 0 0 = 0 := by
  unfold Leo.addMod; simp

theorem subMod_zero (P : Leo.Params) : Leo.subMod P 0 0 = 0 := by
  unfold Leo.subMod; simp

theorem wlN_zero (P : Leo.Params) (b Z : Nat) (hZ : 2 ^ (b + 1) ∣ Z) (f : Nat → Nat)
    (hf : ∀ x, Z ≤ x → f x = 0) : ∀ x, Z ≤ x → wlN P b f x = 0 := by
  intro x hx
  unfold wlN
  split
  · rename_i hb
    have hle : Z ≤ x - 2 ^ b := by
      obtain ⟨z, rfl⟩ := hZ
      rw [Nat.testBit_eq_decide_div_mod_eq, decide_eq_true_eq] at hb
      have hpos := Nat.two_pow_pos b
      have h1 : 2 * z ≤ x / 2 ^ b := by
        rw [Nat.le_div_iff_mul_le hpos]
        rw [Nat.pow_succ] at hx
        calc 2 * z * 2 ^ b = 2 ^ b * 2 * z := by ring
          _ ≤ x := hx
      have h2 : 2 * z + 1 ≤ x / 2 ^ b := by omega
      have h3 := Nat.mul_le_mul_left (2 ^ b) h2
      have h4 := Nat.mul_div_le x (2 ^ b)
      rw [Nat.pow_succ]
      have : 2 ^ b * (2 * z + 1) = 2 ^ b * 2 * z + 2 ^ b := by ring
      omega
    rw [hf _ hle, hf _ hx, subMod_zero]
  · rw [hf _ hx, hf _ (by omega), addMod_zero]

/-- `m` rounded up to a multiple of `2^n` -/
def rup (m n : Nat) : Nat := (m + 2 ^ n - 1) / 2 ^ n * 2 ^ n

theorem le_rup (m n : Nat) : m ≤ rup m n :=
  Proofs.LCHSched.ceil_mul_ge m _ (Nat.two_pow_pos n)

theorem rup_dvd (m n : Nat) : 2 ^ n ∣ rup m n := ⟨_, Nat.mul_comm _ _⟩

theorem rup_least (m n y : Nat) (hy : 2 ^ n ∣ y) (hm : m ≤ y) : rup m n ≤ y :=
  Proofs.LCHSched.ceil_mul_le m _ y (Nat.two_pow_pos n) hy hm

theorem rup_mono (m : Nat) {n n' : Nat} (h : n ≤ n') : rup m n ≤ rup m n' :=
  rup_least m n _ (Nat.dvd_trans (Nat.pow_dvd_pow 2 h) (rup_dvd m n')) (le_rup m n')

theorem WN_zero (P : Leo.Params) (m : Nat) (f : Nat → Nat) (hf : ∀ x, m ≤ x → f x = 0) :
    ∀ n x, rup m n ≤ x → WN P n f x = 0 := by
  intro n
  induction n with
  | zero => exact fun x hx => hf x (Nat.le_trans (le_rup m 0) hx)
  | succ n ih =>
    exact wlN_zero P n (rup m (n + 1)) (rup_dvd m (n + 1)) (WN P n f)
      (fun x hx => ih x (Nat.le_trans (rup_mono m (Nat.le_succ n)) hx))

def frounds (P : Leo.Params) (mtrunc : Nat) (data : Array Nat) (n : Nat) : Array Nat × Nat × Nat :=
  (List.range' 0 n).foldl (fun s _ => fround P mtrunc s) (data, 1, 4)

theorem frounds_succ (P : Leo.Params) (mtrunc : Nat) (data : Array Nat) (n : Nat) :
    frounds P mtrunc data (n + 1) = fround P mtrunc (frounds P mtrunc data n) := by
  unfold frounds
  rw [List.range'_1_concat, List.foldl_append]
  simp only [List.foldl_cons, List.foldl_nil]

theorem frounds_spec (P : Leo.Params) (h : Nat) (hbits : P.bits = 2 * h) (data : Array Nat) (mtrunc : Nat)
    (hsz : data.size = 2 ^ P.bits) (hm : mtrunc ≤ 2 ^ P.bits) (hz : ∀ j, mtrunc ≤ j → data[j]! = 0) :
    ∀ n, n ≤ h → ∃ A : Array Nat, frounds P mtrunc data n = (A, 2 ^ (2 * n), 2 ^ (2 * n) * 4) ∧
      A.size = 2 ^ P.bits ∧ ∀ x, A[x]! = WN P (2 * n) (fun j => data[j]!) x := by
  intro n
  induction n with
  | zero => exact fun _ => ⟨data, rfl, hsz, fun x => rfl⟩
  | succ n ih =>
    intro hn
    obtain ⟨A, hA, hAs, hAx⟩ := ih (by omega)
    have h4 : 2 ^ (2 * n) * 4 = 2 ^ (2 * n + 2) := by rw [Nat.pow_add]
    have hdvd : 2 ^ (2 * n + 2) ∣ 2 ^ P.bits := Nat.pow_dvd_pow 2 (by omega)
    have hord : 2 ^ (2 * n) * 4 ≤ P.order := by
      unfold Leo.Params.order
      rw [Nat.one_shiftLeft, h4]
      exact Nat.le_of_dvd (Nat.two_pow_pos _) hdvd
    have hQ : (mtrunc + 2 ^ (2 * n) * 4 - 1) / (2 ^ (2 * n) * 4) * (2 ^ (2 * n) * 4) = rup mtrunc (2 * n + 2) := by
      rw [h4]; rfl
    have hfun : (fun j => A[j]!) = WN P (2 * n) (fun j => data[j]!) := funext hAx
    refine ⟨passArr P (2 ^ (2 * n)) (2 ^ (2 * n) * 4) ((mtrunc + 2 ^ (2 * n) * 4 - 1) / (2 ^ (2 * n) * 4)) A,
      ?_, ?_, fun x => ?_⟩
    · rw [frounds_succ, hA]
      unfold fround
      simp only
      rw [if_pos hord, Nat.shiftLeft_eq, show 2 * (n + 1) = 2 * n + 2 by omega, ← h4]
    · rw [(passArr_spec P (2 ^ (2 * n)) A (Nat.two_pow_pos _) _ (by
        rw [hQ, hAs]; exact rup_least _ _ _ hdvd hm)).1, hAs]
    · rw [passArr_wl P (2 * n) _ A (by rw [hQ, hAs]; exact rup_least _ _ _ hdvd hm), hQ, hfun]
      show _ = WN P (2 * n + 1 + 1) (fun j => data[j]!) x
      split
      · rfl
      · rename_i hx
        rw [hAx, WN_zero P mtrunc _ hz _ x (Nat.le_trans (rup_mono mtrunc (by omega)) (Nat.le_of_not_lt hx)),
          WN_zero P mtrunc _ hz _ x (Nat.le_of_not_lt hx)]

theorem fwht_WN (P : Leo.Params) (h : Nat) (hbits : P.bits = 2 * h) (data : Array Nat) (mtrunc : Nat)
    (hsz : data.size = 2 ^ P.bits) (hm : mtrunc ≤ 2 ^ P.bits) (hz : ∀ j, mtrunc ≤ j → data[j]! = 0) :
    (Leo.fwht P data mtrunc).size = 2 ^ P.bits ∧
    ∀ x, (Leo.fwht P data mtrunc)[x]! = WN P P.bits (fun j => data[j]!) x := by
  obtain ⟨A, hA, hAs, hAx⟩ := frounds_spec P h hbits data mtrunc hsz hm hz h (Nat.le_refl h)
  have : Leo.fwht P data mtrunc = A := by
    rw [fwht_eq, show P.bits / 2 = h by omega]
    show (frounds P mtrunc data h).1 = A
    rw [hA]
  rw [this, hbits]
  exact ⟨by rw [hAs, hbits], hAx⟩

end RSV.LCHDecode
