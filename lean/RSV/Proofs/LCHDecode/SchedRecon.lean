import RSV.Proofs.LCHSched.Encode
import RSV.Proofs.LCHDecode.Layout
/-!
The decoder schedule `reconSched` at row level: it is `loadStepsR ++ ifftLayers C 0 (m+d) n 0 1 ++ derivSteps n ++
fftLayers C (m+d) n` (`m = ceilPow2 p`, `n = ceilPow2 (m + d)`); the load phase produces `loadRows` from any work area
with at least `n` rows, the formal-derivative xor loop is `derivRows n` (a fold of `derivRowStep i`, which mirrors
`derivStep i` of `Iface.lean`), and every row `j < m + d` of the result is row `j` of
`fftRows C T 0 0 1 (derivRows n (ifftRows C T 0 0 1 (loadRows …)))`.
-/
namespace RSV.LCHDecode
open RSV.Model.Leo RSV.Proofs.LeoSched RSV.Proofs.LCHSched

variable (C : Ctx)

def parSteps (d p : Nat) (missing : Nat → Bool) (el : Array Nat) : List Step :=
  (List.range' 0 p).map fun i => if missing (d + i) then Step.clear i else Step.loadMul i (d + i) el[i]!

def dataSteps (d m : Nat) (missing : Nat → Bool) (el : Array Nat) : List Step :=
  (List.range' 0 d).map fun i =>
    if missing i then Step.clear (m + i) else Step.loadMul (m + i) i el[m + i]!

def loadStepsR (d p m n : Nat) (missing : Nat → Bool) (el : Array Nat) : List Step :=
  parSteps d p missing el ++ (List.range' p (m - p)).map Step.clear ++ dataSteps d m missing el ++
    (List.range' (m + d) (n - (m + d))).map Step.clear

/-- outer iteration `i` of the formal-derivative loop -/
def derivInner (i : Nat) : List Step :=
  (List.range' 0 (lowbit i)).map fun k => Step.xor (i - lowbit i + k) (i + k)

def derivSteps (n : Nat) : List Step := (List.range' 1 (n - 1)).flatMap derivInner

theorem reconSched_toList (d p : Nat) (missing : Nat → Bool) (el : Array Nat) :
    (reconSched C d p missing el).toList =
      loadStepsR d p (ceilPow2 p) (ceilPow2 (ceilPow2 p + d)) missing el ++
        (ifftLayers C 0 (ceilPow2 p + d) (ceilPow2 (ceilPow2 p + d)) 0 1).toList ++
        derivSteps (ceilPow2 (ceilPow2 p + d)) ++
        (fftLayers C (ceilPow2 p + d) (ceilPow2 (ceilPow2 p + d))).toList := by
  unfold reconSched
  simp only [Std.Legacy.Range.forIn_eq_forIn_range', Std.Legacy.Range.size, Nat.sub_zero,
    Nat.add_one_sub_one, Nat.div_one, forIn_push, pure_bind]
  generalize ceilPow2 (ceilPow2 p + d) = n
  generalize ceilPow2 p = m
  rw [forIn_append' _ derivInner _ (by intro i s; rfl)]
  simp [loadStepsR, parSteps, dataSteps, derivSteps, List.append_assoc]

def loadRows (sh : Array Vec) (len d p n : Nat) (missing : Nat → Bool) (el : Array Nat)
    (w : Array Vec) : Array Vec :=
  tab w.size fun x =>
    if x < n then
      if x ∈ erasedSet d p missing ∨ ceilPow2 p + d ≤ x then zeroVec len
      else mulVec C sh[src d (ceilPow2 p) x]! el[x]!
    else w[x]!

@[simp] theorem size_loadRows (sh : Array Vec) (len d p n : Nat) (missing : Nat → Bool)
    (el : Array Nat) (w : Array Vec) : (loadRows C sh len d p n missing el w).size = w.size := by
  simp [loadRows]

theorem loadRows_get (sh : Array Vec) (len d p n : Nat) (missing : Nat → Bool) (el : Array Nat)
    (w : Array Vec) (x : Nat) (hx : x < w.size) :
    (loadRows C sh len d p n missing el w)[x]! =
      if x < n then
        if x ∈ erasedSet d p missing ∨ ceilPow2 p + d ≤ x then zeroVec len
        else mulVec C sh[src d (ceilPow2 p) x]! el[x]!
      else w[x]! := tab_get _ _ x hx

/-- the four loops write the four ranges of the layout -/
theorem run_loadStepsR (sh : Array Vec) (len : Nat) (w : Array Vec) (d p n : Nat)
    (missing : Nat → Bool) (el : Array Nat) (hpm : p ≤ ceilPow2 p) (hmn : ceilPow2 p + d ≤ n) (hsz : n ≤ w.size) :
    run C sh len w (loadStepsR d p (ceilPow2 p) n missing el) = loadRows C sh len d p n missing el w := by
  apply ext! (by simp)
  intro x hx
  rw [size_run] at hx
  unfold loadStepsR parSteps dataSteps
  rw [run_append, run_append, run_append,
    run_setRows C sh len _ 0 (ceilPow2 p + d) (n - (ceilPow2 p + d)) _ (fun _ => zeroVec len)
      (fun k w' => by rw [Nat.zero_add]; rfl) (by simp only [size_run]; omega) x,
    run_setRows C sh len _ (ceilPow2 p) 0 d _
      (fun i => if missing i then zeroVec len else mulVec C sh[i]! el[ceilPow2 p + i]!)
      (fun k w' => by split <;> rfl) (by simp only [size_run]; omega) x,
    run_setRows C sh len _ 0 p (ceilPow2 p - p) _ (fun _ => zeroVec len)
      (fun k w' => by rw [Nat.zero_add]; rfl) (by simp only [size_run]; omega) x,
    run_setRows C sh len w 0 0 p _
      (fun x => if missing (d + x) then zeroVec len else mulVec C sh[d + x]! el[x]!)
      (fun k w' => by rw [Nat.zero_add]; split <;> rfl) (by omega) x,
    loadRows_get C _ _ _ _ _ _ _ _ x hx]
  unfold src
  simp only [Nat.zero_add, Nat.add_zero, Nat.sub_zero, mem_erasedSet]
  by_cases h1 : x < p
  · have hxn : x < n := by omega
    have hxm : x < ceilPow2 p := by omega
    rw [if_neg (by omega), if_neg (by omega), if_neg (by omega), if_pos ⟨Nat.zero_le _, h1⟩, if_pos hxn,
      if_pos hxm]
    by_cases h2 : missing (d + x) = true
    · rw [if_pos h2, if_pos (Or.inl (Or.inl ⟨h1, h2⟩))]
    · rw [if_neg h2, if_neg]
      rintro ((⟨_, h⟩ | h | h) | h)
      exacts [h2 h, by omega, by omega, by omega]
  by_cases h2 : x < ceilPow2 p
  · have hxn : x < n := by omega
    rw [if_neg (by omega), if_neg (by omega), if_pos (by omega), if_pos hxn,
      if_pos (Or.inl (Or.inr (Or.inl ⟨by omega, h2⟩)))]
  by_cases h3 : x < ceilPow2 p + d
  · have hxn : x < n := by omega
    rw [if_neg (by omega), if_pos (by omega), if_pos hxn, if_neg h2,
      show ceilPow2 p + (x - ceilPow2 p) = x by omega]
    by_cases h4 : missing (x - ceilPow2 p) = true
    · rw [if_pos h4, if_pos (Or.inl (Or.inr (Or.inr ⟨by omega, h3, h4⟩)))]
    · rw [if_neg h4, if_neg]
      rintro ((h | h | ⟨_, _, h⟩) | h)
      exacts [by omega, by omega, h4 h, by omega]
  by_cases h4 : x < n
  · rw [if_pos (by omega), if_pos h4, if_pos (Or.inr (by omega))]
  · rw [if_neg (by omega), if_neg (by omega), if_neg (by omega), if_neg (by omega), if_neg h4]

theorem lowbit_spec (i : Nat) (hi : 0 < i) : ∃ v, lowbit i = 2 ^ v ∧ 2 ^ v ∣ i := by
  obtain ⟨v, hv, hd⟩ := RSV.Proofs.LeoSchedRange.lowbit i hi
  refine ⟨v, ?_, hd⟩
  unfold lowbit
  rw [hv, Nat.shiftRight_eq_div_pow, Nat.pow_succ, Nat.pow_one, Nat.mul_div_cancel _ (by decide : 0 < 2)]

theorem lowbit_pos (i : Nat) (hi : 0 < i) : 0 < lowbit i := by
  obtain ⟨v, hv, _⟩ := lowbit_spec i hi
  rw [hv]; exact Nat.two_pow_pos v

theorem lowbit_le (i : Nat) (hi : 0 < i) : lowbit i ≤ i := by
  obtain ⟨v, hv, hd⟩ := lowbit_spec i hi
  rw [hv]; exact Nat.le_of_dvd hi hd

/-- the reads of iteration `i < 2^T` stay below `2^T` -/
theorem add_lowbit_le (i T : Nat) (hi : 0 < i) (hiT : i < 2 ^ T) : i + lowbit i ≤ 2 ^ T := by
  obtain ⟨v, hv, hd⟩ := lowbit_spec i hi
  rw [hv]
  have hle : 2 ^ v ≤ i := Nat.le_of_dvd hi hd
  have hvT : v ≤ T := by
    apply Nat.le_of_lt
    exact (Nat.pow_lt_pow_iff_right (a := 2) (by decide)).mp (by omega)
  obtain ⟨c, hc⟩ := hd
  obtain ⟨e, he⟩ : 2 ^ v ∣ 2 ^ T := Nat.pow_dvd_pow 2 hvT
  rw [he, hc] at hiT ⊢
  have hce : c < e := Nat.lt_of_mul_lt_mul_left hiT
  calc 2 ^ v * c + 2 ^ v = 2 ^ v * (c + 1) := (Nat.mul_succ _ _).symm
    _ ≤ 2 ^ v * e := Nat.mul_le_mul_left _ hce

/-- one outer iteration of the derivative loop on rows (mirrors `derivStep`) -/
def derivRowStep (i : Nat) (w : Array Vec) : Array Vec :=
  tab w.size fun x => if i - lowbit i ≤ x ∧ x < i then xorVec w[x]! w[x + lowbit i]! else w[x]!

/-- the derivative loop on rows (mirrors `derivLoop`) -/
def derivRows (n : Nat) (w : Array Vec) : Array Vec :=
  (List.range' 1 (n - 1)).foldl (fun w i => derivRowStep i w) w

@[simp] theorem size_derivRowStep (i : Nat) (w : Array Vec) : (derivRowStep i w).size = w.size := by
  simp [derivRowStep]

theorem derivRowStep_get (i : Nat) (w : Array Vec) (x : Nat) (hx : x < w.size) :
    (derivRowStep i w)[x]! =
      if i - lowbit i ≤ x ∧ x < i then xorVec w[x]! w[x + lowbit i]! else w[x]! := tab_get _ _ x hx

theorem size_foldl_derivRowStep (l : List Nat) (w : Array Vec) :
    (l.foldl (fun w i => derivRowStep i w) w).size = w.size := by
  induction l generalizing w with
  | nil => rfl
  | cons a l ih => rw [List.foldl_cons, ih, size_derivRowStep]

@[simp] theorem size_derivRows (n : Nat) (w : Array Vec) : (derivRows n w).size = w.size :=
  size_foldl_derivRowStep _ w

theorem run_derivInner (shards : Array Vec) (len : Nat) (w : Array Vec) (i T : Nat) (hi : 0 < i)
    (hiT : i < 2 ^ T) (hsz : 2 ^ T ≤ w.size) :
    run C shards len w (derivInner i) = derivRowStep i w := by
  have h1 := lowbit_le i hi
  have h2 := add_lowbit_le i T hi hiT
  apply ext! (by simp)
  intro x hx
  rw [size_run] at hx
  unfold derivInner
  rw [run_xorsAt C shards len w (i - lowbit i) i (lowbit i) (by omega) (by omega) x,
    derivRowStep_get i w x hx]
  by_cases hin : i - lowbit i ≤ x ∧ x < i
  · rw [if_pos (by omega), if_pos hin, show i + (x - (i - lowbit i)) = x + lowbit i by omega]
  · rw [if_neg (by omega), if_neg hin]

theorem run_derivList (shards : Array Vec) (len : Nat) (T : Nat) (l : List Nat)
    (hl : ∀ i ∈ l, 0 < i ∧ i < 2 ^ T) (w : Array Vec) (hsz : 2 ^ T ≤ w.size) :
    run C shards len w (l.flatMap derivInner) = l.foldl (fun w i => derivRowStep i w) w := by
  induction l generalizing w with
  | nil => rfl
  | cons a l ih =>
    have ha := hl a (by simp)
    rw [List.flatMap_cons, run_append, run_derivInner C shards len w a T ha.1 ha.2 hsz, List.foldl_cons,
      ih (fun i hi => hl i (by simp [hi])) _ (by rw [size_derivRowStep]; exact hsz)]

theorem run_derivSteps (shards : Array Vec) (len : Nat) (w : Array Vec) (T : Nat)
    (hsz : 2 ^ T ≤ w.size) : run C shards len w (derivSteps (2 ^ T)) = derivRows (2 ^ T) w := by
  unfold derivSteps derivRows
  apply run_derivList C shards len T _ _ w hsz
  intro i hi
  have := List.mem_range'_1.mp hi
  omega

def reconWork (sh : Array Vec) (len d p T : Nat) (missing : Nat → Bool) (el : Array Nat)
    (w : Array Vec) : Array Vec :=
  derivRows (2 ^ T) (ifftRows C T 0 0 1 (loadRows C sh len d p (2 ^ T) missing el w))

@[simp] theorem size_reconWork (sh : Array Vec) (len d p T : Nat) (missing : Nat → Bool)
    (el : Array Nat) (w : Array Vec) : (reconWork C sh len d p T missing el w).size = w.size := by
  simp [reconWork]

theorem run_reconSched (sh : Array Vec) (len : Nat) (w : Array Vec) (d p T : Nat)
    (missing : Nat → Bool) (el : Array Nat) (hn : ceilPow2 (ceilPow2 p + d) = 2 ^ T)
    (hT : T / 2 ≤ C.P.bits) (hpm : p ≤ ceilPow2 p) (hmn : ceilPow2 p + d ≤ 2 ^ T)
    (hsz : 2 ^ T ≤ w.size) :
    run C sh len w (reconSched C d p missing el).toList =
      run C sh len (reconWork C sh len d p T missing el w)
        (fftLayers C (ceilPow2 p + d) (2 ^ T)).toList := by
  rw [reconSched_toList, hn, run_append, run_append, run_append]
  congr 1
  rw [run_loadStepsR C sh len w d p (2 ^ T) missing el hpm hmn hsz,
    run_ifftLayers_trunc C sh len _ 0 (ceilPow2 p + d) (2 ^ T) 0 1 T rfl hT hmn (by simp; omega)
      (by
        intro idx h1 h2
        rw [Nat.zero_add, loadRows_get C _ _ _ _ _ _ _ _ idx (by omega), if_pos h2, if_pos (Or.inr h1)]),
    run_derivSteps C sh len _ T (by simp; omega)]
  rfl

theorem run_reconSched_row (sh : Array Vec) (len : Nat) (w : Array Vec) (d p T : Nat)
    (missing : Nat → Bool) (el : Array Nat) (hn : ceilPow2 (ceilPow2 p + d) = 2 ^ T)
    (hT : T / 2 ≤ C.P.bits) (hpm : p ≤ ceilPow2 p) (hmn : ceilPow2 p + d ≤ 2 ^ T)
    (hsz : 2 ^ T ≤ w.size) (j : Nat) (hj : j < ceilPow2 p + d) :
    (run C sh len w (reconSched C d p missing el).toList)[j]! =
      (fftRows C T 0 0 1 (reconWork C sh len d p T missing el w))[j]! := by
  rw [run_reconSched C sh len w d p T missing el hn hT hpm hmn hsz]
  exact run_fftLayers_lt C sh len _ (ceilPow2 p + d) (2 ^ T) T rfl hT hmn (by simp; omega) j hj

end RSV.LCHDecode

#print axioms RSV.LCHDecode.reconSched_toList
#print axioms RSV.LCHDecode.run_loadStepsR
#print axioms RSV.LCHDecode.run_derivSteps
#print axioms RSV.LCHDecode.run_reconSched
#print axioms RSV.LCHDecode.run_reconSched_row
