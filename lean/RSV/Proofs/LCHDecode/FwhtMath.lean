import Mathlib.Data.Nat.Bitwise
import Mathlib.Algebra.BigOperators.Ring.Finset
import Mathlib.Algebra.BigOperators.Intervals
import Mathlib.Tactic.Ring
/-!
The Walsh–Hadamard transform `H k a i = ∑_{j < 2^k} (-1)^{|i ∧ j|} · a j` over a commutative ring.  The `k` radix-2
layers compute it (`W_eq_H`); the characters are multiplicative in `^^^` and orthogonal, which gives
`H (H a) = 2^k · a` and the convolution theorem `H (H a · H b) = 2^k · (a ⊛ b)`,
`(a ⊛ b) i = ∑_{j < 2^k} a j · b (i ^^^ j)`.
-/
namespace RSV.LCHDecode
open Finset

variable {R : Type*} [CommRing R]

/-- the radix-2 Walsh layer at bit `b` -/
def wl (b : ℕ) (f : ℕ → R) (x : ℕ) : R :=
  if x.testBit b then f (x - 2 ^ b) - f x else f x + f (x + 2 ^ b)

/-- the first `n` layers (bits `0, …, n-1`, in this order) -/
def W : ℕ → (ℕ → R) → ℕ → R
  | 0, f => f
  | n + 1, f => wl n (W n f)

def sgn (p : Bool) : R := if p then -1 else 1

/-- the Walsh character `(-1)^{|i ∧ j|}`, bits below `k` -/
def chi (k i j : ℕ) : R := ∏ b ∈ range k, sgn (i.testBit b && j.testBit b)

/-- the Walsh–Hadamard transform on `2^k` points -/
def H (k : ℕ) (a : ℕ → R) (i : ℕ) : R := ∑ j ∈ range (2 ^ k), chi k i j * a j

/-- XOR-convolution -/
def xconv (k : ℕ) (a b : ℕ → R) (i : ℕ) : R := ∑ j ∈ range (2 ^ k), a j * b (i ^^^ j)

theorem chi_comm (k i j : ℕ) : (chi k i j : R) = chi k j i := by
  unfold chi; simp only [Bool.and_comm]

theorem chi_succ (k i j : ℕ) : (chi (k + 1) i j : R) = chi k i j * sgn (i.testBit k && j.testBit k) :=
  prod_range_succ _ _

theorem sgn_xor (p q r : Bool) : (sgn (p && (q ^^ r)) : R) = sgn (p && q) * sgn (p && r) := by
  cases p <;> cases q <;> cases r <;> simp [sgn]

theorem chi_xor (k i j l : ℕ) : (chi k i (j ^^^ l) : R) = chi k i j * chi k i l := by
  unfold chi
  rw [← prod_mul_distrib]
  exact prod_congr rfl fun b _ => by rw [Nat.testBit_xor, sgn_xor]

theorem chi_add_right (n i j : ℕ) : (chi n i (2 ^ n + j) : R) = chi n i j := by
  unfold chi
  exact prod_congr rfl fun b hb => by rw [Nat.testBit_two_pow_add_gt (mem_range.mp hb)]

theorem chi_add_left (n i j : ℕ) : (chi n (2 ^ n + i) j : R) = chi n i j := by
  rw [chi_comm, chi_add_right, chi_comm]

theorem chi_zero_right (k i : ℕ) : (chi k i 0 : R) = 1 := by
  unfold chi
  exact prod_eq_one fun b _ => by simp [sgn]

theorem sum_two_pow_succ {M : Type*} [AddCommMonoid M] (n : ℕ) (f : ℕ → M) :
    ∑ j ∈ range (2 ^ (n + 1)), f j = ∑ j ∈ range (2 ^ n), f j + ∑ j ∈ range (2 ^ n), f (2 ^ n + j) := by
  rw [show 2 ^ (n + 1) = 2 ^ n + 2 ^ n by rw [pow_succ]; ring, sum_range_add]

theorem W_block (a : ℕ → R) : ∀ n B i, 2 ^ n ∣ B → i < 2 ^ n →
    W n a (B + i) = ∑ j ∈ range (2 ^ n), chi n i j * a (B + j) := by
  intro n
  induction n with
  | zero =>
    intro B i _ hi
    have : i = 0 := by simpa using hi
    subst this
    simp [W, chi]
  | succ n ih =>
    intro B i hB hi
    obtain ⟨c, rfl⟩ := hB
    have hB' : 2 ^ n ∣ 2 ^ (n + 1) * c := ⟨2 * c, by rw [pow_succ]; ring⟩
    have hB'' : 2 ^ n ∣ 2 ^ (n + 1) * c + 2 ^ n := (Nat.dvd_add_right hB').mpr (dvd_refl _)
    have hBe : 2 ^ (n + 1) * c = 2 ^ n * (2 * c) := by rw [pow_succ]; ring
    rw [sum_two_pow_succ]
    show wl n (W n a) _ = _
    by_cases hlt : i < 2 ^ n
    · have hbit : (2 ^ (n + 1) * c + i).testBit n = false := by
        rw [hBe, Nat.testBit_two_pow_mul_add _ hlt, if_neg (lt_irrefl n), Nat.sub_self, Nat.testBit_zero]
        simp
      have hi0 : i.testBit n = false := Nat.testBit_lt_two_pow hlt
      unfold wl
      rw [hbit, if_neg (by simp), ih _ i hB' hlt,
        show 2 ^ (n + 1) * c + i + 2 ^ n = (2 ^ (n + 1) * c + 2 ^ n) + i by ring, ih _ i hB'' hlt]
      congr 1
      · exact sum_congr rfl fun j _ => by rw [chi_succ, hi0]; simp [sgn]
      · exact sum_congr rfl fun j _ => by rw [chi_succ, hi0, chi_add_right, add_assoc]; simp [sgn]
    · obtain ⟨i', rfl⟩ := Nat.exists_eq_add_of_le (Nat.le_of_not_lt hlt)
      have hi' : i' < 2 ^ n := by rw [pow_succ] at hi; omega
      have hbit : (2 ^ (n + 1) * c + (2 ^ n + i')).testBit n = true := by
        rw [show 2 ^ (n + 1) * c + (2 ^ n + i') = 2 ^ n * (2 * c + 1) + i' by rw [pow_succ]; ring,
          Nat.testBit_two_pow_mul_add _ hi', if_neg (lt_irrefl n), Nat.sub_self, Nat.testBit_zero]
        simp
      have hi0 : (2 ^ n + i').testBit n = true := by
        rw [Nat.testBit_two_pow_add_eq, Nat.testBit_lt_two_pow hi']; rfl
      unfold wl
      rw [hbit, if_pos rfl,
        show 2 ^ (n + 1) * c + (2 ^ n + i') - 2 ^ n = 2 ^ (n + 1) * c + i' by omega, ih _ i' hB' hi',
        show 2 ^ (n + 1) * c + (2 ^ n + i') = (2 ^ (n + 1) * c + 2 ^ n) + i' by ring, ih _ i' hB'' hi',
        sub_eq_add_neg, ← sum_neg_distrib]
      congr 1
      · exact sum_congr rfl fun j hj => by
          rw [chi_succ, chi_add_left, Nat.testBit_lt_two_pow (mem_range.mp hj)]; simp [sgn]
      · exact sum_congr rfl fun j _ => by
          rw [chi_succ, hi0, chi_add_left, chi_add_right, Nat.testBit_two_pow_add_eq,
            Nat.testBit_lt_two_pow (mem_range.mp ‹_›), add_assoc]
          simp [sgn]

theorem W_eq_H (k : ℕ) (a : ℕ → R) (x : ℕ) (hx : x < 2 ^ k) : W k a x = H k a x := by
  have := W_block a k 0 x (dvd_zero _) hx
  simp only [Nat.zero_add] at this
  exact this

theorem sum_chi_succ (k s : ℕ) :
    ∑ j ∈ range (2 ^ (k + 1)), (chi (k + 1) j s : R) =
      (∑ j ∈ range (2 ^ k), (chi k j s : R)) * (1 + sgn (s.testBit k)) := by
  rw [sum_two_pow_succ, mul_add, mul_one, sum_mul]
  congr 1
  · exact sum_congr rfl fun j hj => by
      rw [chi_succ, Nat.testBit_lt_two_pow (mem_range.mp hj)]; simp [sgn]
  · exact sum_congr rfl fun j hj => by
      rw [chi_succ, chi_add_left, Nat.testBit_two_pow_add_eq, Nat.testBit_lt_two_pow (mem_range.mp hj)]
      simp

theorem sum_chi_of_zero (k s : ℕ) (hs : ∀ b, b < k → s.testBit b = false) :
    ∑ j ∈ range (2 ^ k), (chi k j s : R) = 2 ^ k := by
  induction k with
  | zero => simp [chi]
  | succ k ih =>
    rw [sum_chi_succ, ih (fun b hb => hs b (by omega)), hs k (by omega)]
    simp only [sgn, Bool.false_eq_true, if_false]
    rw [pow_succ]; ring

theorem sum_chi_of_ne (k s : ℕ) (hs : ∃ b, b < k ∧ s.testBit b = true) :
    ∑ j ∈ range (2 ^ k), (chi k j s : R) = 0 := by
  induction k with
  | zero => obtain ⟨b, hb, _⟩ := hs; omega
  | succ k ih =>
    rw [sum_chi_succ]
    obtain ⟨b, hb, hbt⟩ := hs
    by_cases hbk : b = k
    · subst hbk; rw [hbt]; simp [sgn]
    · rw [ih ⟨b, by omega, hbt⟩, zero_mul]

theorem sum_chi (k s : ℕ) (hs : s < 2 ^ k) :
    ∑ j ∈ range (2 ^ k), (chi k j s : R) = if s = 0 then 2 ^ k else 0 := by
  split
  · rename_i h0
    exact sum_chi_of_zero k s fun b _ => by rw [h0, Nat.zero_testBit]
  · rename_i h0
    apply sum_chi_of_ne
    by_contra hcon
    apply h0
    apply Nat.zero_of_testBit_eq_false
    intro b
    by_cases hb : b < k
    · by_contra hne
      exact hcon ⟨b, hb, by simpa using hne⟩
    · exact Nat.testBit_lt_two_pow (lt_of_lt_of_le hs (Nat.pow_le_pow_right (by decide) (by omega)))

theorem H_H (k : ℕ) (a : ℕ → R) (i : ℕ) (hi : i < 2 ^ k) : H k (H k a) i = 2 ^ k * a i := by
  unfold H
  have h1 : ∀ j, (chi k i j : R) * ∑ l ∈ range (2 ^ k), chi k j l * a l =
      ∑ l ∈ range (2 ^ k), a l * chi k j (i ^^^ l) := by
    intro j
    rw [mul_sum]
    refine sum_congr rfl fun l _ => ?_
    rw [chi_xor, chi_comm k i j]
    ring
  rw [sum_congr rfl fun j _ => h1 j, sum_comm, sum_eq_single i]
  · rw [← mul_sum, Nat.xor_self, sum_chi k 0 (Nat.two_pow_pos k), if_pos rfl]
    ring
  · intro l hl hne
    rw [← mul_sum, sum_chi k _ (Nat.xor_lt_two_pow hi (mem_range.mp hl)), if_neg, mul_zero]
    intro h0
    exact hne (Nat.xor_eq_zero_iff.mp h0).symm
  · intro hnot
    exact absurd (mem_range.mpr hi) hnot

theorem H_mul_H (k : ℕ) (a b : ℕ → R) (i : ℕ) (hi : i < 2 ^ k) :
    H k (fun j => H k a j * H k b j) i = 2 ^ k * xconv k a b i := by
  unfold H xconv
  have h1 : ∀ j, (chi k i j : R) * ((∑ l ∈ range (2 ^ k), chi k j l * a l) * ∑ m ∈ range (2 ^ k), chi k j m * b m) =
      ∑ l ∈ range (2 ^ k), ∑ m ∈ range (2 ^ k), a l * b m * chi k j (i ^^^ l ^^^ m) := by
    intro j
    rw [sum_mul_sum, mul_sum]
    refine sum_congr rfl fun l _ => ?_
    rw [mul_sum]
    refine sum_congr rfl fun m _ => ?_
    rw [chi_xor, chi_xor, chi_comm k i j]
    ring
  rw [sum_congr rfl fun j _ => h1 j, sum_comm, mul_sum]
  refine sum_congr rfl fun l hl => ?_
  rw [sum_comm]
  have hil : i ^^^ l < 2 ^ k := Nat.xor_lt_two_pow hi (mem_range.mp hl)
  rw [sum_eq_single (i ^^^ l)]
  · rw [← mul_sum, Nat.xor_self, sum_chi k 0 (Nat.two_pow_pos k), if_pos rfl]
    ring
  · intro m hm hne
    rw [← mul_sum, sum_chi k _ (Nat.xor_lt_two_pow hil (mem_range.mp hm)), if_neg, mul_zero]
    intro h0
    exact hne (Nat.xor_eq_zero_iff.mp h0).symm
  · intro hnot
    exact absurd (mem_range.mpr hil) hnot

end RSV.LCHDecode
