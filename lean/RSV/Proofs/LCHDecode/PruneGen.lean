import RSV.Model.LeopardPruned
import RSV.Proofs.LCHDecode.SchedRecon
/-!
The decoder schedule with the pruned final transform has the same prefix as `reconSched_toList`.
-/
namespace RSV.LCHDecode
open RSV.Model.Leo RSV.Proofs.LeoSched RSV.Proofs.LeoSchedRange RSV.Proofs.LCHSched

variable (C : Ctx)

theorem reconSchedPruned_toList (need : Nat → Nat → Bool) (d p : Nat) (missing : Nat → Bool)
    (el : Array Nat) :
    (reconSchedPruned C need d p missing el).toList =
      loadStepsR d p (ceilPow2 p) (ceilPow2 (ceilPow2 p + d)) missing el ++
        (ifftLayers C 0 (ceilPow2 p + d) (ceilPow2 (ceilPow2 p + d)) 0 1).toList ++
        derivSteps (ceilPow2 (ceilPow2 p + d)) ++
        (fftLayersPruned C need (ceilPow2 p + d) (ceilPow2 (ceilPow2 p + d))).toList := by
  unfold reconSchedPruned
  simp only [Std.Legacy.Range.forIn_eq_forIn_range', Std.Legacy.Range.size, Nat.sub_zero,
    Nat.add_one_sub_one, Nat.div_one, forIn_push, pure_bind]
  generalize ceilPow2 (ceilPow2 p + d) = n
  generalize ceilPow2 p = m
  rw [forIn_append' _ derivInner _ (by intro i s; rfl)]
  simp [loadStepsR, parSteps, dataSteps, derivSteps, List.append_assoc]

end RSV.LCHDecode

#print axioms RSV.LCHDecode.reconSchedPruned_toList
