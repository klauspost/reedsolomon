import RSV.Proofs.LCHDecode.Iface
import RSV.Proofs.LCH.Poly
import RSV.Proofs.LCH.Transform
import Mathlib.Algebra.Polynomial.Derivative

/-!
Consequences of a Cantor basis (`W_i(β_i) = 1` for `i < k`) for the Lin–Chung–Han novel basis.  The normalisation
is trivial and the recurrence `W_{i+1} = W_i² + W_i(β_i)·W_i` becomes `W_{i+1} = W_i² + W_i`, so in characteristic 2
every `W_i` has formal derivative `1`; by the product rule `X_j' = ∑_{bit i of j set} X_{j - 2^i}`, and collecting
coefficients gives `(∑_{j<2^T} a_j X_j)' = ∑_{l<2^T} (derivCoeff T a l) X_l`.  The same recurrence makes `Cantor`
checkable by iterating `x ↦ x² + x` (`cantor_iff_iterate`).
-/

namespace RSV.LCHDecode
open RSV.LCH Finset Polynomial

theorem testBit_false_iff (l i : ℕ) : l.testBit i = false ↔ l % 2 ^ (i + 1) < 2 ^ i := by
  rw [Nat.testBit_eq_decide_div_mod_eq, decide_eq_false_iff_not, Nat.mod_pow_succ]
  have := Nat.mod_lt l (Nat.two_pow_pos i)
  rcases Nat.mod_two_eq_zero_or_one (l / 2 ^ i) with h | h <;> rw [h] <;> omega

theorem add_two_pow_lt {l i T : ℕ} (hl : l < 2 ^ T) (hi : i < T) (hb : l.testBit i = false) :
    l + 2 ^ i < 2 ^ T := by
  rw [testBit_false_iff] at hb
  obtain ⟨e, rfl⟩ := Nat.exists_eq_add_of_lt hi
  have h1 := Nat.div_add_mod l (2 ^ (i + 1))
  have h2 : 2 ^ (i + e + 1) = 2 ^ (i + 1) * 2 ^ e := by rw [← pow_add]; congr 1; omega
  have h3 : l / 2 ^ (i + 1) < 2 ^ e := by
    rw [Nat.div_lt_iff_lt_mul (Nat.two_pow_pos _), Nat.mul_comm, ← h2]; exact hl
  have h4 : 2 ^ (i + 1) * (l / 2 ^ (i + 1) + 1) ≤ 2 ^ (i + 1) * 2 ^ e :=
    Nat.mul_le_mul_left _ h3
  have h5 : 2 ^ (i + 1) = 2 * 2 ^ i := pow_succ' 2 i
  rw [h2]
  rw [Nat.mul_add, Nat.mul_one] at h4
  omega

theorem testBit_add_two_pow {l i : ℕ} (hb : l.testBit i = false) (b : ℕ) :
    (l + 2 ^ i).testBit b = (l.testBit b || decide (b = i)) := by
  have h0 : l + 2 ^ i = 2 ^ i * (l / 2 ^ i + 1) + l % 2 ^ i := by
    have := Nat.div_add_mod l (2 ^ i); rw [Nat.mul_add, Nat.mul_one]; omega
  have h1 : l = 2 ^ i * (l / 2 ^ i) + l % 2 ^ i := (Nat.div_add_mod l (2 ^ i)).symm
  have hm := Nat.mod_lt l (Nat.two_pow_pos i)
  have heven : l / 2 ^ i % 2 = 0 := by
    rw [Nat.testBit_eq_decide_div_mod_eq, decide_eq_false_iff_not] at hb; omega
  rw [h0, Nat.testBit_two_pow_mul_add _ hm]
  conv_rhs => rw [h1, Nat.testBit_two_pow_mul_add _ hm]
  by_cases hbi : b < i
  · simp [hbi, Nat.ne_of_lt hbi]
  · obtain ⟨d, rfl⟩ := Nat.exists_eq_add_of_le (Nat.le_of_not_lt hbi)
    simp only [hbi, if_false, Nat.add_sub_cancel_left]
    obtain ⟨c, hc⟩ : ∃ c, l / 2 ^ i = 2 * c := ⟨l / 2 ^ i / 2, by omega⟩
    rw [hc]
    cases d with
    | zero => simp [Nat.testBit_zero]
    | succ d =>
      have : i + (d + 1) ≠ i := by omega
      simp only [this, decide_false, Bool.or_false]
      rw [Nat.testBit_succ, Nat.testBit_succ]
      congr 1
      omega

theorem testBit_sub_two_pow {j i : ℕ} (hb : j.testBit i = true) (b : ℕ) :
    (j - 2 ^ i).testBit b = (j.testBit b && !decide (b = i)) := by
  have hge : 2 ^ i ≤ j := Nat.ge_two_pow_of_testBit hb
  have hclear : (j - 2 ^ i).testBit i = false := by
    rw [testBit_false_iff]
    have h1 : ¬ j % 2 ^ (i + 1) < 2 ^ i := by
      rw [← testBit_false_iff]; simp [hb]
    exact blk_high_lt h1
  have h := testBit_add_two_pow hclear b
  rw [Nat.sub_add_cancel hge] at h
  by_cases hbi : b = i
  · subst hbi; simp [hclear]
  · simpa [hbi] using h.symm

noncomputable section

variable {K : Type} [Field K] [CharP K 2] {β : ℕ → K} {k : ℕ}

omit [CharP K 2] in
theorem What_eq_W (hC : Cantor β k) {i : ℕ} (hi : i < k) (x : K) :
    What β k i x = W β k i x := by
  unfold What; rw [hC i hi, div_one]

omit [CharP K 2] in
theorem Whatp_eq_Wp (hC : Cantor β k) {i : ℕ} (hi : i < k) : Whatp β k i = Wp β k i := by
  unfold Whatp; rw [hC i hi, inv_one, C_1, one_mul]

theorem Wp_succ (hβ : Indep β k) {i : ℕ} (hi : i < k) :
    Wp β k (i + 1) = Wp β k i ^ 2 + C (W β k i (β i)) * Wp β k i := by
  classical
  have hpos := Nat.two_pow_pos i
  have hm2 : (Wp β k i ^ 2).Monic := (Wp_monic β k i).pow 2
  have hd2 : (Wp β k i ^ 2).natDegree = 2 ^ (i + 1) := by
    rw [(Wp_monic β k i).natDegree_pow, natDegree_Wp, pow_succ']
  have hlt : (C (W β k i (β i)) * Wp β k i).degree < (Wp β k i ^ 2).degree := by
    apply degree_lt_degree
    rw [hd2]
    exact lt_of_le_of_lt ((natDegree_C_mul_le _ _).trans (natDegree_Wp β k i).le)
      (by rw [pow_succ]; omega)
  have hmon := hm2.add_of_left hlt
  have hdeg : (Wp β k i ^ 2 + C (W β k i (β i)) * Wp β k i).natDegree = 2 ^ (i + 1) := by
    rw [natDegree_add_eq_left_of_degree_lt hlt, hd2]
  have hle : 2 ^ (i + 1) ≤ 2 ^ k := Nat.pow_le_pow_right (by decide) hi
  refine eq_of_degree_le_of_eval_index_eq (v := fun j => omega β k j) (range (2 ^ (i + 1)))
    ?_ ?_ ?_ ?_ ?_
  · intro a ha b hb hab
    have ha' : a < 2 ^ (i + 1) := by simpa using ha
    have hb' : b < 2 ^ (i + 1) := by simpa using hb
    exact hβ a (by omega) b (by omega) hab
  · rw [degree_eq_natDegree (Wp_monic β k (i + 1)).ne_zero, natDegree_Wp, card_range]
  · rw [degree_eq_natDegree (Wp_monic β k (i + 1)).ne_zero, degree_eq_natDegree hmon.ne_zero,
      natDegree_Wp, hdeg]
  · rw [(Wp_monic β k (i + 1)).leadingCoeff, hmon.leadingCoeff]
  · intro j _
    simp only [eval_add, eval_pow, eval_mul, eval_C, eval_Wp]
    exact W_succ' β k hi _

theorem derivative_Wp (hβ : Indep β k) (hC : Cantor β k) {i : ℕ} (hi : i ≤ k) :
    derivative (Wp β k i) = 1 := by
  induction i with
  | zero => simp [Wp]
  | succ i ih =>
    have hik : i < k := hi
    have h2 : (2 : K) = 0 := CharTwo.two_eq_zero
    rw [Wp_succ hβ hik, hC i hik, C_1, one_mul, derivative_add, derivative_pow,
      ih (le_of_lt hik)]
    simp [h2]

theorem derivative_Whatp (hβ : Indep β k) (hC : Cantor β k) {i : ℕ} (hi : i < k) :
    derivative (Whatp β k i) = 1 := by
  rw [Whatp_eq_Wp hC hi, derivative_Wp hβ hC (le_of_lt hi)]

theorem derivative_Xp (hβ : Indep β k) (hC : Cantor β k) (j : ℕ) :
    derivative (Xp β k j) = ∑ i ∈ range k, if j.testBit i then Xp β k (j - 2 ^ i) else 0 := by
  classical
  unfold Xp
  rw [derivative_prod_finset]
  refine Finset.sum_congr rfl fun i hi => ?_
  have hik := mem_range.mp hi
  by_cases hb : j.testBit i = true
  · rw [if_pos hb, if_pos hb, derivative_Whatp hβ hC hik, mul_one,
      ← Finset.mul_prod_erase (range k) _ hi, testBit_sub_two_pow hb]
    simp only [decide_true, Bool.not_true, Bool.and_false, Bool.false_eq_true, if_false, one_mul]
    refine Finset.prod_congr rfl fun b hb' => ?_
    rw [testBit_sub_two_pow hb]
    simp [(mem_erase.mp hb').1]
  · rw [if_neg hb, if_neg hb, derivative_one, mul_zero]

/-- the coefficient vector of the formal derivative in the novel basis -/
def derivCoeff (T : ℕ) (a : ℕ → K) (l : ℕ) : K :=
  ∑ i ∈ range T, if l.testBit i then 0 else a (l + 2 ^ i)

omit [CharP K 2] in
theorem derivCoeff_congr {T : ℕ} {a a' : ℕ → K} (h : ∀ j < 2 ^ T, a j = a' j) {l : ℕ}
    (hl : l < 2 ^ T) : derivCoeff T a l = derivCoeff T a' l := by
  unfold derivCoeff
  refine Finset.sum_congr rfl fun i hi => ?_
  by_cases hb : l.testBit i = true
  · rw [if_pos hb, if_pos hb]
  · rw [if_neg hb, if_neg hb, h _ (add_two_pow_lt hl (mem_range.mp hi) (by simpa using hb))]

theorem derivative_Pp (hβ : Indep β k) (hC : Cantor β k) {T : ℕ} (hT : T ≤ k) (a : ℕ → K) :
    derivative (Pp β k T a) = Pp β k T (derivCoeff T a) := by
  classical
  unfold Pp
  rw [derivative_sum]
  have hL : ∀ j ∈ range (2 ^ T), derivative (C (a j) * Xp β k j)
      = ∑ i ∈ range T, if j.testBit i = true then C (a j) * Xp β k (j - 2 ^ i) else 0 := by
    intro j hj
    have hj' := mem_range.mp hj
    rw [derivative_C_mul, derivative_Xp hβ hC, Finset.mul_sum,
      ← Finset.sum_subset (range_subset_range.mpr hT)]
    · refine Finset.sum_congr rfl fun i _ => ?_
      split <;> simp
    · intro i hi hni
      have hTi : T ≤ i := by simpa using hni
      have : j.testBit i = false :=
        Nat.testBit_lt_two_pow (lt_of_lt_of_le hj' (Nat.pow_le_pow_right (by decide) hTi))
      simp [this]
  have hR : ∀ l ∈ range (2 ^ T), C (derivCoeff T a l) * Xp β k l
      = ∑ i ∈ range T, if l.testBit i = false then C (a (l + 2 ^ i)) * Xp β k l else 0 := by
    intro l _
    unfold derivCoeff
    rw [map_sum, Finset.sum_mul]
    refine Finset.sum_congr rfl fun i _ => ?_
    cases l.testBit i <;> simp
  rw [Finset.sum_congr rfl hL, Finset.sum_congr rfl hR, Finset.sum_comm,
    Finset.sum_comm (s := range (2 ^ T))]
  refine Finset.sum_congr rfl fun i hi => ?_
  have hiT := mem_range.mp hi
  rw [← Finset.sum_filter, ← Finset.sum_filter]
  refine Finset.sum_nbij' (fun j => j - 2 ^ i) (fun l => l + 2 ^ i) ?_ ?_ ?_ ?_ ?_
  · intro j hj
    rw [mem_filter, mem_range] at hj ⊢
    refine ⟨lt_of_le_of_lt (Nat.sub_le _ _) hj.1, ?_⟩
    rw [testBit_sub_two_pow hj.2]; simp
  · intro l hl
    rw [mem_filter, mem_range] at hl ⊢
    refine ⟨add_two_pow_lt hl.1 hiT hl.2, ?_⟩
    rw [testBit_add_two_pow hl.2]; simp
  · intro j hj
    rw [mem_filter] at hj
    exact Nat.sub_add_cancel (Nat.ge_two_pow_of_testBit hj.2)
  · intro l _
    exact Nat.add_sub_cancel ..
  · intro j hj
    rw [mem_filter] at hj
    show _ = C (a (j - 2 ^ i + 2 ^ i)) * _
    rw [Nat.sub_add_cancel (Nat.ge_two_pow_of_testBit hj.2)]

theorem W_eq_iterate {i : ℕ} (hi : i ≤ k) (h : ∀ j < i, W β k j (β j) = 1) (x : K) :
    W β k i x = (fun y : K => y ^ 2 + y)^[i] x := by
  induction i with
  | zero => simp
  | succ i ih =>
    have hik : i < k := hi
    rw [Function.iterate_succ_apply', ← ih (le_of_lt hik) (fun j hj => h j (Nat.lt_succ_of_lt hj)),
      W_succ' β k hik, h i (Nat.lt_succ_self i), one_mul]

theorem cantor_iff_iterate :
    Cantor β k ↔ ∀ i, i < k → (fun y : K => y ^ 2 + y)^[i] (β i) = 1 := by
  constructor
  · intro hC i hi
    rw [← W_eq_iterate (le_of_lt hi) (fun j hj => hC j (lt_trans hj hi))]
    exact hC i hi
  · intro h i
    induction i using Nat.strong_induction_on with
    | _ i ih =>
      intro hi
      rw [W_eq_iterate (le_of_lt hi) (fun j hj => ih j hj (lt_trans hj hi))]
      exact h i hi

end

end RSV.LCHDecode
