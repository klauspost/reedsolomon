import RSV.Proofs.LCHDecode.FwhtErrLocs
import RSV.Proofs.LCHBridge.Instances
/-!
# The error-locator tables of Leopard's two contexts

`errLocs_ok8` / `errLocs_ok16`: for every decoder layout that fits the field (`ceilPow2 p + d ≤ 2^8` / `2^16`) and every
erasure pattern, `errLocs (mkCtx P8)` / `errLocs (mkCtx P16)` is the table of logarithms of
`∏_{j ∈ E, j ≠ i} (φ i + φ j)`.  No table is evaluated.
-/
namespace RSV.LCHDecode
open RSV.Model RSV.Model.Leo RSV.LCHBridge

theorem mkCtx_walsh (P : Params) :
    (mkCtx P).S.walsh = (initFFTSkew (mkCtx P).P (mkCtx P).T).walsh := rfl

theorem errLocs_ok8 (d p : ℕ) (missing : ℕ → Bool) (hdp : ceilPow2 p + d ≤ 256) :
    ElOK F8 (erasedSet d p missing) (errLocs (mkCtx P8) d p missing) :=
  errLocs_ok F8 (mkCtx_walsh P8) (by decide) d p missing hdp
    (RSV.Proofs.LeoSched.le_ceilPow2_of_lt (by omega))

theorem errLocs_ok16 (d p : ℕ) (missing : ℕ → Bool) (hdp : ceilPow2 p + d ≤ 65536) :
    ElOK F16 (erasedSet d p missing) (errLocs (mkCtx P16) d p missing) :=
  errLocs_ok F16 (mkCtx_walsh P16) (by decide) d p missing hdp
    (RSV.Proofs.LeoSched.le_ceilPow2_of_lt (by omega))

end RSV.LCHDecode

#print axioms RSV.LCHDecode.fwht_WN
#print axioms RSV.LCHDecode.H_mul_H
#print axioms RSV.LCHDecode.W_eq_H
#print axioms RSV.LCHDecode.fwht_H
#print axioms RSV.LCHDecode.errLocs_ok
#print axioms RSV.LCHDecode.errLocs_ok8
#print axioms RSV.LCHDecode.errLocs_ok16
