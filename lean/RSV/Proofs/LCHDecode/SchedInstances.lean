import RSV.Proofs.LCHDecode.SchedThm
import RSV.Proofs.LCHDecode.FwhtInstances
/-!
Leopard's `reconstruct` is correct for GF(2^8) and GF(2^16): `cantor8`, `cantor16` (Leopard's bases are Cantor bases, by
`cantor_iff_iterate`: `k` short iterations of `y ↦ y² + y`, evaluated on the core carriers), and `SkewOK`
(`skewOK8/16`), `Cantor`, `ElOK` (`errLocs_ok8/16`) plugged into `reconstruct_correct`.
-/
namespace RSV.LCHDecode
open RSV RSV.Model.Leo RSV.LCHBridge RSV.Proofs.LeoSched

/-- `y ↦ y² + y` on the core carrier of `GF256` -/
def sq8 (v : ℕ) : ℕ := gmul v v ^^^ v

theorem iterate_sq8 (i : ℕ) (a : GF256) :
    ((fun y : GF256 => y ^ 2 + y)^[i] a).val = sq8^[i] a.val :=
  (Function.Semiconj.iterate_right (f := GF256.val) (fun y => by rw [pow_two]; rfl) i).eq a

theorem sq8_basis : ∀ i, i < 8 → sq8^[i] (RSV.Proofs.LeoField.cm (2 ^ i)) = 1 := by decide +kernel

theorem cantor8 : Cantor (beta F8) 8 := by
  apply cantor_iff_iterate.mpr
  intro i hi
  apply GF256.ext
  rw [iterate_sq8]
  show sq8^[i] (RSV.Proofs.LeoField.toGF (2 ^ i)).val = 1
  rw [RSV.Proofs.LeoField.toGF_val]
  exact sq8_basis i hi

/-- `y ↦ y² + y` on the core carrier of `GF65536` -/
def sq16 (v : ℕ) : ℕ := gmul16 v v ^^^ v

theorem iterate_sq16 (i : ℕ) (a : GF65536) :
    ((fun y : GF65536 => y ^ 2 + y)^[i] a).val = sq16^[i] a.val :=
  (Function.Semiconj.iterate_right (f := GF65536.val) (fun y => by rw [pow_two]; rfl) i).eq a

theorem sq16_basis : ∀ i, i < 16 → sq16^[i] (RSV.Proofs.Leo16.cm16 (2 ^ i)) = 1 := by decide +kernel

theorem cantor16 : Cantor (beta F16) 16 := by
  apply cantor_iff_iterate.mpr
  intro i hi
  apply GF65536.ext
  rw [iterate_sq16]
  exact sq16_basis i hi

section
variable {d p len : ℕ} {data sh : Array Vec} {missing : ℕ → Bool}

/-- GF(2^8): `reconstruct` returns `some` exactly at the missing data indices (and the missing parity indices when
`recoverAll`), and what it returns is the original shard -/
theorem reconstruct_correct8 (hd : 0 < d) (hp64 : p ≤ 2 ^ 64) (hadm : ceilPow2 p + d ≤ 256)
    (hdsz : data.size = d) (hwd : WF len data) (hbd : SymsBelow 256 data)
    (hmiss : ((Finset.range (d + p)).filter (fun i => missing i)).card ≤ p)
    (hshd : ∀ i, i < d → missing i = false → sh[i]! = data[i]!)
    (hshp : ∀ r, r < p → missing (d + r) = false → sh[d + r]! = (encode (mkCtx P8) d p len data)[r]!)
    (recoverAll : Bool) (i : ℕ) (hi : i < d + p) :
    (reconstruct (mkCtx P8) d p len sh missing recoverAll)[i]! =
      if missing i = true ∧ (i < d ∨ recoverAll = true) then
        some (if i < d then data[i]! else (encode (mkCtx P8) d p len data)[i - d]!)
      else none :=
  reconstruct_correct (F := F8) skewOK8 cantor8 hd hp64 (by decide) hadm hdsz hwd hbd hmiss hshd hshp
    recoverAll (errLocs_ok8 d p missing hadm) i hi

theorem reconstruct_correct16 (hd : 0 < d) (hp64 : p ≤ 2 ^ 64) (hadm : ceilPow2 p + d ≤ 65536)
    (hdsz : data.size = d) (hwd : WF len data) (hbd : SymsBelow 65536 data)
    (hmiss : ((Finset.range (d + p)).filter (fun i => missing i)).card ≤ p)
    (hshd : ∀ i, i < d → missing i = false → sh[i]! = data[i]!)
    (hshp : ∀ r, r < p → missing (d + r) = false → sh[d + r]! = (encode (mkCtx P16) d p len data)[r]!)
    (recoverAll : Bool) (i : ℕ) (hi : i < d + p) :
    (reconstruct (mkCtx P16) d p len sh missing recoverAll)[i]! =
      if missing i = true ∧ (i < d ∨ recoverAll = true) then
        some (if i < d then data[i]! else (encode (mkCtx P16) d p len data)[i - d]!)
      else none :=
  reconstruct_correct (F := F16) skewOK16 cantor16 hd hp64 (by decide) hadm hdsz hwd hbd hmiss hshd hshp
    recoverAll (errLocs_ok16 d p missing hadm) i hi

end

end RSV.LCHDecode

#print axioms RSV.LCHDecode.cantor8
#print axioms RSV.LCHDecode.cantor16
#print axioms RSV.LCHDecode.reconstruct_correct8
#print axioms RSV.LCHDecode.reconstruct_correct16
