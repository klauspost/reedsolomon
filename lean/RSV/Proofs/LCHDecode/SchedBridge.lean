import RSV.Proofs.LCHDecode.SchedRecon
import RSV.Proofs.LCHBridge.Layers
/-!
The decoder schedule, read symbol-wise through a field reading `F : FieldCtx C K`, is `fft ∘ derivLoop ∘ ifft` of
the scaled received word (`recon_row`).  `RowOK` says that a row is well-formed, bounded and reads as a given
function of the symbol position; `Reads` says it of the first `n` rows of a work area.  Each phase of the decoder
(load, inverse transform, derivative loop, forward transform) maps `Reads` to `Reads`.
-/
namespace RSV.LCHDecode
open RSV.Model.Leo RSV.LCH RSV.LCHBridge RSV.Proofs.LeoSched RSV.Proofs.LCHSched

variable {C : Ctx} {K : Type} [Field K] {F : FieldCtx C K}

structure RowOK (F : FieldCtx C K) (len : ℕ) (v : Vec) (g : ℕ → K) : Prop where
  size : v.size = len
  below : VecBelow (2 ^ F.k) v
  rd : ∀ s, s < len → F.φ v[s]! = g s

theorem RowOK.zero (len : ℕ) : RowOK F len (zeroVec len) fun _ => 0 :=
  ⟨size_zeroVec len, vecBelow_zeroVec (Nat.two_pow_pos _) len, fun s _ => φ_zeroVec F len s⟩

theorem RowOK.xor {len : ℕ} {x y : Vec} {gx gy : ℕ → K} (hx : RowOK F len x gx) (hy : RowOK F len y gy) :
    RowOK F len (xorVec x y) fun s => gx s + gy s :=
  ⟨by rw [size_xorVec, hx.size], vecBelow_xorVec (mulLinearOn_of_fieldCtx F) hx.below hy.below, fun s hs => by
    rw [φ_xorVec F (by rw [hx.size]; exact hs) hx.below hy.below, hx.rd s hs, hy.rd s hs]⟩

theorem RowOK.mul {len m : ℕ} {x : Vec} {gx : ℕ → K} (hx : RowOK F len x gx) (hm : m < 2 ^ F.k) :
    RowOK F len (mulVec C x m) fun s => gx s * F.g ^ m :=
  ⟨by rw [size_mulVec, hx.size], vecBelow_mulVec (mulLinearOn_of_fieldCtx F) hx.below hm, fun s hs => by
    rw [φ_mulVec F (by rw [hx.size]; exact hs) hx.below hm, hx.rd s hs]⟩

structure Reads (F : FieldCtx C K) (len n : ℕ) (w : Array Vec) (f : ℕ → ℕ → K) : Prop where
  wf : WF len w
  below : SymsBelow (2 ^ F.k) w
  size : n ≤ w.size
  rd : ∀ s, s < len → ∀ x, x < n → F.φ ((w[x]!)[s]!) = f s x

theorem Reads.row {len n : ℕ} {w : Array Vec} {f : ℕ → ℕ → K} (h : Reads F len n w f) {x : ℕ} (hx : x < n) :
    RowOK F len w[x]! fun s => f s x :=
  ⟨h.wf x (Nat.lt_of_lt_of_le hx h.size), h.below.row x, fun s hs => h.rd s hs x hx⟩

theorem Reads.of_rows {len n : ℕ} {w : Array Vec} {f : ℕ → ℕ → K} (hsz : n ≤ w.size)
    (hlo : ∀ x, x < n → RowOK F len w[x]! fun s => f s x)
    (hhi : ∀ x, n ≤ x → x < w.size → (w[x]!).size = len ∧ VecBelow (2 ^ F.k) w[x]!) : Reads F len n w f where
  wf x hx := if h : x < n then (hlo x h).size else (hhi x (Nat.le_of_not_lt h) hx).1
  below x hx := if h : x < n then (hlo x h).below else (hhi x (Nat.le_of_not_lt h) hx).2
  size := hsz
  rd s hs x hx := (hlo x hx).rd s hs

/-- `hi`: the reads of iteration `i` stay below `n` -/
theorem Reads.deriv_step {len n i : ℕ} {w : Array Vec} {f : ℕ → ℕ → K} (h : Reads F len n w f)
    (hi : i + lowbit i ≤ n) : Reads F len n (derivRowStep i w) fun s => derivStep i (f s) := by
  have hrow : ∀ x, x < w.size → (derivRowStep i w)[x]! =
      if i - lowbit i ≤ x ∧ x < i then xorVec w[x]! w[x + lowbit i]! else w[x]! := derivRowStep_get i w
  refine Reads.of_rows (by rw [size_derivRowStep]; exact h.size) (fun x hx => ?_) (fun x hx hx' => ?_)
  · rw [hrow x (Nat.lt_of_lt_of_le hx h.size)]
    unfold derivStep
    by_cases hin : i - lowbit i ≤ x ∧ x < i
    · simp only [if_pos hin]
      exact (h.row hx).xor (h.row (by omega))
    · simp only [if_neg hin]
      exact h.row hx
  · rw [size_derivRowStep] at hx'
    rw [hrow x hx', if_neg (by omega)]
    exact ⟨h.wf x hx', h.below.row x⟩

theorem Reads.deriv_rows {len T : ℕ} {w : Array Vec} {f : ℕ → ℕ → K} (h : Reads F len (2 ^ T) w f) :
    Reads F len (2 ^ T) (derivRows (2 ^ T) w) fun s => derivLoop (2 ^ T) (f s) := by
  unfold derivRows derivLoop
  have hl : ∀ i ∈ List.range' 1 (2 ^ T - 1), i + lowbit i ≤ 2 ^ T := fun i hi => by
    have := List.mem_range'_1.mp hi
    exact add_lowbit_le i T (by omega) (by omega)
  generalize List.range' 1 (2 ^ T - 1) = l at hl
  induction l generalizing w f with
  | nil => exact h
  | cons a l ih =>
    exact ih (h.deriv_step (hl a (by simp))) fun i hi => hl i (by simp [hi])

theorem Reads.ifft_rows (hS : SkewOK F) {len T : ℕ} (hTk : T ≤ F.k) {w : Array Vec} {f : ℕ → ℕ → K}
    (h : Reads F len (2 ^ T) w f) :
    Reads F len (2 ^ T) (ifftRows C T 0 0 1 w) fun s => ifft (beta F) F.k T 0 (f s) where
  wf := WF_ifftRows C len T 0 0 1 w (by rw [Nat.zero_add]; exact h.size) h.wf
  below := symsBelow_ifftRows (Geo.fwd hTk) hS (by rw [Nat.zero_add]; exact h.size) h.below
  size := by rw [size_ifftRows]; exact h.size
  rd s hs x hx := by
    have := rd_ifftRows (Geo.fwd hTk) hS (by rw [Nat.zero_add]; exact h.size) h.wf h.below hs hx
    rw [rd_apply, Nat.zero_add] at this
    rw [this]
    exact ifft_congr (beta F) F.k (fun y hy => by rw [rd_apply, Nat.zero_add]; exact h.rd s hs y hy) x hx

theorem Reads.fft_rows (hS : SkewOK F) {len T : ℕ} (hTk : T ≤ F.k) {w : Array Vec} {f : ℕ → ℕ → K}
    (h : Reads F len (2 ^ T) w f) :
    Reads F len (2 ^ T) (fftRows C T 0 0 1 w) fun s => fft (beta F) F.k T 0 (f s) where
  wf := WF_fftRows C len T 0 0 1 w (by rw [Nat.zero_add]; exact h.size) h.wf
  below := symsBelow_fftRows (Geo.fwd hTk) hS (by rw [Nat.zero_add]; exact h.size) h.below
  size := by rw [size_fftRows]; exact h.size
  rd s hs x hx := by
    have := rd_fftRows (Geo.fwd hTk) hS (by rw [Nat.zero_add]; exact h.size) h.wf h.below hs hx
    rw [rd_apply, Nat.zero_add] at this
    rw [this]
    exact fft_congr (beta F) F.k (fun y hy => by rw [rd_apply, Nat.zero_add]; exact h.rd s hs y hy) x hx

/-- the loaded work area at symbol position `s`, read in the field -/
def wload (F : FieldCtx C K) (sh : Array Vec) (d p : ℕ) (missing : ℕ → Bool) (el : Array ℕ) (s : ℕ) :
    ℕ → K := fun x =>
  if x ∈ erasedSet d p missing ∨ ceilPow2 p + d ≤ x then 0
  else F.φ ((sh[src d (ceilPow2 p) x]!)[s]!) * F.g ^ el[x]!

theorem reads_loadRows {sh : Array Vec} {len d p n : ℕ} {missing : ℕ → Bool} {el : Array ℕ} {w : Array Vec}
    (hsz : n ≤ w.size)
    (hsh : ∀ i, i < d + p → missing i = false → (sh[i]!).size = len ∧ VecBelow (2 ^ F.k) sh[i]!)
    (hel : ∀ x, x < n → el[x]! < 2 ^ F.k) (hw : WF len w) (hb : SymsBelow (2 ^ F.k) w) :
    Reads F len n (loadRows C sh len d p n missing el w) (wload F sh d p missing el) := by
  refine Reads.of_rows (by rw [size_loadRows]; exact hsz) (fun x hx => ?_) (fun x hx hx' => ?_)
  · rw [loadRows_get C _ _ _ _ _ _ _ _ x (by omega), if_pos hx]
    unfold wload
    by_cases h : x ∈ erasedSet d p missing ∨ ceilPow2 p + d ≤ x
    · simp only [if_pos h]
      exact RowOK.zero len
    · simp only [if_neg h]
      obtain ⟨h1, h2, _⟩ := src_present (by omega) (fun hh => h (Or.inl hh))
      obtain ⟨h3, h4⟩ := hsh _ h1 h2
      exact RowOK.mul ⟨h3, h4, fun _ _ => rfl⟩ (hel x hx)
  · rw [size_loadRows] at hx'
    rw [loadRows_get C _ _ _ _ _ _ _ _ x hx', if_neg (by omega)]
    exact ⟨hw x hx', hb.row x⟩

theorem recon_row (hS : SkewOK F) {sh : Array Vec} {len d p t T : ℕ} {missing : ℕ → Bool} {el : Array ℕ}
    {w : Array Vec} (S : Shape F.k d p t T) (hsz : 2 ^ T ≤ w.size) (hw : WF len w)
    (hb : SymsBelow (2 ^ F.k) w)
    (hsh : ∀ i, i < d + p → missing i = false → (sh[i]!).size = len ∧ VecBelow (2 ^ F.k) sh[i]!)
    (hel : ∀ x, x < 2 ^ T → el[x]! < 2 ^ F.k) {j : ℕ} (hj : j < ceilPow2 p + d) :
    RowOK F len (run C sh len w (reconSched C d p missing el).toList)[j]! fun s =>
      fft (beta F) F.k T 0 (derivLoop (2 ^ T) (ifft (beta F) F.k T 0 (wload F sh d p missing el s))) j := by
  rw [run_reconSched_row C sh len w d p T missing el S.hn (by rw [F.hbits]; have := S.hTk; omega) S.hpm S.hmn
    hsz j hj]
  exact ((((reads_loadRows hsz hsh hel hw hb).ifft_rows hS S.hTk).deriv_rows).fft_rows hS S.hTk).row
    (by have := S.hmn; omega)

end RSV.LCHDecode

#print axioms RSV.LCHDecode.recon_row
