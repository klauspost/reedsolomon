import RSV.Proofs.LCHDecode.MathCantor
import Mathlib.Data.Nat.Factorization.Basic

/-!
The formal-derivative loop of the Leopard decoder.  Step `i` writes below `i` and reads at or above `i`, so every
read sees an original value: after the steps `i = 1 … s` position `x` holds
`a x + ∑_{1 ≤ i ≤ s, i - lowbit i ≤ x < i} a (x + lowbit i)` (`derivFold_eq_sum`).  Regrouped by level, position
`l < 2^T` receives `a (l + 2^b)` exactly once for every clear bit `b < T` of `l`, namely in step
`i = (l / 2^b + 1) · 2^b`, so `derivLoop (2^T) a l = a l + derivCoeff T a l`.  Note the summand `a l`: the loop
computes the coefficients of `g + g'`, not of `g'` (e.g. `n = 2`: `(a₀, a₁) ↦ (a₀ + a₁, a₁)`); the decoder is still
right because its `g` vanishes at every erased point.
-/

namespace RSV.LCHDecode
open Finset

theorem lowbit_two_pow_mul_odd (b c : ℕ) : lowbit (2 ^ b * (2 * c + 1)) = 2 ^ b := by
  unfold lowbit
  have hpos := Nat.two_pow_pos b
  have h1 : 2 ^ b * (2 * c + 1) = 2 ^ (b + 1) * c + 2 ^ b := by rw [pow_succ]; ring
  have h2 : 2 ^ b * (2 * c + 1) - 1 = 2 ^ (b + 1) * c + (2 ^ b - 1) := by rw [h1]; omega
  have hlt1 : 2 ^ b < 2 ^ (b + 1) := by rw [pow_succ]; omega
  have hlt2 : 2 ^ b - 1 < 2 ^ (b + 1) := by omega
  have hx : (2 ^ b * (2 * c + 1)) ^^^ (2 ^ b * (2 * c + 1) - 1) = 2 ^ (b + 1) - 1 := by
    rw [h2, h1]
    apply Nat.eq_of_testBit_eq
    intro j
    rw [Nat.testBit_xor, Nat.testBit_two_pow_mul_add _ hlt1, Nat.testBit_two_pow_mul_add _ hlt2,
      Nat.testBit_two_pow_sub_one]
    by_cases hj : j < b + 1
    · simp only [hj, if_true, Nat.testBit_two_pow, Nat.testBit_two_pow_sub_one]
      by_cases hjb : j < b
      · have : b ≠ j := by omega
        simp [hjb, this]
      · have : b = j := by omega
        simp [this]
    · simp [hj]
  rw [hx, Nat.sub_add_cancel Nat.one_le_two_pow, Nat.shiftRight_eq_div_pow, pow_succ]
  simp

theorem exists_two_pow_mul_odd {i : ℕ} (hi : 0 < i) : ∃ b c, i = 2 ^ b * (2 * c + 1) := by
  obtain ⟨b, m, ⟨c, rfl⟩, h⟩ := Nat.exists_eq_two_pow_mul_odd (Nat.pos_iff_ne_zero.mp hi)
  exact ⟨b, c, h⟩

/-- the window of step `i` at level `b`, in terms of the position `x` -/
theorem window_iff {i b x : ℕ} (hi : 0 < i) :
    (lowbit i = 2 ^ b ∧ i - 2 ^ b ≤ x ∧ x < i) ↔
      (i = (x / 2 ^ b + 1) * 2 ^ b ∧ x.testBit b = false) := by
  have hpos := Nat.two_pow_pos b
  constructor
  · rintro ⟨hl, h1, h2⟩
    obtain ⟨b0, c, rfl⟩ := exists_two_pow_mul_odd hi
    rw [lowbit_two_pow_mul_odd] at hl
    have hb : b0 = b := Nat.pow_right_injective (le_refl 2) hl
    subst hb
    have hx : x / 2 ^ b0 = 2 * c := by
      apply Nat.div_eq_of_lt_le
      · have : 2 ^ b0 * (2 * c + 1) - 2 ^ b0 = 2 * c * 2 ^ b0 := by
          rw [Nat.mul_add, Nat.mul_one, Nat.add_sub_cancel, Nat.mul_comm]
        omega
      · rw [Nat.mul_comm]; exact h2
    refine ⟨by rw [hx, Nat.mul_comm], ?_⟩
    rw [Nat.testBit_eq_decide_div_mod_eq, hx]
    simp
  · rintro ⟨rfl, hb⟩
    have heven : x / 2 ^ b % 2 = 0 := by
      rw [Nat.testBit_eq_decide_div_mod_eq, decide_eq_false_iff_not] at hb; omega
    obtain ⟨c, hc⟩ : ∃ c, x / 2 ^ b = 2 * c := ⟨x / 2 ^ b / 2, by omega⟩
    refine ⟨?_, ?_, ?_⟩
    · rw [hc, Nat.mul_comm]; exact lowbit_two_pow_mul_odd b c
    · rw [Nat.add_mul, Nat.one_mul, Nat.add_sub_cancel, Nat.mul_comm]
      exact Nat.mul_div_le x (2 ^ b)
    · rw [Nat.mul_comm]; exact Nat.lt_mul_div_succ x hpos

variable {K : Type} [Field K]

theorem derivFold_eq_sum (s : ℕ) (a : ℕ → K) (x : ℕ) :
    (List.range' 1 s).foldl (fun f i => derivStep i f) a x
      = a x + ∑ i ∈ Ico 1 (s + 1),
          if i - lowbit i ≤ x ∧ x < i then a (x + lowbit i) else 0 := by
  induction s generalizing x with
  | zero => simp
  | succ s ih =>
    rw [List.range'_1_concat, List.foldl_append, List.foldl_cons, List.foldl_nil,
      Finset.sum_Ico_succ_top (by omega : 1 ≤ s + 1)]
    rw [show ∀ g : ℕ → K, derivStep (1 + s) g x
      = (if 1 + s - lowbit (1 + s) ≤ x ∧ x < 1 + s then g x + g (x + lowbit (1 + s)) else g x)
      from fun _ => rfl]
    by_cases hw : 1 + s - lowbit (1 + s) ≤ x ∧ x < 1 + s
    · have hw' : s + 1 - lowbit (s + 1) ≤ x ∧ x < s + 1 := by rwa [Nat.add_comm] at hw
      rw [if_pos hw, if_pos hw', ih x, ih (x + lowbit (1 + s)), Nat.add_comm s 1]
      rw [Finset.sum_eq_zero (s := Ico 1 (1 + s))
        (f := fun i => if i - lowbit i ≤ x + lowbit (1 + s) ∧ x + lowbit (1 + s) < i
          then a (x + lowbit (1 + s) + lowbit i) else 0)]
      · ring
      · intro i hi
        rw [mem_Ico] at hi
        rw [if_neg]
        omega
    · have hw' : ¬ (s + 1 - lowbit (s + 1) ≤ x ∧ x < s + 1) := by rwa [Nat.add_comm] at hw
      rw [if_neg hw, if_neg hw', ih x, add_zero]

theorem derivLoop_eq_sum (n : ℕ) (a : ℕ → K) (x : ℕ) :
    derivLoop n a x
      = a x + ∑ i ∈ Ico 1 n, if i - lowbit i ≤ x ∧ x < i then a (x + lowbit i) else 0 := by
  unfold derivLoop
  rw [derivFold_eq_sum]
  rcases Nat.eq_zero_or_pos n with rfl | hn
  · simp
  · rw [Nat.sub_add_cancel hn]

theorem sum_steps_eq_derivCoeff {T : ℕ} (a : ℕ → K) {x : ℕ} (hx : x < 2 ^ T) :
    (∑ i ∈ Ico 1 (2 ^ T), if i - lowbit i ≤ x ∧ x < i then a (x + lowbit i) else 0)
      = derivCoeff T a x := by
  classical
  have h1 : ∀ i ∈ Ico 1 (2 ^ T),
      (if i - lowbit i ≤ x ∧ x < i then a (x + lowbit i) else 0)
        = ∑ b ∈ range T, if i = (x / 2 ^ b + 1) * 2 ^ b ∧ x.testBit b = false
            then a (x + 2 ^ b) else 0 := by
    intro i hi
    rw [mem_Ico] at hi
    have hipos : 0 < i := hi.1
    obtain ⟨b0, c, hi0⟩ := exists_two_pow_mul_odd hipos
    have hlow : lowbit i = 2 ^ b0 := by rw [hi0]; exact lowbit_two_pow_mul_odd b0 c
    have hb0 : b0 < T := by
      have h2 : 2 ^ b0 ≤ i := by
        rw [hi0]; exact Nat.le_mul_of_pos_right _ (Nat.succ_pos _)
      exact (Nat.pow_lt_pow_iff_right (by decide : 1 < 2)).mp (lt_of_le_of_lt h2 hi.2)
    rw [Finset.sum_eq_single b0]
    · rw [hlow]
      exact if_congr (by rw [← window_iff hipos, hlow]; simp) rfl rfl
    · intro b _ hb
      rw [if_neg]
      rw [← window_iff hipos, hlow]
      rintro ⟨h, -⟩
      exact hb (Nat.pow_right_injective (le_refl 2) h).symm
    · intro h; exact absurd (mem_range.mpr hb0) h
  rw [Finset.sum_congr rfl h1, Finset.sum_comm]
  unfold derivCoeff
  refine Finset.sum_congr rfl fun b hb => ?_
  have hbT := mem_range.mp hb
  by_cases hbit : x.testBit b = true
  · rw [if_pos hbit]
    refine Finset.sum_eq_zero fun i _ => ?_
    rw [if_neg]
    rintro ⟨-, h⟩
    rw [hbit] at h
    exact Bool.noConfusion h
  · have hbit' : x.testBit b = false := by simpa using hbit
    rw [if_neg hbit]
    have hmem : (x / 2 ^ b + 1) * 2 ^ b ∈ Ico 1 (2 ^ T) := by
      rw [mem_Ico]
      have hpos := Nat.two_pow_pos b
      have h2 := add_two_pow_lt hx hbT hbit'
      have h3 : 2 ^ b * (x / 2 ^ b) ≤ x := Nat.mul_div_le x (2 ^ b)
      rw [Nat.add_mul, Nat.one_mul, Nat.mul_comm]
      omega
    rw [Finset.sum_eq_single_of_mem _ hmem]
    · rw [if_pos ⟨rfl, hbit'⟩]
    · intro i _ hne
      rw [if_neg]
      rintro ⟨h, -⟩
      exact hne h

theorem derivLoop_eq_derivCoeff {T : ℕ} (a : ℕ → K) {l : ℕ} (hl : l < 2 ^ T) :
    derivLoop (2 ^ T) a l = a l + derivCoeff T a l := by
  rw [derivLoop_eq_sum, sum_steps_eq_derivCoeff a hl]

theorem derivLoop_ge (n : ℕ) (a : ℕ → K) {x : ℕ} (hx : n ≤ x + 1) : derivLoop n a x = a x := by
  rw [derivLoop_eq_sum, Finset.sum_eq_zero, add_zero]
  intro i hi
  rw [mem_Ico] at hi
  rw [if_neg]
  omega

theorem derivLoop_congr {T : ℕ} {a a' : ℕ → K} (h : ∀ j < 2 ^ T, a j = a' j) {l : ℕ}
    (hl : l < 2 ^ T) : derivLoop (2 ^ T) a l = derivLoop (2 ^ T) a' l := by
  rw [derivLoop_eq_derivCoeff a hl, derivLoop_eq_derivCoeff a' hl, h l hl, derivCoeff_congr h hl]

theorem derivLoop_zero_above {T M : ℕ} {a : ℕ → K} (h : ∀ j, M ≤ j → j < 2 ^ T → a j = 0) {l : ℕ}
    (hM : M ≤ l) (hl : l < 2 ^ T) : derivLoop (2 ^ T) a l = 0 := by
  rw [derivLoop_eq_derivCoeff a hl, h l hM hl, zero_add]
  unfold derivCoeff
  refine Finset.sum_eq_zero fun i hi => ?_
  by_cases hb : l.testBit i = true
  · rw [if_pos hb]
  · rw [if_neg hb]
    exact h _ (le_trans hM (Nat.le_add_right _ _)) (add_two_pow_lt hl (mem_range.mp hi) (by simpa using hb))

end RSV.LCHDecode
