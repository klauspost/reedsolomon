import RSV.Proofs.LCHDecode.MathRS
import RSV.Proofs.LCH.Example

/-!
Non-vacuity of the decoder mathematics over `GF(2)` (`k = 1`, `β 0 = 1`), and the axiom audit of its theorems.
-/

namespace RSV.LCHDecode
open RSV.LCH Finset

theorem cantor_zmod2 : Cantor (fun _ => (1 : ZMod 2)) 1 := by
  apply cantor_iff_iterate.mpr
  intro i hi
  have : i = 0 := by omega
  subst this
  rfl

/-- the hypotheses of `decode_codeword` are satisfiable: one erasure (the data symbol) among the
two symbols of the `(2,1)` code is recovered -/
example (data : ℕ → ℕ → ZMod 2) :
    fft (fun _ => (1 : ZMod 2)) 1 1 0 (derivLoop (2 ^ 1) (ifft (fun _ => (1 : ZMod 2)) 1 1 0
        (fun j => if j ∈ ({1} : Finset ℕ) then 0
          else codeword (fun _ => (1 : ZMod 2)) 1 0 1 data j
            * locVal (fun _ => (1 : ZMod 2)) 1 {1} j))) 1
      * (locVal (fun _ => (1 : ZMod 2)) 1 {1} 1)⁻¹
      = codeword (fun _ => (1 : ZMod 2)) 1 0 1 data 1 :=
  decode_codeword indep_zmod2 cantor_zmod2 (t := 0) (T := 1) (G := 1) (by norm_num) (by norm_num)
    (by norm_num) data (E := {1}) (by simp) (by simp) (fun _ _ => rfl) (by simp)

end RSV.LCHDecode

#print axioms RSV.LCHDecode.Wp_succ
#print axioms RSV.LCHDecode.derivative_Wp
#print axioms RSV.LCHDecode.derivative_Xp
#print axioms RSV.LCHDecode.derivative_Pp
#print axioms RSV.LCHDecode.cantor_iff_iterate
#print axioms RSV.LCHDecode.lowbit_two_pow_mul_odd
#print axioms RSV.LCHDecode.derivLoop_eq_sum
#print axioms RSV.LCHDecode.derivLoop_eq_derivCoeff
#print axioms RSV.LCHDecode.derivLoop_congr
#print axioms RSV.LCHDecode.derivLoop_zero_above
#print axioms RSV.LCHDecode.locVal_ne_zero
#print axioms RSV.LCHDecode.Pp_ifft_eq_of_eval
#print axioms RSV.LCHDecode.decode_identity
#print axioms RSV.LCHDecode.decode_recover
#print axioms RSV.LCHDecode.codeword_top_zero
#print axioms RSV.LCHDecode.decode_codeword
#print axioms RSV.LCHDecode.cantor_zmod2
