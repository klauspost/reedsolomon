import RSV.Proofs.LCHDecode.SchedBridge
import RSV.Proofs.LCHDecode.MathRS
import RSV.Proofs.LCHBridge.EncodeThm
/-!
Leopard's `reconstruct` recovers the original shards.  `F : FieldCtx C K` a field reading of the table context `C`
with a correct skew table (`SkewOK F`), a Cantor basis and a correct locator table (`ElOK`): the received word,
scaled by the locator values, is `c·Λ` at the present positions for the codeword `c` of the encoder
(`wload_eq`); `decode_identity` then says that the rows produced by the decoder schedule are `c·Λ'` at the erased
positions (`recon_erased`), and multiplying by `exp (modulus - el)` gives back the shards (`reconstruct_rows`,
`reconstruct_correct`).
-/
namespace RSV.LCHDecode
open RSV.Model.Leo RSV.LCH RSV.LCHBridge RSV.Proofs.LeoSched RSV.Proofs.LCHSched Finset

variable {C : Ctx} {K : Type} [Field K] {F : FieldCtx C K}

theorem encode_parity (hS : SkewOK F) {d p t len : ℕ} {data : Array Vec} (hd : 0 < d) (hp64 : p ≤ 2 ^ 64)
    (hm : ceilPow2 p = 2 ^ t) (hadm : d + ceilPow2 p ≤ 2 ^ F.k) (hdsz : data.size = d) (hwd : WF len data)
    (hbd : SymsBelow (2 ^ F.k) data) {r : ℕ} (hr : r < p) :
    ((encode C d p len data)[r]!).size = len ∧ VecBelow (2 ^ F.k) (encode C d p len data)[r]! ∧
    ∀ s, s < len → F.φ (((encode C d p len data)[r]!)[s]!) =
      parity (beta F) F.k t (ngroups (2 ^ t) d + 1) (fun g x => msg F data d s (g * 2 ^ t + x)) r := by
  have hsize := encode_rows C hp64 hdsz hwd r (by rw [size_encode' C d p len data hp64]; exact hr)
  have key := fun s hs => encode_sym hS hd hp64 hm hadm hdsz.ge hwd hbd hr (s := s) hs
  exact ⟨hsize, fun s hs => (key s (hsize ▸ hs)).1, fun s hs => (key s hs).2⟩

/-- the systematic codeword at symbol position `s`, in the decoder's layout -/
noncomputable def cw (F : FieldCtx C K) (data : Array Vec) (d t s : ℕ) : ℕ → K :=
  codeword (beta F) F.k t (ngroups (2 ^ t) d + 1) fun g x => msg F data d s (g * 2 ^ t + x)

theorem cw_data {data : Array Vec} {d t s j : ℕ} (hd : d ≤ (ngroups (2 ^ t) d + 1) * 2 ^ t) (hj : 2 ^ t ≤ j) :
    cw F data d t s j = msg F data d s (j - 2 ^ t) := by
  obtain ⟨x, rfl⟩ := Nat.exists_eq_add_of_le hj
  rw [Nat.add_sub_cancel_left]
  unfold cw
  by_cases hx : x < (ngroups (2 ^ t) d + 1) * 2 ^ t
  · rw [codeword_data _ hx, Nat.div_add_mod' x (2 ^ t)]
  · rw [codeword_pad _ (by rw [Nat.add_mul, Nat.one_mul]; omega)]
    unfold msg
    rw [if_neg (by omega)]

theorem lam_eq {E : Finset ℕ} {el : Array ℕ} (hel : ElOK F E el) (hE : E ⊆ Finset.range (2 ^ F.k)) {x : ℕ}
    (hx : x < 2 ^ F.k) : locVal (beta F) F.k E x = F.g ^ el[x]! := by
  unfold locVal
  rw [(hel x hx).2]
  refine Finset.prod_congr rfl fun j hj => ?_
  have hj' : j < 2 ^ F.k := mem_range.mp (hE (mem_of_mem_erase hj))
  rw [omega_beta F x hx, omega_beta F j hj']

theorem unscale_row {len e : ℕ} {v u : Vec} (hv : v.size = len) (hvb : VecBelow (2 ^ F.k) v)
    (hu : u.size = len) (hub : VecBelow (2 ^ F.k) u) (he : e < 2 ^ F.k)
    (h : ∀ s, s < len → F.φ v[s]! = F.φ u[s]! * F.g ^ e) : mulVec C v (C.P.modulus - e) = u := by
  have hB := Nat.two_pow_pos F.k
  have hmod := modulus_eq F
  have hlt : C.P.modulus - e < 2 ^ F.k := by omega
  apply ext! (by rw [size_mulVec, hv, hu])
  intro s hs
  rw [size_mulVec, hv] at hs
  rw [get!_mulVec C v _ s (by omega)]
  apply F.φ_inj _ _ (F.mul_lt _ _ (hvb.get hB s) hlt) (hub.get hB s)
  rw [F.φ_mul _ _ (hvb.get hB s) hlt, h s hs, mul_assoc, ← pow_add,
    show e + (C.P.modulus - e) = 2 ^ F.k - 1 by omega, F.g_pow_modulus, mul_one]

section Main
variable (hS : SkewOK F) (hC : Cantor (beta F) F.k)
  {d p t T len : ℕ} {data sh : Array Vec} {missing : ℕ → Bool} {el : Array ℕ}
  (hd : 0 < d) (hp64 : p ≤ 2 ^ 64) (S : Shape F.k d p t T)
  (hdsz : data.size = d) (hwd : WF len data) (hbd : SymsBelow (2 ^ F.k) data)
  (hmiss : ((Finset.range (d + p)).filter (fun i => missing i)).card ≤ p)
  (hel : ElOK F (erasedSet d p missing) el)
  (hshd : ∀ i, i < d → missing i = false → sh[i]! = data[i]!)
  (hshp : ∀ r, r < p → missing (d + r) = false → sh[d + r]! = (encode C d p len data)[r]!)
include hS hd hp64 S hdsz hwd hbd hshd hshp

theorem shards_ok : ∀ i, i < d + p → missing i = false →
    (sh[i]!).size = len ∧ VecBelow (2 ^ F.k) sh[i]! := by
  have hTk' : 2 ^ T ≤ 2 ^ F.k := Nat.pow_le_pow_right (by decide) S.hTk
  have := S.hmn
  intro i hi hmi
  by_cases hid : i < d
  · rw [hshd i hid hmi]
    exact ⟨hwd i (by omega), hbd.row i⟩
  · obtain ⟨r, rfl⟩ : ∃ r, i = d + r := ⟨i - d, by omega⟩
    rw [hshp r (by omega) hmi]
    have := encode_parity hS hd hp64 S.hm (by omega) hdsz hwd hbd (r := r) (by omega)
    exact ⟨this.1, this.2.1⟩

theorem received_eq {s x : ℕ} (hs : s < len) (hx : x < ceilPow2 p + d) (hne : x ∉ erasedSet d p missing) :
    F.φ ((sh[src d (ceilPow2 p) x]!)[s]!) = cw F data d t s x := by
  have hTk' : 2 ^ T ≤ 2 ^ F.k := Nat.pow_le_pow_right (by decide) S.hTk
  have hm := S.hm
  have hmn := S.hmn
  obtain ⟨_, h2, h3⟩ := src_present hx hne
  unfold src at h2 ⊢
  by_cases hxm : x < ceilPow2 p
  · have hxp : x < p := by omega
    rw [if_pos hxm] at h2 ⊢
    rw [hshp x hxp h2, (encode_parity hS hd hp64 hm (by omega) hdsz hwd hbd hxp).2.2 s hs]
    exact (codeword_parity _ (by omega)).symm
  · rw [if_neg hxm] at h2 ⊢
    rw [hshd _ (by omega) h2, cw_data (groups_arith (N := 2 ^ T) (Nat.two_pow_pos t) hd
      (Nat.pow_dvd_pow 2 (by have := S.le; omega)) (by omega)).2 (by omega), ← hm]
    unfold msg
    rw [if_pos (by omega)]

include hel in
theorem wload_eq {s : ℕ} (hs : s < len) (x : ℕ) (hx : x < 2 ^ T) :
    wload F sh d p missing el s x =
      if x ∈ erasedSet d p missing then 0
      else cw F data d t s x * locVal (beta F) F.k (erasedSet d p missing) x := by
  have hTk' : 2 ^ T ≤ 2 ^ F.k := Nat.pow_le_pow_right (by decide) S.hTk
  have hm := S.hm
  have hmn := S.hmn
  unfold wload
  by_cases hE : x ∈ erasedSet d p missing
  · rw [if_pos (Or.inl hE), if_pos hE]
  rw [if_neg hE]
  by_cases hxd : ceilPow2 p + d ≤ x
  · rw [if_pos (Or.inr hxd), cw_data (groups_arith (N := 2 ^ T) (Nat.two_pow_pos t) hd
      (Nat.pow_dvd_pow 2 S.le) (by omega)).2 (by omega)]
    unfold msg
    rw [if_neg (by omega), zero_mul]
  · rw [if_neg (by rintro (h | h); exacts [hE h, hxd h]),
      received_eq hS hd hp64 S hdsz hwd hbd hshd hshp hs (by omega) hE,
      lam_eq hel (fun y hy => mem_range.mpr (by have := erasedSet_lt S.hpm hy; omega)) (by omega)]

include hC hmiss hel in
theorem recon_erased {e s : ℕ} (he : e ∈ erasedSet d p missing) (hs : s < len) :
    F.φ (((run C sh len (Array.replicate (2 ^ T) (zeroVec len)) (reconSched C d p missing el).toList)[e]!)[s]!) =
      cw F data d t s e * F.g ^ el[e]! := by
  have := F.char2
  have hTk' : 2 ^ T ≤ 2 ^ F.k := Nat.pow_le_pow_right (by decide) S.hTk
  have hm := S.hm
  have hmn := S.hmn
  have hE : ∀ y ∈ erasedSet d p missing, y < 2 ^ T := fun y hy => by have := erasedSet_lt S.hpm hy; omega
  have helT : ∀ x, x < 2 ^ T → el[x]! < 2 ^ F.k := fun x hx => (hel x (by omega)).1
  rw [(recon_row hS S (by simp) (WF_replicate _ _) (symsBelow_replicate (Nat.two_pow_pos _) _ _)
    (shards_ok hS hd hp64 S hdsz hwd hbd hshd hshp) helT (erasedSet_lt S.hpm he)).rd s hs]
  unfold cw
  rw [decode_identity (indep_beta F) hC S.hTk
    (codeword_top_zero S.le (groups_arith (Nat.two_pow_pos t) hd (Nat.pow_dvd_pow 2 S.le) (by omega)).1 _)
    (fun _ hj => codeword_eq_eval (indep_beta F) S.hTk _ hj) hE
    (by rw [← hm]; exact card_erasedSet S.hpm hmiss)
    (wload_eq hS hd hp64 S hdsz hwd hbd hel hshd hshp hs) he,
    lam_eq hel (fun y hy => mem_range.mpr (by have := hE y hy; omega)) (by have := hE e he; omega)]

end Main

section Thm
variable (hS : SkewOK F) (hC : Cantor (beta F) F.k)
  {d p len : ℕ} {data sh : Array Vec} {missing : ℕ → Bool}
  (hd : 0 < d) (hp64 : p ≤ 2 ^ 64) (hk64 : F.k ≤ 64) (hadm : ceilPow2 p + d ≤ 2 ^ F.k)
  (hdsz : data.size = d) (hwd : WF len data) (hbd : SymsBelow (2 ^ F.k) data)
  (hmiss : ((Finset.range (d + p)).filter (fun i => missing i)).card ≤ p)
  (hshd : ∀ i, i < d → missing i = false → sh[i]! = data[i]!)
  (hshp : ∀ r, r < p → missing (d + r) = false → sh[d + r]! = (encode C d p len data)[r]!)
include hS hC hd hp64 hk64 hadm hdsz hwd hbd hmiss hshd hshp

/-- The decoder schedule recovers the erased shards: with a correct locator table `el`, the work rows after
`reconSched`, multiplied by `exp (modulus - el)`, are the original data shards (rows `m + i`) resp. the parity shards
that `encode` produces from them (rows `r`), at every missing index -/
theorem reconstruct_rows {el : Array ℕ} (hel : ElOK F (erasedSet d p missing) el) :
    (∀ i, i < d → missing i = true →
      mulVec C (run C sh len (Array.replicate (ceilPow2 (ceilPow2 p + d)) (zeroVec len))
        (reconSched C d p missing el).toList)[ceilPow2 p + i]! (C.P.modulus - el[ceilPow2 p + i]!) =
        data[i]!) ∧
    (∀ r, r < p → missing (d + r) = true →
      mulVec C (run C sh len (Array.replicate (ceilPow2 (ceilPow2 p + d)) (zeroVec len))
        (reconSched C d p missing el).toList)[r]! (C.P.modulus - el[r]!) =
        (encode C d p len data)[r]!) := by
  obtain ⟨t, T, S⟩ := exists_shape hp64 hk64 hadm
  have hm := S.hm
  have hpm := S.hpm
  have hmn := S.hmn
  have hTk' : 2 ^ T ≤ 2 ^ F.k := Nat.pow_le_pow_right (by decide) S.hTk
  have helT : ∀ x, x < 2 ^ T → el[x]! < 2 ^ F.k := fun x hx => (hel x (by omega)).1
  have hrow := fun j (hj : j < ceilPow2 p + d) =>
    recon_row hS S (w := Array.replicate (2 ^ T) (zeroVec len)) (el := el) (by simp) (WF_replicate _ _)
      (symsBelow_replicate (Nat.two_pow_pos _) _ _) (shards_ok hS hd hp64 S hdsz hwd hbd hshd hshp) helT hj
  have herased := fun e (he : e ∈ erasedSet d p missing) s (hs : s < len) =>
    recon_erased hS hC hd hp64 S hdsz hwd hbd hmiss hel hshd hshp he hs
  have hG := (groups_arith (N := 2 ^ T) (Nat.two_pow_pos t) hd (Nat.pow_dvd_pow 2 S.le) (by omega)).2
  rw [S.hn]
  constructor
  · intro i hi hmi
    have he : ceilPow2 p + i ∈ erasedSet d p missing :=
      mem_erasedSet.mpr (Or.inr (Or.inr ⟨by omega, by omega, by rw [Nat.add_sub_cancel_left]; exact hmi⟩))
    refine unscale_row (hrow _ (by omega)).size (hrow _ (by omega)).below (hwd i (by omega)) (hbd.row i)
      (helT _ (by omega)) fun s hs => ?_
    rw [herased _ he s hs, cw_data hG (by omega), hm, Nat.add_sub_cancel_left]
    unfold msg
    rw [if_pos hi]
  · intro r hr hmr
    have he : r ∈ erasedSet d p missing := mem_erasedSet.mpr (Or.inl ⟨hr, hmr⟩)
    obtain ⟨hu, hub, hpar⟩ := encode_parity hS hd hp64 hm (by omega) hdsz hwd hbd hr
    refine unscale_row (hrow _ (by omega)).size (hrow _ (by omega)).below hu hub (helT _ (by omega))
      fun s hs => ?_
    rw [herased _ he s hs, hpar s hs]
    exact congrArg (· * _) (codeword_parity _ (by omega))

/-- `reconstruct` is correct: under the two mathematical hypotheses and the correctness of the locator table
computed by `errLocs`, `reconstruct` returns `some` exactly at the missing data indices (and at the missing parity
indices when `recoverAll`), and what it returns is the original shard -/
theorem reconstruct_correct (recoverAll : Bool)
    (hel : ElOK F (erasedSet d p missing) (errLocs C d p missing)) (i : ℕ) (hi : i < d + p) :
    (reconstruct C d p len sh missing recoverAll)[i]! =
      if missing i = true ∧ (i < d ∨ recoverAll = true) then
        some (if i < d then data[i]! else (encode C d p len data)[i - d]!)
      else none := by
  obtain ⟨h1, h2⟩ := reconstruct_rows hS hC hd hp64 hk64 hadm hdsz hwd hbd hmiss hshd hshp hel
  rw [get!_lt _ i (by rw [size_reconstruct]; exact hi)]
  simp only [reconstruct, Array.getElem_ofFn]
  by_cases hmi : missing i = true
  · by_cases hid : i < d
    · simpa [hmi, hid] using h1 i hid hmi
    · have h2' := h2 (i - d) (by omega) (by rw [show d + (i - d) = i by omega]; exact hmi)
      by_cases hra : recoverAll = true
      · simpa [hmi, hid, hra] using h2'
      · simp [hmi, hid, hra]
  · simp [hmi]

end Thm

/-- `reconstruct_rows` with the erased set spelt `erasedPos` (= `erasedSet` by `rfl`) -/
theorem reconstruct_rows_cantor (hS : SkewOK F) (hC : Cantor (beta F) F.k)
    {d p len : ℕ} {data sh : Array Vec} {missing : ℕ → Bool}
    (hd : 0 < d) (hp64 : p ≤ 2 ^ 64) (hk64 : F.k ≤ 64) (hadm : ceilPow2 p + d ≤ 2 ^ F.k)
    (hdsz : data.size = d) (hwd : WF len data) (hbd : SymsBelow (2 ^ F.k) data)
    (hmiss : ((Finset.range (d + p)).filter (fun i => missing i)).card ≤ p)
    (hshd : ∀ i, i < d → missing i = false → sh[i]! = data[i]!)
    (hshp : ∀ r, r < p → missing (d + r) = false → sh[d + r]! = (encode C d p len data)[r]!)
    {el : Array ℕ} (hel : ElOK F (erasedPos d p missing) el) :
    (∀ i, i < d → missing i = true →
      mulVec C (run C sh len (Array.replicate (ceilPow2 (ceilPow2 p + d)) (zeroVec len))
        (reconSched C d p missing el).toList)[ceilPow2 p + i]! (C.P.modulus - el[ceilPow2 p + i]!) =
        data[i]!) ∧
    (∀ r, r < p → missing (d + r) = true →
      mulVec C (run C sh len (Array.replicate (ceilPow2 (ceilPow2 p + d)) (zeroVec len))
        (reconSched C d p missing el).toList)[r]! (C.P.modulus - el[r]!) =
        (encode C d p len data)[r]!) :=
  reconstruct_rows hS hC hd hp64 hk64 hadm hdsz hwd hbd hmiss hshd hshp hel

end RSV.LCHDecode

#print axioms RSV.LCHDecode.encode_parity
#print axioms RSV.LCHDecode.recon_erased
#print axioms RSV.LCHDecode.reconstruct_rows
#print axioms RSV.LCHDecode.reconstruct_correct
#print axioms RSV.LCHDecode.reconstruct_rows_cantor
