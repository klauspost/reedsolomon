import RSV.Proofs.Streams.Basic
import RSV.Proofs.Streams.ReadShards
import RSV.Proofs.Streams.WriteShards
import RSV.Proofs.Streams.Loops
import RSV.Proofs.Streams.SplitJoin
import RSV.Proofs.Streams.Toy
/-! Lemmas about the streaming model `RSV.Model.St` (used by `RSV.Props.C14`, `RSV.Props.C15`). -/
