import Mathlib.Algebra.CharP.Two
import Mathlib.Algebra.BigOperators.Intervals
import Mathlib.LinearAlgebra.Lagrange
import Mathlib.Tactic.LinearCombination
import Mathlib.Data.Nat.Bitwise
import RSV.Spec.BinField

/-!
Lin–Chung–Han additive FFT over a field `K` of characteristic two with basis elements `β 0 … β (k-1)`: the points
`omega β k j` (sum of the `β i` over the bits of `j`), the subspace polynomials `W`, their normalisations `What`, the
novel basis `Xb` and `P t a = ∑_{j<2^t} a j · Xb j`, all as functions; additivity of `W`, the values of `What` on
aligned blocks, and the recursion `P_succ`.
-/

namespace RSV.LCH
open Finset

noncomputable section

variable {K : Type*} [Field K]

def omega (β : ℕ → K) (k j : ℕ) : K := ∑ i ∈ range k, if j.testBit i then β i else 0

/-- `omega` is injective on `[0, 2^k)`, i.e. `β 0 … β (k-1)` are linearly independent over GF(2) -/
def Indep (β : ℕ → K) (k : ℕ) : Prop :=
  ∀ a, a < 2 ^ k → ∀ b, b < 2 ^ k → omega β k a = omega β k b → a = b

def W (β : ℕ → K) (k i : ℕ) (x : K) : K := ∏ j ∈ range (2 ^ i), (x - omega β k j)

def What (β : ℕ → K) (k i : ℕ) (x : K) : K := W β k i x / W β k i (β i)

def Xb (β : ℕ → K) (k j : ℕ) (x : K) : K :=
  ∏ i ∈ range k, if j.testBit i then What β k i x else 1

def P (β : ℕ → K) (k t : ℕ) (a : ℕ → K) (x : K) : K :=
  ∑ j ∈ range (2 ^ t), a j * Xb β k j x

variable (β : ℕ → K) (k : ℕ)

@[simp] theorem omega_zero : omega β k 0 = 0 := by
  simp [omega]

theorem omega_two_pow {i : ℕ} (hi : i < k) : omega β k (2 ^ i) = β i := by
  unfold omega
  rw [Finset.sum_eq_single i]
  · simp
  · intro b _ hb
    simp [Ne.symm hb]
  · intro h; exact absurd (mem_range.mpr hi) h

theorem omega_xor [CharP K 2] (a b : ℕ) :
    omega β k (a ^^^ b) = omega β k a + omega β k b := by
  unfold omega
  rw [← Finset.sum_add_distrib]
  refine Finset.sum_congr rfl fun i _ => ?_
  rw [Nat.testBit_xor]
  cases a.testBit i <;> cases b.testBit i <;> simp [CharTwo.add_self_eq_zero]

/-- checkable criterion for `Indep`: no non-zero index below `2^k` is mapped to `0` -/
theorem indep_of_omega_ne_zero [CharP K 2]
    (h : ∀ j, 0 < j → j < 2 ^ k → omega β k j ≠ 0) : Indep β k := by
  intro a ha b hb hab
  by_contra hne
  have hx : a ^^^ b ≠ 0 := Nat.xor_ne_zero_iff.mpr hne
  refine h (a ^^^ b) (Nat.pos_of_ne_zero hx) (Nat.xor_lt_two_pow ha hb) ?_
  rw [omega_xor, hab, CharTwo.add_self_eq_zero]

theorem Indep.omega_ne_zero {β : ℕ → K} {k : ℕ} (hβ : Indep β k) {j : ℕ} (h0 : 0 < j)
    (hj : j < 2 ^ k) : omega β k j ≠ 0 := by
  intro h
  have := hβ j hj 0 (Nat.two_pow_pos k) (by rw [h, omega_zero])
  omega

theorem omega_add_of_dvd {t off j : ℕ} (hoff : 2 ^ t ∣ off) (hj : j < 2 ^ t) :
    omega β k (off + j) = omega β k off + omega β k j := by
  obtain ⟨c, rfl⟩ := hoff
  unfold omega
  rw [← Finset.sum_add_distrib]
  refine Finset.sum_congr rfl fun i _ => ?_
  rw [Nat.testBit_two_pow_mul_add c hj, Nat.testBit_two_pow_mul]
  by_cases hit : i < t
  · simp [hit, Nat.not_le_of_lt hit]
  · have hti : t ≤ i := Nat.le_of_not_lt hit
    have : j.testBit i = false :=
      Nat.testBit_lt_two_pow (lt_of_lt_of_le hj (Nat.pow_le_pow_right (by decide) hti))
    simp [hit, hti, this]

theorem omega_two_pow_add {i j : ℕ} (hi : i < k) (hj : j < 2 ^ i) :
    omega β k (2 ^ i + j) = β i + omega β k j := by
  rw [omega_add_of_dvd β k (dvd_refl _) hj, omega_two_pow β k hi]

@[simp] theorem W_zero (x : K) : W β k 0 x = x := by
  simp [W]

theorem W_succ [CharP K 2] {i : ℕ} (hi : i < k) (x : K) :
    W β k (i + 1) x = W β k i x * W β k i (x + β i) := by
  unfold W
  rw [pow_succ, mul_two, Finset.prod_range_add]
  congr 1
  refine Finset.prod_congr rfl fun j hj => ?_
  rw [omega_two_pow_add β k hi (mem_range.mp hj)]
  simp only [CharTwo.sub_eq_add]
  ring

theorem W_add [CharP K 2] {i : ℕ} (hi : i ≤ k) (x y : K) :
    W β k i (x + y) = W β k i x + W β k i y := by
  induction i generalizing x y with
  | zero => simp
  | succ i ih =>
    have hik : i < k := hi
    have ih' := ih (Nat.le_of_lt hik)
    rw [W_succ β k hik, W_succ β k hik, W_succ β k hik, ih' x (β i), ih' y (β i),
      ih' (x + y) (β i), ih' x y]
    have h2 : (2 : K) = 0 := CharTwo.two_eq_zero
    linear_combination (W β k i x * W β k i y) * h2

theorem W_succ' [CharP K 2] {i : ℕ} (hi : i < k) (x : K) :
    W β k (i + 1) x = W β k i x ^ 2 + W β k i (β i) * W β k i x := by
  rw [W_succ β k hi, W_add β k (Nat.le_of_lt hi)]
  ring

@[simp] theorem W_apply_zero [CharP K 2] {i : ℕ} (hi : i ≤ k) : W β k i 0 = 0 := by
  have := W_add β k hi 0 0
  simpa using this

theorem W_omega_eq_zero {i j : ℕ} (hj : j < 2 ^ i) : W β k i (omega β k j) = 0 := by
  unfold W
  exact Finset.prod_eq_zero (mem_range.mpr hj) (sub_self _)

variable {β k}

theorem W_omega_ne_zero (hβ : Indep β k) {i j : ℕ} (hj : j < 2 ^ k) (hij : 2 ^ i ≤ j) :
    W β k i (omega β k j) ≠ 0 := by
  unfold W
  rw [Finset.prod_ne_zero_iff]
  intro l hl
  have hl' : l < 2 ^ i := mem_range.mp hl
  rw [sub_ne_zero]
  intro h
  have := hβ j hj l (lt_of_lt_of_le hl' (le_trans hij (Nat.le_of_lt hj))) h
  omega

theorem W_omega_eq_zero_iff (hβ : Indep β k) {i j : ℕ} (hj : j < 2 ^ k) :
    W β k i (omega β k j) = 0 ↔ j < 2 ^ i := by
  constructor
  · intro h
    by_contra hn
    exact W_omega_ne_zero hβ hj (Nat.le_of_not_lt hn) h
  · exact W_omega_eq_zero β k

theorem W_beta_ne_zero (hβ : Indep β k) {i : ℕ} (hi : i < k) : W β k i (β i) ≠ 0 := by
  rw [← omega_two_pow β k hi]
  exact W_omega_ne_zero hβ (Nat.pow_lt_pow_right (by decide) hi) (le_refl _)

variable (β k)

theorem W_omega_shift [CharP K 2] {i : ℕ} (hi : i ≤ k) (j : ℕ) :
    W β k i (omega β k j) = W β k i (omega β k (j / 2 ^ i * 2 ^ i)) := by
  conv_lhs => rw [← Nat.div_add_mod' j (2 ^ i)]
  rw [omega_add_of_dvd β k (Dvd.intro_left _ rfl) (Nat.mod_lt _ (Nat.two_pow_pos i)),
    W_add β k hi, W_omega_eq_zero β k (Nat.mod_lt _ (Nat.two_pow_pos i)), add_zero]

theorem What_add [CharP K 2] {i : ℕ} (hi : i ≤ k) (x y : K) :
    What β k i (x + y) = What β k i x + What β k i y := by
  unfold What
  rw [W_add β k hi, add_div]

@[simp] theorem What_apply_zero [CharP K 2] {i : ℕ} (hi : i ≤ k) : What β k i 0 = 0 := by
  unfold What
  rw [W_apply_zero β k hi, zero_div]

theorem What_omega_low {i j : ℕ} (hj : j < 2 ^ i) : What β k i (omega β k j) = 0 := by
  unfold What
  rw [W_omega_eq_zero β k hj, zero_div]

variable {β k}

theorem What_beta (hβ : Indep β k) {i : ℕ} (hi : i < k) : What β k i (β i) = 1 := by
  unfold What
  exact div_self (W_beta_ne_zero hβ hi)

theorem What_omega_high [CharP K 2] (hβ : Indep β k) {i j : ℕ} (hi : i < k)
    (h1 : 2 ^ i ≤ j) (h2 : j < 2 ^ (i + 1)) : What β k i (omega β k j) = 1 := by
  obtain ⟨r, rfl⟩ := Nat.exists_eq_add_of_le h1
  have hr : r < 2 ^ i := by rw [pow_succ] at h2; omega
  rw [omega_two_pow_add β k hi hr, What_add β k (Nat.le_of_lt hi), What_beta hβ hi,
    What_omega_low β k hr, add_zero]

theorem What_omega_ne_zero (hβ : Indep β k) {i j : ℕ} (hi : i < k) (hj : j < 2 ^ k)
    (hij : 2 ^ i ≤ j) : What β k i (omega β k j) ≠ 0 := by
  unfold What
  exact div_ne_zero (W_omega_ne_zero hβ hj hij) (W_beta_ne_zero hβ hi)

theorem What_add_beta [CharP K 2] (hβ : Indep β k) {i : ℕ} (hi : i < k) (x : K) :
    What β k i (x + omega β k (2 ^ i)) = What β k i x + 1 := by
  rw [What_add β k (Nat.le_of_lt hi), omega_two_pow β k hi, What_beta hβ hi]

variable (β k)

theorem What_add_omega_low [CharP K 2] {i j : ℕ} (hi : i ≤ k) (hj : j < 2 ^ i) (x : K) :
    What β k i (x + omega β k j) = What β k i x := by
  rw [What_add β k hi, What_omega_low β k hj, add_zero]

theorem What_block_low [CharP K 2] {i M r : ℕ} (hi : i < k) (hM : 2 ^ (i + 1) ∣ M)
    (hr : r < 2 ^ i) : What β k i (omega β k (M + r)) = What β k i (omega β k M) := by
  have hr' : r < 2 ^ (i + 1) := lt_of_lt_of_le hr (Nat.pow_le_pow_right (by decide) (Nat.le_succ i))
  rw [omega_add_of_dvd β k hM hr', What_add_omega_low β k (Nat.le_of_lt hi) hr]

variable {β k}

theorem What_block_high [CharP K 2] (hβ : Indep β k) {i M r : ℕ} (hi : i < k)
    (hM : 2 ^ (i + 1) ∣ M) (h1 : 2 ^ i ≤ r) (h2 : r < 2 ^ (i + 1)) :
    What β k i (omega β k (M + r)) = What β k i (omega β k M) + 1 := by
  rw [omega_add_of_dvd β k hM h2, What_add β k (Nat.le_of_lt hi), What_omega_high hβ hi h1 h2]

variable (β k)

@[simp] theorem Xb_zero (x : K) : Xb β k 0 x = 1 := by
  simp [Xb]

theorem Xb_add_two_pow {t j : ℕ} (ht : t < k) (hj : j < 2 ^ t) (x : K) :
    Xb β k (2 ^ t + j) x = What β k t x * Xb β k j x := by
  unfold Xb
  have : ∀ i ∈ range k, (if (2 ^ t + j).testBit i then What β k i x else 1)
      = (if i = t then What β k t x else 1) * (if j.testBit i then What β k i x else 1) := by
    intro i _
    rw [RSV.BF.two_pow_add_eq_xor hj, Nat.testBit_xor, Nat.testBit_two_pow]
    by_cases heq : t = i
    · subst heq; simp [Nat.testBit_lt_two_pow hj]
    · simp [heq, Ne.symm heq]
  rw [Finset.prod_congr rfl this, Finset.prod_mul_distrib, Finset.prod_ite_eq' (range k) t]
  simp [ht]

theorem P_congr {t : ℕ} {a a' : ℕ → K} (h : ∀ j < 2 ^ t, a j = a' j) (x : K) :
    P β k t a x = P β k t a' x := by
  unfold P
  exact Finset.sum_congr rfl fun j hj => by rw [h j (mem_range.mp hj)]

theorem P_add (t : ℕ) (a a' : ℕ → K) (x : K) :
    P β k t (fun j => a j + a' j) x = P β k t a x + P β k t a' x := by
  unfold P
  rw [← Finset.sum_add_distrib]
  exact Finset.sum_congr rfl fun j _ => by ring

theorem P_smul (t : ℕ) (c : K) (a : ℕ → K) (x : K) :
    P β k t (fun j => c * a j) x = c * P β k t a x := by
  unfold P
  rw [Finset.mul_sum]
  exact Finset.sum_congr rfl fun j _ => by ring

@[simp] theorem P_zero (a : ℕ → K) (x : K) : P β k 0 a x = a 0 := by
  simp [P]

theorem P_succ {t : ℕ} (ht : t < k) (a : ℕ → K) (x : K) :
    P β k (t + 1) a x = P β k t a x + What β k t x * P β k t (fun j => a (j + 2 ^ t)) x := by
  unfold P
  rw [pow_succ, mul_two, Finset.sum_range_add, Finset.mul_sum]
  congr 1
  refine Finset.sum_congr rfl fun j hj => ?_
  rw [Xb_add_two_pow β k ht (mem_range.mp hj)]
  show a (2 ^ t + j) * _ = What β k t x * (a (j + 2 ^ t) * _)
  rw [Nat.add_comm j]
  ring

end

end RSV.LCH
