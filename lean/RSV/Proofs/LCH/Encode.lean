import RSV.Proofs.LCH.Correct
import RSV.Proofs.LCH.Poly
import RSV.Proofs.CodeTheory

/-!
The Leopard encoder `parity = fft t 0 (Σ_g ifft t ((g+1)·m) (data g))`, `m = 2^t`, is multiplication by the
generalised Cauchy matrix `encMatrix` with entries `v_{c / m} / (ω_r - ω_{m + c})` (`parity_eq`, through the
Lagrange form `P_ifft_eval` of the interpolant), and that matrix is MDS (`encMatrix_mds`).
-/

namespace RSV.LCH
open Finset Polynomial

theorem sum_range_mul_eq {M : Type*} [AddCommMonoid M] (F : ℕ → M) (G m : ℕ) :
    ∑ c ∈ range (G * m), F c = ∑ g ∈ range G, ∑ j ∈ range m, F (g * m + j) := by
  induction G with
  | zero => simp
  | succ G ih => rw [Nat.succ_mul, Finset.sum_range_add, Finset.sum_range_succ, ih]

noncomputable section

variable {K : Type*} [Field K] [CharP K 2] {β : ℕ → K} {k : ℕ}

/-- `∏_{0<j<m} ω_j`; for `m = 2^t`, the product of the differences of any node of a coset of `V_t` from the other
nodes (`prod_coset_erase`) -/
def Dconst (β : ℕ → K) (k m : ℕ) : K := ∏ j ∈ Ico 1 m, omega β k j

/-- `v_g`, the column factor of data group `g`: `W_t(ω_{(g+1)·2^t})` over the Lagrange denominator `Dconst` -/
def vconst (β : ℕ → K) (k t g : ℕ) : K :=
  W β k t (omega β k ((g + 1) * 2 ^ t)) / Dconst β k (2 ^ t)

/-- the Leopard encoder: interpolate every data group on its coset, add the coefficient vectors,
evaluate on the parity coset `V_t` -/
def parity (β : ℕ → K) (k t G : ℕ) (data : ℕ → ℕ → K) : ℕ → K :=
  fft β k t 0 (fun idx => ∑ g ∈ range G, ifft β k t ((g + 1) * 2 ^ t) (data g) idx)

def encMatrix (β : ℕ → K) (k t p d : ℕ) : Fin p → Fin d → K := fun r c =>
  vconst β k t ((c : ℕ) / 2 ^ t) / (omega β k r - omega β k (2 ^ t + c))

omit [CharP K 2] in
theorem omega_ne (hβ : Indep β k) {a b : ℕ} (ha : a < 2 ^ k) (hb : b < 2 ^ k) (hab : a ≠ b) :
    omega β k a ≠ omega β k b := fun h => hab (hβ a ha b hb h)

omit [CharP K 2] in
theorem Dconst_ne_zero (hβ : Indep β k) {m : ℕ} (hm : m ≤ 2 ^ k) : Dconst β k m ≠ 0 := by
  unfold Dconst
  rw [Finset.prod_ne_zero_iff]
  intro j hj
  rw [mem_Ico] at hj
  rw [← omega_zero β k]
  exact omega_ne hβ (by omega) (Nat.two_pow_pos k) (by omega)

omit [CharP K 2] in
theorem vconst_ne_zero (hβ : Indep β k) {t g : ℕ} (hg : (g + 1) * 2 ^ t < 2 ^ k) :
    vconst β k t g ≠ 0 := by
  unfold vconst
  have h1 : 2 ^ t ≤ (g + 1) * 2 ^ t := Nat.le_mul_of_pos_left _ (Nat.succ_pos g)
  exact div_ne_zero (W_omega_ne_zero hβ hg h1) (Dconst_ne_zero hβ (by omega))

/-- `∏_j (x - ω (off + j)) = W_t(x - ω off) = W_t x + W_t(ω off)` -/
theorem prod_coset {t off : ℕ} (ht : t ≤ k) (hoff : 2 ^ t ∣ off) (x : K) :
    ∏ j ∈ range (2 ^ t), (x - omega β k (off + j)) = W β k t x + W β k t (omega β k off) := by
  rw [← W_add β k ht]
  unfold W
  refine Finset.prod_congr rfl fun j hj => ?_
  rw [omega_add_of_dvd β k hoff (mem_range.mp hj)]
  simp only [CharTwo.sub_eq_add]
  ring

theorem prod_coset_erase {t off i : ℕ} (hoff : 2 ^ t ∣ off) (hi : i < 2 ^ t) :
    ∏ j ∈ (range (2 ^ t)).erase i, (omega β k (off + i) - omega β k (off + j))
      = Dconst β k (2 ^ t) := by
  have h2 : (2 : K) = 0 := CharTwo.two_eq_zero
  unfold Dconst
  refine Finset.prod_nbij' (fun j => i ^^^ j) (fun l => i ^^^ l) ?_ ?_ ?_ ?_ ?_
  · intro j hj
    rw [mem_erase, mem_range] at hj
    rw [mem_Ico]
    exact ⟨Nat.pos_of_ne_zero (Nat.xor_ne_zero_iff.mpr (Ne.symm hj.1)),
      Nat.xor_lt_two_pow hi hj.2⟩
  · intro l hl
    rw [mem_Ico] at hl
    rw [mem_erase, mem_range]
    refine ⟨fun h => ?_, Nat.xor_lt_two_pow hi hl.2⟩
    have h' : i ^^^ (i ^^^ l) = i ^^^ i := congrArg (fun z => i ^^^ z) h
    rw [Nat.xor_xor_cancel_left, Nat.xor_self] at h'
    omega
  · intro j _; exact Nat.xor_xor_cancel_left i j
  · intro l _; exact Nat.xor_xor_cancel_left i l
  · intro j hj
    rw [mem_erase, mem_range] at hj
    rw [omega_xor, omega_add_of_dvd β k hoff hi, omega_add_of_dvd β k hoff hj.2,
      CharTwo.sub_eq_add]
    linear_combination (omega β k off) * h2

theorem P_ifft_eval (hβ : Indep β k) {t off : ℕ} (ht : t ≤ k) (hoff : 2 ^ t ∣ off)
    (hlo : 2 ^ t ≤ off) (hhi : off + 2 ^ t ≤ 2 ^ k) (g : ℕ → K) {r : ℕ} (hr : r < 2 ^ t) :
    P β k t (ifft β k t off g) (omega β k r)
      = ∑ j ∈ range (2 ^ t), g j *
          ((W β k t (omega β k off) / Dconst β k (2 ^ t))
            / (omega β k r - omega β k (off + j))) := by
  classical
  have hinj : Set.InjOn (fun j => omega β k (off + j)) (range (2 ^ t) : Finset ℕ) := by
    intro a ha b hb hab
    have ha' : a < 2 ^ t := by simpa using ha
    have hb' : b < 2 ^ t := by simpa using hb
    have := hβ (off + a) (by omega) (off + b) (by omega) hab
    omega
  have hP : Pp β k t (ifft β k t off g)
      = Lagrange.interpolate (range (2 ^ t)) (fun j => omega β k (off + j)) g := by
    apply Lagrange.eq_interpolate_of_eval_eq _ hinj
    · rw [card_range]; exact degree_Pp_lt β k t _
    · intro j hj
      rw [eval_Pp]
      exact P_ifft hβ ht hoff g (mem_range.mp hj)
  have hx : ∀ j ∈ range (2 ^ t), omega β k r ≠ (fun j => omega β k (off + j)) j := by
    intro j hj
    have hj' := mem_range.mp hj
    exact omega_ne hβ (by omega) (by omega) (by omega)
  rw [← eval_Pp, hP, Lagrange.eval_interpolate_not_at_node _ hx, Lagrange.eval_nodal,
    prod_coset ht hoff, W_omega_eq_zero β k hr, zero_add, Finset.mul_sum]
  refine Finset.sum_congr rfl fun j hj => ?_
  have hw : Lagrange.nodalWeight (range (2 ^ t)) (fun j => omega β k (off + j)) j
      = (Dconst β k (2 ^ t))⁻¹ := by
    unfold Lagrange.nodalWeight
    rw [Finset.prod_inv_distrib, prod_coset_erase hoff (mem_range.mp hj)]
  rw [hw, div_eq_mul_inv, div_eq_mul_inv]
  ring

theorem parity_eq (hβ : Indep β k) {t G : ℕ} (hG : (G + 1) * 2 ^ t ≤ 2 ^ k)
    (data : ℕ → ℕ → K) {r : ℕ} (hr : r < 2 ^ t) :
    parity β k t G data r
      = ∑ g ∈ range G, ∑ j ∈ range (2 ^ t),
          data g j * (vconst β k t g / (omega β k r - omega β k ((g + 1) * 2 ^ t + j))) := by
  have hm := Nat.two_pow_pos t
  have htk : t ≤ k := by
    have h1 : 2 ^ t ≤ (G + 1) * 2 ^ t := Nat.le_mul_of_pos_left _ (Nat.succ_pos G)
    exact (Nat.pow_le_pow_iff_right (by decide)).mp (h1.trans hG)
  unfold parity vconst
  rw [fft_sum_apply]
  refine Finset.sum_congr rfl fun g hg => ?_
  have hg' : g + 1 ≤ G := mem_range.mp hg
  have h1 : (g + 1) * 2 ^ t ≤ G * 2 ^ t := Nat.mul_le_mul_right _ hg'
  have h2 : 2 ^ t ≤ (g + 1) * 2 ^ t := Nat.le_mul_of_pos_left _ (Nat.succ_pos g)
  have h3 : (G + 1) * 2 ^ t = G * 2 ^ t + 2 ^ t := Nat.succ_mul _ _
  rw [fft_correct hβ htk (dvd_zero _) _ hr, zero_add,
    P_ifft_eval hβ htk (Dvd.intro_left _ rfl) h2 (by omega) _ hr]

omit [CharP K 2] in
theorem encMatrix_mds (hβ : Indep β k) {t G p d : ℕ} (hG : (G + 1) * 2 ^ t ≤ 2 ^ k)
    (hp : p ≤ 2 ^ t) (hd : d ≤ G * 2 ^ t) : CodeTheory.MDS (encMatrix β k t p d) := by
  have hm := Nat.two_pow_pos t
  have h3 : (G + 1) * 2 ^ t = G * 2 ^ t + 2 ^ t := Nat.succ_mul _ _
  have hxy : ∀ (r : Fin p) (c : Fin d), omega β k r ≠ omega β k (2 ^ t + c) := fun r c =>
    omega_ne hβ (by have := r.2; omega) (by have := c.2; omega) (by have := r.2; omega)
  refine CodeTheory.gcauchy_mds_fin (fun r => omega β k r) (fun c => omega β k (2 ^ t + c))
    (fun c => vconst β k t ((c : ℕ) / 2 ^ t)) (fun _ => 1) _ ?_ ?_ hxy (fun _ => one_ne_zero) ?_ ?_
  · intro a b h
    have := hβ _ (by have := a.2; omega) _ (by have := b.2; omega) h
    exact Fin.ext (by omega)
  · intro a b h
    have := hβ _ (by have := a.2; omega) _ (by have := b.2; omega) h
    exact Fin.ext this
  · intro c
    apply vconst_ne_zero hβ
    have hc : (c : ℕ) / 2 ^ t < G := (Nat.div_lt_iff_lt_mul hm).mpr (lt_of_lt_of_le c.2 hd)
    have : ((c : ℕ) / 2 ^ t + 1) * 2 ^ t ≤ G * 2 ^ t := Nat.mul_le_mul_right _ hc
    omega
  · intro r c
    unfold encMatrix
    rw [one_mul]
    exact div_mul_cancel₀ _ (sub_ne_zero.mpr (hxy r c))

theorem parity_eq_range (hβ : Indep β k) {t G d : ℕ} (hG : (G + 1) * 2 ^ t ≤ 2 ^ k) (hd : d ≤ G * 2 ^ t)
    (msg : ℕ → K) (hmsg : ∀ c, d ≤ c → msg c = 0) {r : ℕ} (hr : r < 2 ^ t) :
    parity β k t G (fun g j => msg (g * 2 ^ t + j)) r
      = ∑ c ∈ range d, vconst β k t (c / 2 ^ t) / (omega β k r - omega β k (2 ^ t + c)) * msg c := by
  have hm := Nat.two_pow_pos t
  rw [parity_eq hβ hG _ hr,
    Finset.sum_subset (Finset.range_subset_range.mpr hd) (fun c _ hc => by
      rw [hmsg c (by simpa using hc), mul_zero]),
    sum_range_mul_eq]
  refine Finset.sum_congr rfl fun g _ => Finset.sum_congr rfl fun j hj => ?_
  have hdiv : (g * 2 ^ t + j) / 2 ^ t = g := by
    rw [Nat.add_comm, Nat.add_mul_div_right _ _ hm, Nat.div_eq_of_lt (mem_range.mp hj), zero_add]
  have hidx : 2 ^ t + (g * 2 ^ t + j) = (g + 1) * 2 ^ t + j := by ring
  rw [hdiv, hidx]
  ring

end

end RSV.LCH
