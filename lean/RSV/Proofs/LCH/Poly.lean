import RSV.Proofs.LCH.Subspace
import Mathlib.RingTheory.Polynomial.Basic

/-!
The elements of `K[X]` whose evaluations are `W`, `What`, `Xb`, `P`, and their degrees: `Xp j` has degree at most
`j`, so `Pp t a` has degree `< 2^t`.
-/

namespace RSV.LCH
open Finset Polynomial

theorem sum_testBit_two_pow (j k : ℕ) :
    ∑ i ∈ range k, (if j.testBit i then 2 ^ i else 0) = j % 2 ^ k := by
  induction k with
  | zero => simp [Nat.mod_one]
  | succ k ih =>
    rw [Finset.sum_range_succ, ih, Nat.mod_pow_succ, Nat.testBit_eq_decide_div_mod_eq]
    rcases Nat.mod_two_eq_zero_or_one (j / 2 ^ k) with h | h <;> simp [h]

noncomputable section

variable {K : Type*} [Field K] (β : ℕ → K) (k : ℕ)

def Wp (i : ℕ) : K[X] := ∏ j ∈ range (2 ^ i), (X - C (omega β k j))

def Whatp (i : ℕ) : K[X] := C (W β k i (β i))⁻¹ * Wp β k i

def Xp (j : ℕ) : K[X] := ∏ i ∈ range k, if j.testBit i then Whatp β k i else 1

def Pp (t : ℕ) (a : ℕ → K) : K[X] := ∑ j ∈ range (2 ^ t), C (a j) * Xp β k j

@[simp] theorem eval_Wp (i : ℕ) (x : K) : (Wp β k i).eval x = W β k i x := by
  simp [Wp, W, eval_prod]

@[simp] theorem eval_Whatp (i : ℕ) (x : K) : (Whatp β k i).eval x = What β k i x := by
  simp [Whatp, What, div_eq_inv_mul]

@[simp] theorem eval_Xp (j : ℕ) (x : K) : (Xp β k j).eval x = Xb β k j x := by
  unfold Xp Xb
  rw [eval_prod]
  refine Finset.prod_congr rfl fun i _ => ?_
  split <;> simp

@[simp] theorem eval_Pp (t : ℕ) (a : ℕ → K) (x : K) : (Pp β k t a).eval x = P β k t a x := by
  unfold Pp P
  rw [eval_finsetSum]
  refine Finset.sum_congr rfl fun j _ => ?_
  simp

theorem Wp_monic (i : ℕ) : (Wp β k i).Monic :=
  monic_prod_of_monic _ _ fun _ _ => monic_X_sub_C _

theorem natDegree_Wp (i : ℕ) : (Wp β k i).natDegree = 2 ^ i := by
  unfold Wp
  rw [natDegree_prod_of_monic _ _ fun j _ => monic_X_sub_C _]
  simp

theorem natDegree_Whatp_le (i : ℕ) : (Whatp β k i).natDegree ≤ 2 ^ i := by
  unfold Whatp
  exact (natDegree_C_mul_le _ _).trans (natDegree_Wp β k i).le

theorem natDegree_Xp_le (j : ℕ) : (Xp β k j).natDegree ≤ j % 2 ^ k := by
  unfold Xp
  refine (natDegree_prod_le _ _).trans ?_
  rw [← sum_testBit_two_pow]
  refine Finset.sum_le_sum fun i _ => ?_
  split
  · exact natDegree_Whatp_le β k i
  · simp

theorem degree_Pp_lt_of_zero_above {T d : ℕ} {a : ℕ → K}
    (ha : ∀ j, d ≤ j → j < 2 ^ T → a j = 0) : (Pp β k T a).degree < (d : WithBot ℕ) := by
  rw [← mem_degreeLT]
  unfold Pp
  refine Submodule.sum_mem _ fun j hj => ?_
  by_cases hjd : j < d
  · rw [mem_degreeLT]
    refine lt_of_le_of_lt degree_le_natDegree ?_
    have h1 : (C (a j) * Xp β k j).natDegree ≤ j :=
      (natDegree_C_mul_le _ _).trans ((natDegree_Xp_le β k j).trans (Nat.mod_le _ _))
    exact_mod_cast lt_of_le_of_lt h1 hjd
  · rw [ha j (Nat.le_of_not_lt hjd) (mem_range.mp hj), C_0, zero_mul]
    exact Submodule.zero_mem _

theorem degree_Pp_lt (t : ℕ) (a : ℕ → K) : (Pp β k t a).degree < ((2 ^ t : ℕ) : WithBot ℕ) :=
  degree_Pp_lt_of_zero_above β k fun _ hj hlt => absurd hlt (Nat.not_lt.mpr hj)

end

end RSV.LCH
