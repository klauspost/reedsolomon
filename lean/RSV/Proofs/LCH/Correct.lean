import RSV.Proofs.LCH.Transform

/-!
`fft t off` maps coefficients in the novel basis to the values of `P t a` on the coset `ω off + V_t`
(`fft_correct`); `ifft t off` interpolates (`ifft_correct`, `P_ifft`).
-/

namespace RSV.LCH
open Finset

noncomputable section

variable {K : Type*} [Field K] [CharP K 2] {β : ℕ → K} {k : ℕ}

/-- `off + 2^t ≤ 2^k` is not needed -/
theorem fft_correct (hβ : Indep β k) {t off : ℕ} (ht : t ≤ k) (hoff : 2 ^ t ∣ off)
    (a : ℕ → K) {j : ℕ} (hj : j < 2 ^ t) :
    fft β k t off a j = P β k t a (omega β k (off + j)) := by
  induction t generalizing off a j with
  | zero =>
    have : j = 0 := by simpa using hj
    subst this
    simp
  | succ t ih =>
    have htk : t < k := ht
    have hoff' : 2 ^ t ∣ off := dvd_trans (pow_dvd_pow 2 (Nat.le_succ t)) hoff
    have hpow : 2 ^ (t + 1) = 2 ^ t + 2 ^ t := by rw [pow_succ, mul_two]
    rw [fft_succ, P_succ β k htk]
    by_cases hlo : j < 2 ^ t
    · rw [ih (le_of_lt htk) hoff' _ hlo]
      have hlayer : ∀ j' < 2 ^ t, fftLayer β k t off a j'
          = a j' + What β k t (omega β k off) * a (j' + 2 ^ t) := by
        intro j' hj'
        have hlt : j' < 2 ^ (t + 1) := by omega
        have hm : j' % 2 ^ (t + 1) < 2 ^ t := by rw [Nat.mod_eq_of_lt hlt]; exact hj'
        rw [fftLayer_low β k hm]
        unfold twiddle
        rw [Nat.div_eq_of_lt hlt, zero_mul, add_zero]
      rw [P_congr β k hlayer, P_add, P_smul, What_block_low β k htk hoff hlo]
    · obtain ⟨j0, rfl⟩ := Nat.exists_eq_add_of_le (Nat.le_of_not_lt hlo)
      have hj0 : j0 < 2 ^ t := by omega
      rw [Nat.add_comm (2 ^ t) j0, fft_shift β k (dvd_refl _) j0,
        ih (le_of_lt htk) (dvd_add hoff' (dvd_refl _)) _ hj0]
      have hlayer : ∀ j' < 2 ^ t, (fun x => fftLayer β k t off a (x + 2 ^ t)) j'
          = a j' + (What β k t (omega β k off) + 1) * a (j' + 2 ^ t) := by
        intro j' hj'
        have hlt : j' + 2 ^ t < 2 ^ (t + 1) := by omega
        have hm : ¬ (j' + 2 ^ t) % 2 ^ (t + 1) < 2 ^ t := by
          rw [Nat.mod_eq_of_lt hlt]; omega
        show fftLayer β k t off a (j' + 2 ^ t) = _
        rw [fftLayer_high β k hm]
        unfold twiddle
        rw [Nat.div_eq_of_lt hlt, zero_mul, add_zero, Nat.add_sub_cancel]
        ring
      have hx : off + 2 ^ t + j0 = off + (j0 + 2 ^ t) := by omega
      rw [P_congr β k hlayer, P_add, P_smul, hx,
        What_block_high hβ htk hoff (Nat.le_add_left _ _) (by omega)]

theorem fft_correct_block (hβ : Indep β k) {t off : ℕ} (ht : t ≤ k) (hoff : 2 ^ t ∣ off)
    (a : ℕ → K) (c : ℕ) {j : ℕ} (hj : j < 2 ^ t) :
    fft β k t off a (j + c * 2 ^ t)
      = P β k t (fun x => a (x + c * 2 ^ t)) (omega β k (off + c * 2 ^ t + j)) := by
  rw [fft_shift β k (Dvd.intro_left c rfl) j,
    fft_correct hβ ht (dvd_add hoff (Dvd.intro_left c rfl)) _ hj]

theorem ifft_correct (hβ : Indep β k) {t off : ℕ} (ht : t ≤ k) (hoff : 2 ^ t ∣ off)
    (a g : ℕ → K) (hg : ∀ j < 2 ^ t, g j = P β k t a (omega β k (off + j))) :
    ∀ j < 2 ^ t, ifft β k t off g j = a j := by
  intro j hj
  have h1 : ∀ j < 2 ^ t, g j = fft β k t off a j := fun j hj => by
    rw [hg j hj, fft_correct hβ ht hoff a hj]
  rw [ifft_congr β k h1 j hj, ifft_fft]

theorem P_ifft (hβ : Indep β k) {t off : ℕ} (ht : t ≤ k) (hoff : 2 ^ t ∣ off)
    (g : ℕ → K) {j : ℕ} (hj : j < 2 ^ t) :
    P β k t (ifft β k t off g) (omega β k (off + j)) = g j := by
  rw [← fft_correct hβ ht hoff _ hj, fft_ifft]

end

end RSV.LCH
