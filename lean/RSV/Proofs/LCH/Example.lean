import RSV.Proofs.LCH.Encode
import Mathlib.Algebra.Field.ZMod

/-!
The hypotheses of `parity_eq` / `encMatrix_mds` are satisfiable (`K = GF(2)`, `k = 1`), and the axioms of the main
theorems of the Lin–Chung–Han development.
-/

namespace RSV.LCH
open Finset

noncomputable section

section Example

theorem indep_zmod2 : Indep (fun _ => (1 : ZMod 2)) 1 := by
  apply indep_of_omega_ne_zero
  intro j h0 hj
  have hj1 : j = 2 ^ 0 := by omega
  rw [hj1, omega_two_pow _ _ (by decide)]
  exact one_ne_zero

example : CodeTheory.MDS (encMatrix (fun _ => (1 : ZMod 2)) 1 0 1 1) :=
  encMatrix_mds indep_zmod2 (G := 1) (by norm_num) (by norm_num) (by norm_num)

example (data : ℕ → ℕ → ZMod 2) :
    parity (fun _ => (1 : ZMod 2)) 1 0 1 data 0
      = ∑ g ∈ range 1, ∑ j ∈ range (2 ^ 0), data g j *
          (vconst (fun _ => (1 : ZMod 2)) 1 0 g /
            (omega (fun _ => (1 : ZMod 2)) 1 0 - omega (fun _ => (1 : ZMod 2)) 1 ((g + 1) * 2 ^ 0 + j))) :=
  parity_eq indep_zmod2 (by norm_num) data (by norm_num)

end Example

end

end RSV.LCH

#print axioms RSV.LCH.W_add
#print axioms RSV.LCH.W_omega_eq_zero_iff
#print axioms RSV.LCH.What_block_high
#print axioms RSV.LCH.ifft_fft
#print axioms RSV.LCH.fft_ifft
#print axioms RSV.LCH.fft_sum
#print axioms RSV.LCH.ifftLayer_zero_block
#print axioms RSV.LCH.fft_congr_block
#print axioms RSV.LCH.fft_shift
#print axioms RSV.LCH.fft_correct
#print axioms RSV.LCH.ifft_correct
#print axioms RSV.LCH.degree_Pp_lt
#print axioms RSV.LCH.P_ifft_eval
#print axioms RSV.LCH.parity_eq
#print axioms RSV.LCH.encMatrix_mds
#print axioms RSV.LCH.parity_eq_range
