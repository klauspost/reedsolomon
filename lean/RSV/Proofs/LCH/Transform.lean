import RSV.Proofs.LCH.Subspace
import Mathlib.Algebra.Module.LinearMap.Defs
import Mathlib.Algebra.Module.Pi

/-!
The butterfly layers of the Lin–Chung–Han additive FFT on functions `ℕ → K`, and the transforms `fft` / `ifft`
built from them.  A layer pairs `idx` with `idx + 2^i` inside every block of size `2^(i+1)` and applies a butterfly
whose skew factor depends on the block only; what does not depend on the butterfly (locality, shifting, inversion
from inversion of the butterflies) is proved for `layer` with an arbitrary butterfly.
-/

namespace RSV.LCH
open Finset

section Arith

theorem blk_low_gen {N n idx : ℕ} (hN : N = 2 * n) (h : idx % N < n) :
    (idx + n) / N = idx / N ∧ (idx + n) % N = idx % N + n := by
  have hpos : 0 < N := by omega
  have h1 := Nat.div_add_mod idx N
  exact (Nat.div_mod_unique hpos).mpr ⟨by omega, by omega⟩

theorem blk_high_gen {N n idx : ℕ} (hN : N = 2 * n) (hn : 0 < n) (h : ¬ idx % N < n) :
    n ≤ idx ∧ (idx - n) / N = idx / N ∧ (idx - n) % N = idx % N - n := by
  have hpos : 0 < N := by omega
  have h1 := Nat.div_add_mod idx N
  have h2 := Nat.mod_lt idx hpos
  have h3 := Nat.mod_le idx N
  refine ⟨by omega, ?_⟩
  exact (Nat.div_mod_unique hpos).mpr ⟨by omega, by omega⟩

theorem blk_low {i idx : ℕ} (h : idx % 2 ^ (i + 1) < 2 ^ i) :
    (idx + 2 ^ i) / 2 ^ (i + 1) = idx / 2 ^ (i + 1) ∧
      (idx + 2 ^ i) % 2 ^ (i + 1) = idx % 2 ^ (i + 1) + 2 ^ i :=
  blk_low_gen (pow_succ' 2 i) h

theorem blk_high {i idx : ℕ} (h : ¬ idx % 2 ^ (i + 1) < 2 ^ i) :
    2 ^ i ≤ idx ∧ (idx - 2 ^ i) / 2 ^ (i + 1) = idx / 2 ^ (i + 1) ∧
      (idx - 2 ^ i) % 2 ^ (i + 1) = idx % 2 ^ (i + 1) - 2 ^ i :=
  blk_high_gen (pow_succ' 2 i) (Nat.two_pow_pos i) h

theorem blk_low_not {i idx : ℕ} (h : idx % 2 ^ (i + 1) < 2 ^ i) :
    ¬ (idx + 2 ^ i) % 2 ^ (i + 1) < 2 ^ i := by
  rw [(blk_low h).2]; omega

theorem blk_high_lt {i idx : ℕ} (h : ¬ idx % 2 ^ (i + 1) < 2 ^ i) :
    (idx - 2 ^ i) % 2 ^ (i + 1) < 2 ^ i := by
  rw [(blk_high h).2.2]
  have := Nat.mod_lt idx (Nat.two_pow_pos (i + 1))
  rw [pow_succ'] at this ⊢
  omega

theorem div_two_pow_eq_of_le {a b s t : ℕ} (hst : s ≤ t) (h : a / 2 ^ s = b / 2 ^ s) :
    a / 2 ^ t = b / 2 ^ t := by
  obtain ⟨e, rfl⟩ := Nat.exists_eq_add_of_le hst
  rw [pow_add, ← Nat.div_div_eq_div_mul, ← Nat.div_div_eq_div_mul, h]

end Arith

noncomputable section

variable {K : Type*} [Field K] (β : ℕ → K) (k : ℕ)

/-- the skew factor of the butterfly that touches `idx` in layer `i`:
`Ŵ_i(ω(off + b))` with `b` the start of the `2^(i+1)`-block containing `idx` -/
def twiddle (i off idx : ℕ) : K :=
  What β k i (omega β k (off + idx / 2 ^ (i + 1) * 2 ^ (i + 1)))

/-- forward butterfly layer `i`: `x' = x + s·y`, `y' = x' + y` -/
def fftLayer (i off : ℕ) (f : ℕ → K) : ℕ → K := fun idx =>
  if idx % 2 ^ (i + 1) < 2 ^ i then f idx + twiddle β k i off idx * f (idx + 2 ^ i)
  else (f (idx - 2 ^ i) + twiddle β k i off idx * f idx) + f idx

/-- inverse butterfly layer `i`: `y' = x + y`, `x' = x + s·y'` -/
def ifftLayer (i off : ℕ) (f : ℕ → K) : ℕ → K := fun idx =>
  if idx % 2 ^ (i + 1) < 2 ^ i then f idx + twiddle β k i off idx * (f idx + f (idx + 2 ^ i))
  else f (idx - 2 ^ i) + f idx

/-- forward transform of size `2^t`: layers `t-1, t-2, …, 0` (layer `t-1` first) -/
def fft : ℕ → ℕ → (ℕ → K) → ℕ → K
  | 0, _, f => f
  | t + 1, off, f => fft t off (fftLayer β k t off f)

/-- inverse transform of size `2^t`: layers `0, 1, …, t-1` (layer `0` first) -/
def ifft : ℕ → ℕ → (ℕ → K) → ℕ → K
  | 0, _, f => f
  | t + 1, off, f => ifftLayer β k t off (ifft t off f)

@[simp] theorem fft_zero_size (off : ℕ) (f : ℕ → K) : fft β k 0 off f = f := rfl
theorem fft_succ (t off : ℕ) (f : ℕ → K) :
    fft β k (t + 1) off f = fft β k t off (fftLayer β k t off f) := rfl
@[simp] theorem ifft_zero_size (off : ℕ) (f : ℕ → K) : ifft β k 0 off f = f := rfl
theorem ifft_succ (t off : ℕ) (f : ℕ → K) :
    ifft β k (t + 1) off f = ifftLayer β k t off (ifft β k t off f) := rfl

/-- `fftLayer` with the skew factor `twiddle` written out -/
theorem fftLayer_def (i off : ℕ) (f : ℕ → K) : fftLayer β k i off f = fun idx =>
    let b := idx / 2 ^ (i + 1) * 2 ^ (i + 1)
    let s := What β k i (omega β k (off + b))
    if idx % 2 ^ (i + 1) < 2 ^ i then f idx + s * f (idx + 2 ^ i)
    else (f (idx - 2 ^ i) + s * f idx) + f idx := rfl

/-- `ifftLayer` with the skew factor `twiddle` written out -/
theorem ifftLayer_def (i off : ℕ) (f : ℕ → K) : ifftLayer β k i off f = fun idx =>
    let b := idx / 2 ^ (i + 1) * 2 ^ (i + 1)
    let s := What β k i (omega β k (off + b))
    if idx % 2 ^ (i + 1) < 2 ^ i then f idx + s * (f idx + f (idx + 2 ^ i))
    else f (idx - 2 ^ i) + f idx := rfl

/-- layer `i` with the butterfly `B s x y = (x', y')`, `s` the skew factor of the block -/
def layer (B : K → K → K → K × K) (i off : ℕ) (f : ℕ → K) : ℕ → K := fun idx =>
  if idx % 2 ^ (i + 1) < 2 ^ i then (B (twiddle β k i off idx) (f idx) (f (idx + 2 ^ i))).1
  else (B (twiddle β k i off idx) (f (idx - 2 ^ i)) (f idx)).2

def bflyF (s x y : K) : K × K := (x + s * y, (x + s * y) + y)

def bflyI (s x y : K) : K × K := (x + s * (x + y), x + y)

theorem fftLayer_eq_layer : fftLayer β k = layer β k bflyF := rfl

theorem ifftLayer_eq_layer : ifftLayer β k = layer β k bflyI := rfl

variable {i off idx : ℕ} {f : ℕ → K} {B : K → K → K → K × K}

theorem layer_low (h : idx % 2 ^ (i + 1) < 2 ^ i) :
    layer β k B i off f idx = (B (twiddle β k i off idx) (f idx) (f (idx + 2 ^ i))).1 := if_pos h

theorem layer_high (h : ¬ idx % 2 ^ (i + 1) < 2 ^ i) :
    layer β k B i off f idx = (B (twiddle β k i off idx) (f (idx - 2 ^ i)) (f idx)).2 := if_neg h

theorem fftLayer_low (h : idx % 2 ^ (i + 1) < 2 ^ i) :
    fftLayer β k i off f idx = f idx + twiddle β k i off idx * f (idx + 2 ^ i) := if_pos h

theorem fftLayer_high (h : ¬ idx % 2 ^ (i + 1) < 2 ^ i) :
    fftLayer β k i off f idx = (f (idx - 2 ^ i) + twiddle β k i off idx * f idx) + f idx := if_neg h

theorem ifftLayer_low (h : idx % 2 ^ (i + 1) < 2 ^ i) :
    ifftLayer β k i off f idx
      = f idx + twiddle β k i off idx * (f idx + f (idx + 2 ^ i)) := if_pos h

theorem ifftLayer_high (h : ¬ idx % 2 ^ (i + 1) < 2 ^ i) :
    ifftLayer β k i off f idx = f (idx - 2 ^ i) + f idx := if_neg h

theorem twiddle_of_div_eq {idx' : ℕ} (h : idx' / 2 ^ (i + 1) = idx / 2 ^ (i + 1)) :
    twiddle β k i off idx' = twiddle β k i off idx := by
  unfold twiddle; rw [h]

theorem twiddle_add (h : idx % 2 ^ (i + 1) < 2 ^ i) :
    twiddle β k i off (idx + 2 ^ i) = twiddle β k i off idx :=
  twiddle_of_div_eq β k (blk_low h).1

theorem twiddle_sub (h : ¬ idx % 2 ^ (i + 1) < 2 ^ i) :
    twiddle β k i off (idx - 2 ^ i) = twiddle β k i off idx :=
  twiddle_of_div_eq β k (blk_high h).2.1

theorem layer_congr_block {g : ℕ → K} {t c : ℕ} (hit : i < t)
    (h : ∀ idx, idx / 2 ^ t = c → f idx = g idx) :
    ∀ idx, idx / 2 ^ t = c → layer β k B i off f idx = layer β k B i off g idx := by
  intro idx hc
  by_cases hl : idx % 2 ^ (i + 1) < 2 ^ i
  · rw [layer_low β k hl, layer_low β k hl, h idx hc,
      h (idx + 2 ^ i) ((div_two_pow_eq_of_le hit (blk_low hl).1).trans hc)]
  · rw [layer_high β k hl, layer_high β k hl, h idx hc,
      h (idx - 2 ^ i) ((div_two_pow_eq_of_le hit (blk_high hl).2.1).trans hc)]

theorem twiddle_shift {d : ℕ} (hd : 2 ^ (i + 1) ∣ d) :
    twiddle β k i off (idx + d) = twiddle β k i (off + d) idx := by
  obtain ⟨c, rfl⟩ := hd
  unfold twiddle
  rw [Nat.add_mul_div_left _ _ (Nat.two_pow_pos _)]
  congr 2
  ring

theorem layer_shift {d : ℕ} (hd : 2 ^ (i + 1) ∣ d) (idx : ℕ) :
    layer β k B i off f (idx + d) = layer β k B i (off + d) (fun x => f (x + d)) idx := by
  have hmod : (idx + d) % 2 ^ (i + 1) = idx % 2 ^ (i + 1) := by
    obtain ⟨c, rfl⟩ := hd
    exact Nat.add_mul_mod_self_left _ _ _
  by_cases hl : idx % 2 ^ (i + 1) < 2 ^ i
  · rw [layer_low β k hl, layer_low β k (by rw [hmod]; exact hl), twiddle_shift β k hd,
      Nat.add_right_comm idx d]
  · rw [layer_high β k hl, layer_high β k (by rw [hmod]; exact hl), twiddle_shift β k hd,
      Nat.sub_add_comm (blk_high hl).1]

theorem layer_inv {B' : K → K → K → K × K} (h : ∀ s x y, B' s (B s x y).1 (B s x y).2 = (x, y))
    (i off : ℕ) (f : ℕ → K) : layer β k B' i off (layer β k B i off f) = f := by
  funext idx
  by_cases hl : idx % 2 ^ (i + 1) < 2 ^ i
  · rw [layer_low β k hl, layer_low β k hl, layer_high β k (blk_low_not hl), twiddle_add β k hl,
      Nat.add_sub_cancel, h]
  · rw [layer_high β k hl, layer_high β k hl, layer_low β k (blk_high_lt hl), twiddle_sub β k hl,
      Nat.sub_add_cancel (blk_high hl).1, h]

variable (i off f)

theorem bflyI_bflyF [CharP K 2] (s x y : K) : bflyI s (bflyF s x y).1 (bflyF s x y).2 = (x, y) := by
  have h2 : (2 : K) = 0 := CharTwo.two_eq_zero
  refine Prod.ext ?_ ?_
  · show x + s * y + s * (x + s * y + (x + s * y + y)) = x
    linear_combination (s * y + s * x + s ^ 2 * y) * h2
  · show x + s * y + (x + s * y + y) = y
    linear_combination (x + s * y) * h2

theorem bflyF_bflyI [CharP K 2] (s x y : K) : bflyF s (bflyI s x y).1 (bflyI s x y).2 = (x, y) := by
  have h2 : (2 : K) = 0 := CharTwo.two_eq_zero
  refine Prod.ext ?_ ?_
  · show x + s * (x + y) + s * (x + y) = x
    linear_combination (s * (x + y)) * h2
  · show x + s * (x + y) + s * (x + y) + (x + y) = y
    linear_combination (s * (x + y) + x) * h2

theorem ifftLayer_fftLayer [CharP K 2] :
    ifftLayer β k i off (fftLayer β k i off f) = f := by
  rw [fftLayer_eq_layer, ifftLayer_eq_layer]; exact layer_inv β k bflyI_bflyF i off f

theorem fftLayer_ifftLayer [CharP K 2] :
    fftLayer β k i off (ifftLayer β k i off f) = f := by
  rw [fftLayer_eq_layer, ifftLayer_eq_layer]; exact layer_inv β k bflyF_bflyI i off f

theorem ifft_fft [CharP K 2] (t : ℕ) : ifft β k t off (fft β k t off f) = f := by
  induction t generalizing f with
  | zero => rfl
  | succ t ih => rw [fft_succ, ifft_succ, ih, ifftLayer_fftLayer]

theorem fft_ifft [CharP K 2] (t : ℕ) : fft β k t off (ifft β k t off f) = f := by
  induction t generalizing f with
  | zero => rfl
  | succ t ih => rw [fft_succ, ifft_succ, fftLayer_ifftLayer, ih]

theorem fftLayer_add (g : ℕ → K) :
    fftLayer β k i off (f + g) = fftLayer β k i off f + fftLayer β k i off g := by
  funext idx
  by_cases h : idx % 2 ^ (i + 1) < 2 ^ i
  · simp only [Pi.add_apply, fftLayer_low β k h]; ring
  · simp only [Pi.add_apply, fftLayer_high β k h]; ring

theorem fftLayer_smul (c : K) :
    fftLayer β k i off (c • f) = c • fftLayer β k i off f := by
  funext idx
  by_cases h : idx % 2 ^ (i + 1) < 2 ^ i
  · simp only [Pi.smul_apply, smul_eq_mul, fftLayer_low β k h]; ring
  · simp only [Pi.smul_apply, smul_eq_mul, fftLayer_high β k h]; ring

theorem ifftLayer_add (g : ℕ → K) :
    ifftLayer β k i off (f + g) = ifftLayer β k i off f + ifftLayer β k i off g := by
  funext idx
  by_cases h : idx % 2 ^ (i + 1) < 2 ^ i
  · simp only [Pi.add_apply, ifftLayer_low β k h]; ring
  · simp only [Pi.add_apply, ifftLayer_high β k h]; ring

theorem ifftLayer_smul (c : K) :
    ifftLayer β k i off (c • f) = c • ifftLayer β k i off f := by
  funext idx
  by_cases h : idx % 2 ^ (i + 1) < 2 ^ i
  · simp only [Pi.smul_apply, smul_eq_mul, ifftLayer_low β k h]; ring
  · simp only [Pi.smul_apply, smul_eq_mul, ifftLayer_high β k h]; ring

theorem fft_add (t : ℕ) (g : ℕ → K) :
    fft β k t off (f + g) = fft β k t off f + fft β k t off g := by
  induction t generalizing f g with
  | zero => rfl
  | succ t ih => rw [fft_succ, fft_succ, fft_succ, fftLayer_add, ih]

theorem fft_smul (t : ℕ) (c : K) : fft β k t off (c • f) = c • fft β k t off f := by
  induction t generalizing f with
  | zero => rfl
  | succ t ih => rw [fft_succ, fft_succ, fftLayer_smul, ih]

theorem ifft_add (t : ℕ) (g : ℕ → K) :
    ifft β k t off (f + g) = ifft β k t off f + ifft β k t off g := by
  induction t generalizing f g with
  | zero => rfl
  | succ t ih => rw [ifft_succ, ifft_succ, ifft_succ, ih, ifftLayer_add]

theorem ifft_smul (t : ℕ) (c : K) : ifft β k t off (c • f) = c • ifft β k t off f := by
  induction t generalizing f with
  | zero => rfl
  | succ t ih => rw [ifft_succ, ifft_succ, ih, ifftLayer_smul]

def fftLin (t off : ℕ) : (ℕ → K) →ₗ[K] (ℕ → K) where
  toFun := fft β k t off
  map_add' f g := fft_add β k off f t g
  map_smul' c f := fft_smul β k off f t c

def ifftLin (t off : ℕ) : (ℕ → K) →ₗ[K] (ℕ → K) where
  toFun := ifft β k t off
  map_add' f g := ifft_add β k off f t g
  map_smul' c f := ifft_smul β k off f t c

@[simp] theorem fftLin_apply (t off : ℕ) (f : ℕ → K) : fftLin β k t off f = fft β k t off f := rfl
@[simp] theorem ifftLin_apply (t off : ℕ) (f : ℕ → K) :
    ifftLin β k t off f = ifft β k t off f := rfl

theorem fft_zero (t : ℕ) : fft β k t off (0 : ℕ → K) = 0 := (fftLin β k t off).map_zero
theorem ifft_zero (t : ℕ) : ifft β k t off (0 : ℕ → K) = 0 := (ifftLin β k t off).map_zero
theorem fftLayer_zero : fftLayer β k i off (0 : ℕ → K) = 0 := by
  simpa using fftLayer_smul β k i off (0 : ℕ → K) 0
theorem ifftLayer_zero : ifftLayer β k i off (0 : ℕ → K) = 0 := by
  simpa using ifftLayer_smul β k i off (0 : ℕ → K) 0

theorem fft_sum {ι : Type*} (s : Finset ι) (h : ι → ℕ → K) (t : ℕ) :
    fft β k t off (∑ g ∈ s, h g) = ∑ g ∈ s, fft β k t off (h g) :=
  map_sum (fftLin β k t off) h s

theorem ifft_sum {ι : Type*} (s : Finset ι) (h : ι → ℕ → K) (t : ℕ) :
    ifft β k t off (∑ g ∈ s, h g) = ∑ g ∈ s, ifft β k t off (h g) :=
  map_sum (ifftLin β k t off) h s

theorem fft_sum_apply {ι : Type*} (s : Finset ι) (h : ι → ℕ → K) (t idx : ℕ) :
    fft β k t off (fun x => ∑ g ∈ s, h g x) idx = ∑ g ∈ s, fft β k t off (h g) idx := by
  have : (fun x => ∑ g ∈ s, h g x) = ∑ g ∈ s, h g := by
    funext x; rw [Finset.sum_apply]
  rw [this, fft_sum, Finset.sum_apply]

variable {i off f}

theorem fftLayer_congr_block {g : ℕ → K} {t c : ℕ} (hit : i < t)
    (h : ∀ idx, idx / 2 ^ t = c → f idx = g idx) :
    ∀ idx, idx / 2 ^ t = c → fftLayer β k i off f idx = fftLayer β k i off g idx := by
  rw [fftLayer_eq_layer]; exact layer_congr_block β k hit h

theorem ifftLayer_congr_block {g : ℕ → K} {t c : ℕ} (hit : i < t)
    (h : ∀ idx, idx / 2 ^ t = c → f idx = g idx) :
    ∀ idx, idx / 2 ^ t = c → ifftLayer β k i off f idx = ifftLayer β k i off g idx := by
  rw [ifftLayer_eq_layer]; exact layer_congr_block β k hit h

/-- the butterflies of a zero block are no-ops and may be skipped -/
theorem ifftLayer_zero_block {c : ℕ} (h : ∀ idx, idx / 2 ^ (i + 1) = c → f idx = 0) :
    ∀ idx, idx / 2 ^ (i + 1) = c → ifftLayer β k i off f idx = 0 := by
  intro idx hc
  have := ifftLayer_congr_block β k (off := off) (g := 0) (Nat.lt_succ_self i) h idx hc
  rw [this, ifftLayer_zero]; rfl

theorem fftLayer_zero_block {c : ℕ} (h : ∀ idx, idx / 2 ^ (i + 1) = c → f idx = 0) :
    ∀ idx, idx / 2 ^ (i + 1) = c → fftLayer β k i off f idx = 0 := by
  intro idx hc
  have := fftLayer_congr_block β k (off := off) (g := 0) (Nat.lt_succ_self i) h idx hc
  rw [this, fftLayer_zero]; rfl

theorem ifftLayer_zero_interval {c : ℕ}
    (h : ∀ idx, c * 2 ^ (i + 1) ≤ idx → idx < c * 2 ^ (i + 1) + 2 ^ (i + 1) → f idx = 0) :
    ∀ idx, c * 2 ^ (i + 1) ≤ idx → idx < c * 2 ^ (i + 1) + 2 ^ (i + 1) →
      ifftLayer β k i off f idx = 0 := by
  have key : ∀ idx, idx / 2 ^ (i + 1) = c ↔
      (c * 2 ^ (i + 1) ≤ idx ∧ idx < c * 2 ^ (i + 1) + 2 ^ (i + 1)) := by
    intro idx
    have hp := Nat.two_pow_pos (i + 1)
    rw [Nat.div_eq_iff hp]
    constructor
    · rintro ⟨h1, h2⟩; constructor <;> omega
    · rintro ⟨h1, h2⟩; constructor <;> omega
  intro idx h1 h2
  exact ifftLayer_zero_block β k (fun j hj => h j ((key j).mp hj).1 ((key j).mp hj).2) idx
    ((key idx).mpr ⟨h1, h2⟩)

theorem fft_congr_block {g : ℕ → K} {t t' c : ℕ} (htt : t ≤ t')
    (h : ∀ idx, idx / 2 ^ t' = c → f idx = g idx) :
    ∀ idx, idx / 2 ^ t' = c → fft β k t off f idx = fft β k t off g idx := by
  induction t generalizing f g with
  | zero => exact h
  | succ t ih =>
    rw [fft_succ, fft_succ]
    exact ih (Nat.le_of_succ_le htt) (fftLayer_congr_block β k htt h)

theorem ifft_congr_block {g : ℕ → K} {t t' c : ℕ} (htt : t ≤ t')
    (h : ∀ idx, idx / 2 ^ t' = c → f idx = g idx) :
    ∀ idx, idx / 2 ^ t' = c → ifft β k t off f idx = ifft β k t off g idx := by
  induction t generalizing f g with
  | zero => exact h
  | succ t ih =>
    rw [ifft_succ, ifft_succ]
    exact ifftLayer_congr_block β k htt (ih (Nat.le_of_succ_le htt) h)

theorem ifft_zero_block {t t' c : ℕ} (htt : t ≤ t') (h : ∀ idx, idx / 2 ^ t' = c → f idx = 0) :
    ∀ idx, idx / 2 ^ t' = c → ifft β k t off f idx = 0 := by
  intro idx hc
  rw [ifft_congr_block β k (off := off) (g := 0) htt h idx hc, ifft_zero]; rfl

theorem fft_zero_block {t t' c : ℕ} (htt : t ≤ t') (h : ∀ idx, idx / 2 ^ t' = c → f idx = 0) :
    ∀ idx, idx / 2 ^ t' = c → fft β k t off f idx = 0 := by
  intro idx hc
  rw [fft_congr_block β k (off := off) (g := 0) htt h idx hc, fft_zero]; rfl

theorem fft_congr {g : ℕ → K} {t : ℕ} (h : ∀ j < 2 ^ t, f j = g j) :
    ∀ j < 2 ^ t, fft β k t off f j = fft β k t off g j := by
  intro j hj
  refine fft_congr_block β k (le_refl t) (c := 0) (fun idx hidx => h idx ?_) j
    (Nat.div_eq_of_lt hj)
  exact (Nat.div_eq_zero_iff.mp hidx).resolve_left (Nat.two_pow_pos t).ne'

theorem ifft_congr {g : ℕ → K} {t : ℕ} (h : ∀ j < 2 ^ t, f j = g j) :
    ∀ j < 2 ^ t, ifft β k t off f j = ifft β k t off g j := by
  intro j hj
  refine ifft_congr_block β k (le_refl t) (c := 0) (fun idx hidx => h idx ?_) j
    (Nat.div_eq_of_lt hj)
  exact (Nat.div_eq_zero_iff.mp hidx).resolve_left (Nat.two_pow_pos t).ne'

theorem fftLayer_shift {d : ℕ} (hd : 2 ^ (i + 1) ∣ d) (idx : ℕ) :
    fftLayer β k i off f (idx + d) = fftLayer β k i (off + d) (fun x => f (x + d)) idx := by
  rw [fftLayer_eq_layer]; exact layer_shift β k hd idx

theorem ifftLayer_shift {d : ℕ} (hd : 2 ^ (i + 1) ∣ d) (idx : ℕ) :
    ifftLayer β k i off f (idx + d) = ifftLayer β k i (off + d) (fun x => f (x + d)) idx := by
  rw [ifftLayer_eq_layer]; exact layer_shift β k hd idx

theorem fft_shift {t d : ℕ} (hd : 2 ^ t ∣ d) (idx : ℕ) :
    fft β k t off f (idx + d) = fft β k t (off + d) (fun x => f (x + d)) idx := by
  induction t generalizing f with
  | zero => rfl
  | succ t ih =>
    rw [fft_succ, fft_succ, ih (dvd_trans (pow_dvd_pow 2 (Nat.le_succ t)) hd)]
    congr 1
    funext x
    exact fftLayer_shift β k hd x

theorem ifft_shift {t d : ℕ} (hd : 2 ^ t ∣ d) (idx : ℕ) :
    ifft β k t off f (idx + d) = ifft β k t (off + d) (fun x => f (x + d)) idx := by
  induction t generalizing f idx with
  | zero => rfl
  | succ t ih =>
    rw [ifft_succ, ifft_succ, ifftLayer_shift β k hd]
    congr 1
    funext x
    exact ih (dvd_trans (pow_dvd_pow 2 (Nat.le_succ t)) hd) x

end

end RSV.LCH
