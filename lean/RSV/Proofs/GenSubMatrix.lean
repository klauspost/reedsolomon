import RSV.Proofs.GenMatrix
/-!
# `matrix.SubMatrix` of the regenerated `matrix.go` in closed form, for every window

The regenerated loop is evaluated for an arbitrary window `[r0,r1) × [c0,c1)` inside an `n × w` matrix (indices
below the `int` wrap-around): it returns exactly the entries `E (r0+i) (c0+j)` — the frame every caller of
`SubMatrix` relies on.  `Invert` takes the right half of the augmented matrix (`submatrix_right`), `buildMatrix`
the top square (`submatrix_top`).
-/
namespace RSV.GenSubMatrix
open RSV.Gen RSV.GenMatrix RSV.GenFuncs RSV.GenGauss

theorem submatrix_arr (n w : Nat) (E : Nat → Nat → Nat) (r0 c0 r1 c1 : Nat)
    (hr : r0 < r1) (hc : c0 < c1) (hrn : r1 ≤ n) (hcw : c1 ≤ w)
    (hbr : r1 < 2 ^ 63) (hbc : c1 < 2 ^ 63) :
    matrix_SubMatrix (arr n w E) (r0 : Int) (c0 : Int) (r1 : Int) (c1 : Int) =
      some (arr (r1 - r0) (c1 - c0) (fun i j => E (r0 + i) (c0 + j)), none) := by
  unfold matrix_SubMatrix
  rw [i64_id (x := (r1 : Int) - r0) (by omega) (by omega), i64_id (x := (c1 : Int) - c0) (by omega) (by omega),
    show (r1 : Int) - r0 = ((r1 - r0 : Nat) : Int) by omega, show (c1 : Int) - c0 = ((c1 - c0 : Nat) : Int) by omega,
    newMatrix_eq (r1 - r0) (c1 - c0) (by omega) (by omega)]
  simp only [Option.bind_eq_bind, Option.bind_some, ne_eq, not_true_eq_false, if_false,
    Int.ofNat_eq_natCast]
  have hN : ((r1 : Int) - r0).toNat = r1 - r0 := by omega
  have hW : ((c1 : Int) - c0).toNat = c1 - c0 := by omega
  rw [hN, hW, forIn_rows_all (r1 - r0) (c1 - c0) (fun _ _ => 0) (fun i j => E (r0 + i) (c0 + j))]
  · rfl
  · intro r hr' E' _
    rw [i64_id (x := (r0 : Int) + (r : Int) - (r0 : Int)) (by omega) (by omega),
      show (r0 : Int) + (r : Int) - (r0 : Int) = (r : Int) by omega,
      show ((r0 : Int) + (r : Int)) = ((r0 + r : Nat) : Int) by omega]
    simp only [gidx_arr (show r0 + r < n by omega), Option.bind_some]
    rw [forIn_cols_all (r1 - r0) (c1 - c0) r E' (fun c => E (r0 + r) (c0 + c)), Option.bind_some]
    · refine ⟨_, rfl, fun i j _ _ => ?_⟩
      by_cases hi : i = r
      · subst hi; simp
      · simp [hi]
    · intro c hc' E'' _
      rw [show ((c0 : Int) + (c : Int)) = ((c0 + c : Nat) : Int) by omega, gidx_mkRow (by omega),
        Option.bind_some, i64_id (by omega) (by omega),
        show (((c0 + c : Nat) : Int) - (c0 : Int)) = (c : Int) by omega, gset2_arr _ hr' hc', Option.bind_some]
      rfl

theorem submatrix_right (n w : Nat) (E : Nat → Nat → Nat) (hn : 0 < n) (hw : n + n ≤ w)
    (hb : n < 2 ^ 62) :
    matrix_SubMatrix (arr n w E) 0 (n : Int) (n : Int) (i64 ((n : Int) * 2)) =
      some (arr n n (fun i j => E i (n + j)), none) := by
  have h := submatrix_arr n w E 0 n n (n + n) hn (by omega) (Nat.le_refl _) hw (by omega) (by omega)
  rw [i64_id (x := (n : Int) * 2) (by omega) (by omega), show (n : Int) * 2 = ((n + n : Nat) : Int) by omega]
  simpa using h

theorem submatrix_top (n d : Nat) (V : Nat → Nat → Nat) (hd : 0 < d) (hdn : d ≤ n)
    (hb : d < 2 ^ 63) :
    matrix_SubMatrix (arr n d V) 0 0 (d : Int) (d : Int) = some (arr d d V, none) := by
  have h := submatrix_arr n d V 0 0 d d hd hd hdn (Nat.le_refl _) hb hb
  simpa using h

end RSV.GenSubMatrix
