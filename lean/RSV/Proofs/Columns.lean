import RSV.Model.Codec
import RSV.Proofs.Gauss
import RSV.Proofs.CodeTheory

/-!
Everything in `Encode` / `Verify` / `EncodeIdx` / `Update` is a statement about one byte position
`k` at a time: byte `k` of parity shard `r` is `∑ c, A r c * (data c)[k]`.  This file provides
that reading of `RSV.Model.Codec` over any `Field F`.
-/

namespace RSV.Model

variable {F : Type} [Field F] {d p len : ℕ}

theorem encodeRow_getElem (row : Fin d → F) (data : Fin d → Shard F len) (k : Fin len) :
    (encodeRow row data)[k] = ∑ c, row c * (data c)[k] := by
  simp [encodeRow, finSum_eq_sum]

/-! From here on the lemmas write `s[k]'k.2` for `s[k]` with `k : Fin len`: the same term, without
the search for the bound that `s[k]` starts, which is slow with Mathlib's simp set loaded. -/

theorem encodeSpec_getElem (A : Mat F p d) (data : Fin d → Shard F len) (r : Fin p) (k : Fin len) :
    (encodeSpec A data r)[k]'k.2 = ∑ c, A.get r c * (data c)[k]'k.2 := by
  simp [encodeSpec, encodeRow, finSum_eq_sum]

theorem encodeIdxStep_getElem (A : Mat F p d) (par : Fin p → Shard F len) (c : Fin d)
    (s : Shard F len) (r : Fin p) (k : Fin len) :
    (encodeIdxStep A par c s r)[k]'k.2 = (par r)[k]'k.2 + A.get r c * s[k]'k.2 := by
  simp [encodeIdxStep]

theorem encodeAll_of_lt (A : Mat F p d) (data : Fin d → Shard F len) (i : Fin (d + p))
    (h : i.val < d) : encodeAll A data i = data ⟨i.val, h⟩ := by
  unfold encodeAll; rw [dif_pos h]

theorem encodeAll_of_ge (A : Mat F p d) (data : Fin d → Shard F len) (i : Fin (d + p))
    (h : ¬ i.val < d) :
    encodeAll A data i = encodeSpec A data ⟨i.val - d, by omega⟩ := by
  unfold encodeAll; rw [dif_neg h]

/-- the summand `Update` adds for data shard `c` -/
def updTerm (A : Mat F p d) (old newData : Fin d → Option (Shard F len)) (r : Fin p) (k : Fin len)
    (c : Fin d) : F :=
  match newData c, old c with
  | some nw, some od => A.get r c * (nw[k]'k.2 - od[k]'k.2)
  | _, _ => 0

theorem updateSpec_getElem (A : Mat F p d) (old : Fin d → Option (Shard F len))
    (par : Fin p → Shard F len) (newData : Fin d → Option (Shard F len)) (r : Fin p) (k : Fin len) :
    (updateSpec A old par newData r)[k]'k.2 = (par r)[k]'k.2 + ∑ c, updTerm A old newData r k c := by
  simp only [updateSpec, finSum_eq_sum, Fin.getElem_fin, Vector.getElem_ofFn]
  rfl

omit [Field F] in
theorem shard_ext {s t : Shard F len} (h : ∀ k : Fin len, s[k]'k.2 = t[k]'k.2) : s = t :=
  Vector.ext fun i hi => h ⟨i, hi⟩

omit [Field F] in
theorem parity_ext {P Q : Fin p → Shard F len} (h : ∀ r (k : Fin len), (P r)[k]'k.2 = (Q r)[k]'k.2) :
    P = Q :=
  funext fun r => shard_ext (h r)

theorem verifySpec_eq_true_iff [DecidableEq F] (A : Mat F p d) (data : Fin d → Shard F len)
    (par : Fin p → Shard F len) :
    verifySpec A data par = true ↔ ∀ r, par r = encodeSpec A data r := by
  simp [verifySpec]

theorem verifySpec_eq_false_iff [DecidableEq F] (A : Mat F p d) (data : Fin d → Shard F len)
    (par : Fin p → Shard F len) :
    verifySpec A data par = false ↔ ∃ r, par r ≠ encodeSpec A data r := by
  simp [verifySpec]

theorem verifySpec_encodeSpec_iff [DecidableEq F] (A : Mat F p d) (data data' : Fin d → Shard F len) :
    verifySpec A data' (encodeSpec A data) = true ↔
      ∀ r (k : Fin len), ∑ c, A.get r c * ((data' c)[k]'k.2 - (data c)[k]'k.2) = 0 := by
  simp only [verifySpec_eq_true_iff, mul_sub, Finset.sum_sub_distrib, sub_eq_zero,
    ← encodeSpec_getElem]
  exact ⟨fun h r k => by rw [h r], fun h r => shard_ext fun k => (h r k).symm⟩

theorem foldl_encodeIdxStep_getElem (A : Mat F p d) (data : Fin d → Shard F len)
    (order : List (Fin d)) (par0 : Fin p → Shard F len) (r : Fin p) (k : Fin len) :
    ((order.foldl (fun par c => encodeIdxStep A par c (data c)) par0) r)[k]'k.2
      = (par0 r)[k]'k.2 + (order.map fun c => A.get r c * (data c)[k]'k.2).sum := by
  induction order generalizing par0 with
  | nil => simp
  | cons c rest ih =>
    rw [List.foldl_cons, ih, encodeIdxStep_getElem, List.map_cons, List.sum_cons, add_assoc]

theorem foldl_encodeIdxStep_nodup (A : Mat F p d) (data : Fin d → Shard F len)
    (order : List (Fin d)) (hnd : order.Nodup) (par0 : Fin p → Shard F len) (r : Fin p)
    (k : Fin len) :
    ((order.foldl (fun par c => encodeIdxStep A par c (data c)) par0) r)[k]'k.2
      = (par0 r)[k]'k.2 + ∑ c, if c ∈ order then A.get r c * (data c)[k]'k.2 else 0 := by
  rw [foldl_encodeIdxStep_getElem, ← List.sum_toFinset _ hnd, ← Finset.sum_filter]
  congr 2
  ext c; simp

theorem updTerm_none (A : Mat F p d) (old newData : Fin d → Option (Shard F len)) (r : Fin p)
    (k : Fin len) (c : Fin d) (h : newData c = none) : updTerm A old newData r k c = 0 := by
  unfold updTerm; rw [h]

theorem updTerm_some (A : Mat F p d) (old newData : Fin d → Option (Shard F len)) (r : Fin p)
    (k : Fin len) (c : Fin d) (nw od : Shard F len) (h : newData c = some nw)
    (h' : old c = some od) : updTerm A old newData r k c = A.get r c * (nw[k]'k.2 - od[k]'k.2) := by
  unfold updTerm; rw [h, h']

end RSV.Model
