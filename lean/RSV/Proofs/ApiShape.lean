import RSV.Model.Api
/-!
What the definitions of `RSV.Model.Api` do, as lemmas: `shardSize` and `checkShards` on lists,
the slice conditions `codeOob` / `updateOob`, and Prop-valued forms of `newFF`, `new`, `update`
and of the mode decoding of `reconstruct`.  Core Lean only.
-/
namespace RSV

theorem ite_ne {α : Type} {c : Prop} [Decidable c] {a b x : α} (ha : a ≠ x)
    (hb : ¬ c → b ≠ x) : (if c then a else b) ≠ x := by
  by_cases h : c
  · rw [if_pos h]; exact ha
  · rw [if_neg h]; exact hb h

theorem ite_eq {α : Type} {c : Prop} [Decidable c] {a b x : α} (ha : c → a = x)
    (hb : ¬ c → b = x) : (if c then a else b) = x := by
  by_cases h : c
  · rw [if_pos h]; exact ha h
  · rw [if_neg h]; exact hb h

theorem ite_congr_else {α : Type} {c : Prop} [Decidable c] {a b b' : α} (h : ¬ c → b = b') :
    (if c then a else b) = if c then a else b' := by
  by_cases hc : c
  · rw [if_pos hc, if_pos hc]
  · rw [if_neg hc, if_neg hc]; exact h hc

end RSV

namespace RSV.Model.Api

theorem shardSize_cons (x : Sh) (t : List Sh) :
    shardSize (x :: t) = if x.len ≠ 0 then x.len else shardSize t := by
  unfold shardSize
  by_cases h : x.len = 0 <;> simp [h]

theorem shardSize_eq_zero_iff (s : List Sh) : shardSize s = 0 ↔ ∀ x ∈ s, x.len = 0 := by
  induction s with
  | nil => exact ⟨nofun, fun _ => rfl⟩
  | cons a t ih =>
    rw [shardSize_cons, List.forall_mem_cons]
    by_cases h : a.len = 0
    · rw [if_neg (not_not_intro h), ih]; exact ⟨fun h' => ⟨h, h'⟩, fun h' => h'.2⟩
    · rw [if_pos h]; exact ⟨fun h' => absurd h' h, fun h' => absurd h'.1 h⟩

theorem shardSize_mem (s : List Sh) (h : shardSize s ≠ 0) : ∃ z ∈ s, z.len = shardSize s := by
  induction s with
  | nil => exact absurd rfl h
  | cons a t ih =>
    rw [shardSize_cons] at h ⊢
    by_cases ha : a.len = 0
    · rw [if_neg (not_not_intro ha)] at h ⊢
      obtain ⟨z, hz, e⟩ := ih h
      exact ⟨z, List.mem_cons_of_mem _ hz, e⟩
    · rw [if_pos ha]; exact ⟨a, List.mem_cons_self, rfl⟩

theorem shardSize_of_all (s : List Sh) (n : Nat) (hne : s ≠ []) (h : ∀ x ∈ s, x.len = n) :
    shardSize s = n := by
  by_cases hz : shardSize s = 0
  · obtain ⟨a, ha⟩ := List.exists_mem_of_ne_nil s hne
    rw [hz, ← h a ha, (shardSize_eq_zero_iff s).mp hz a ha]
  · obtain ⟨z, hz, e⟩ := shardSize_mem s hz
    rw [← e, h z hz]

theorem checkShards_eq (s : List Sh) (nilok : Bool) : checkShards s nilok =
    if shardSize s = 0 then some .shardNoData
    else if s.any (fun x => x.len ≠ shardSize s && (x.len ≠ 0 || !nilok)) then some .shardSize
    else none := rfl

theorem checkShards_cases (s : List Sh) (nilok : Bool) :
    checkShards s nilok = none ∨ checkShards s nilok = some .shardNoData ∨
      checkShards s nilok = some .shardSize := by
  rw [checkShards_eq]
  split
  · exact .inr (.inl rfl)
  · split
    · exact .inr (.inr rfl)
    · exact .inl rfl

theorem checkShards_eq_noData_iff (s : List Sh) (nilok : Bool) :
    checkShards s nilok = some .shardNoData ↔ shardSize s = 0 := by
  rw [checkShards_eq]
  by_cases h0 : shardSize s = 0
  · rw [if_pos h0]; exact ⟨fun _ => h0, fun _ => rfl⟩
  · rw [if_neg h0]
    refine ⟨fun h => ?_, fun h => absurd h h0⟩
    split at h <;> cases h

theorem checkShards_eq_none_iff (s : List Sh) (nilok : Bool) :
    checkShards s nilok = none ↔
      shardSize s ≠ 0 ∧ ∀ x ∈ s, x.len = shardSize s ∨ (x.len = 0 ∧ nilok = true) := by
  rw [checkShards_eq]
  by_cases h0 : shardSize s = 0
  · rw [if_pos h0]; exact ⟨nofun, fun h => absurd h0 h.1⟩
  · rw [if_neg h0]
    by_cases hany : (s.any fun x => x.len ≠ shardSize s && (x.len ≠ 0 || !nilok)) = true
    · rw [if_pos hany]
      refine ⟨nofun, fun ⟨_, hall⟩ => ?_⟩
      obtain ⟨x, hx, hb⟩ := List.any_eq_true.mp hany
      simp only [Bool.and_eq_true, Bool.or_eq_true, decide_eq_true_eq, Bool.not_eq_true'] at hb
      rcases hall x hx with h | ⟨h, hn⟩
      · exact absurd h hb.1
      · rcases hb.2 with h' | h'
        · exact absurd h h'
        · rw [hn] at h'; cases h'
    · rw [if_neg hany]
      refine ⟨fun _ => ⟨h0, fun x hx => ?_⟩, fun _ => rfl⟩
      apply Decidable.byContradiction
      intro hn
      simp only [not_or, not_and, Bool.not_eq_true] at hn
      refine hany (List.any_eq_true.mpr ⟨x, hx, ?_⟩)
      simp only [Bool.and_eq_true, Bool.or_eq_true, decide_eq_true_eq, Bool.not_eq_true']
      refine ⟨hn.1, ?_⟩
      by_cases hl : x.len = 0
      · exact .inr (hn.2 hl)
      · exact .inl hl

theorem checkShards_size_ne_zero (s : List Sh) (b : Bool) (h : checkShards s b = none) :
    shardSize s ≠ 0 :=
  ((checkShards_eq_none_iff s b).mp h).1

theorem checkShards_len (l : List Sh) (nilok : Bool) (h : checkShards l nilok = none) (x : Sh)
    (hx : x ∈ l) (hl : x.len ≠ 0) : x.len = shardSize l :=
  (((checkShards_eq_none_iff l nilok).mp h).2 x hx).resolve_right fun h' => hl h'.1

theorem checkShards_false_all (s : List Sh) (h : checkShards s false = none) (x : Sh) (hx : x ∈ s) :
    x.len = shardSize s :=
  (((checkShards_eq_none_iff s false).mp h).2 x hx).resolve_right fun h' => nomatch h'.2

theorem checkShards_of_all (s : List Sh) (n : Nat) (nilok : Bool) (hne : s ≠ []) (hn : n ≠ 0)
    (h : ∀ x ∈ s, x.len = n) : checkShards s nilok = none := by
  have hs := shardSize_of_all s n hne h
  rw [checkShards_eq_none_iff, hs]
  exact ⟨hn, fun x hx => .inl (h x hx)⟩

theorem idx?_isSome {α : Type} (l : List α) (i : Nat) (h : i < l.length) : (idx? l i).isSome = true := by
  unfold idx?
  rw [List.getElem?_eq_getElem h]; rfl

theorem all_range_idx {α : Type} (l : List α) (n off : Nat) (h : off + n ≤ l.length) :
    ((List.range n).all fun j => (idx? l (off + j)).isSome) = true :=
  List.all_eq_true.mpr fun j hj =>
    idx?_isSome l _ (by have := List.mem_range.mp hj; omega)

theorem all_range_idx0 {α : Type} (l : List α) (n : Nat) (h : n ≤ l.length) :
    ((List.range n).all fun j => (idx? l j).isSome) = true := by
  simpa only [Nat.zero_add] using all_range_idx l n 0 (by omega)

theorem idx?_zero {α : Type} (l : List α) (h : l ≠ []) : ∃ a, idx? l 0 = some a ∧ a ∈ l := by
  cases l with
  | nil => exact absurd rfl h
  | cons a t => exact ⟨a, rfl, List.mem_cons_self⟩

@[simp] theorem resliceOob_false (x : Sh) (n : Nat) : resliceOob x n = false := by
  unfold resliceOob
  split
  · exact decide_eq_false (by omega)
  · rfl

theorem codeOob_false (inputs outputs : List Nat) (n : Nat)
    (hi : outputs ≠ [] → inputs ≠ [] ∧ ∀ l ∈ inputs, l = n)
    (ho : ∀ l ∈ outputs, l = n) : codeOob inputs outputs n = false := by
  unfold codeOob
  cases outputs with
  | nil => rfl
  | cons o os =>
    obtain ⟨hne, hi⟩ := hi (List.cons_ne_nil _ _)
    cases inputs with
    | nil => exact absurd rfl hne
    | cons a t =>
      have ha : a = n := hi a List.mem_cons_self
      simp only [List.isEmpty_cons, Bool.false_eq_true, if_false, Bool.or_eq_false_iff,
        List.any_eq_false, Bool.or_eq_true, decide_eq_true_eq]
      exact ⟨fun l hl => by have := hi l hl; omega, fun l hl => by have := ho l hl; omega⟩

theorem codeOob_take (s : List Sh) (d n : Nat) (outs : List Nat) (hd : 0 < d) (hne : s ≠ [])
    (hall : ∀ x ∈ s, x.len = n) (ho : ∀ l ∈ outs, l = n) :
    codeOob ((s.take d).map (·.len)) outs n = false := by
  refine codeOob_false _ _ _ (fun _ => ⟨?_, fun l hl => ?_⟩) ho
  · intro h
    have := congrArg List.length h
    rw [List.length_map, List.length_take, List.length_nil] at this
    have := List.length_pos_iff.mpr hne
    omega
  · obtain ⟨x, hx, rfl⟩ := List.mem_map.mp hl
    exact hall x (List.mem_of_mem_take hx)

theorem present_len (s : List Sh) (hc : checkShards s true = none) (i : Nat)
    (h : presentAt s i = true) : (shAt s i).len = shardSize s := by
  have h' : (shAt s i).len ≠ 0 := of_decide_eq_true h
  refine checkShards_len s true hc _ ?_ h'
  unfold shAt at h' ⊢
  rw [List.getD_eq_getElem?_getD] at h' ⊢
  cases hi : s[i]? with
  | none => rw [hi] at h'; exact absurd rfl h'
  | some x => exact List.mem_of_getElem? hi

theorem count_split (f : Nat → Bool) (d p : Nat) :
    ((List.range (d + p)).filter f).length ≤ ((List.range d).filter f).length + p := by
  rw [List.range_add, List.filter_append, List.length_append]
  have := List.length_filter_le f (List.map (fun x => d + x) (List.range p))
  simp only [List.length_map, List.length_range] at this
  omega

theorem count_missing (f g : Nat → Bool) (d p : Nat) (hg : ∀ i, g i = true → f i = false)
    (hnp : d ≤ ((List.range (d + p)).filter f).length) : ((List.range d).filter g).length ≤ p := by
  have h1 := count_split f d p
  have h2 := List.length_eq_countP_add_countP f (l := List.range d)
  have h3 : List.countP g (List.range d) ≤ List.countP (fun a => decide ¬f a = true) (List.range d) :=
    List.countP_mono_left fun x _ hx => by simp [hg x hx]
  simp only [List.countP_eq_length_filter, List.length_range] at h2 h3
  omega

theorem rsRegen_missing (d p : Nat) (s : List Sh) (dataOnly : Bool) (required : Option (List Bool))
    (i : Nat) (h : rsRegen d p s dataOnly required i = true) : presentAt s i = false := by
  unfold rsRegen at h
  simp only [Bool.and_eq_true, Bool.not_eq_true'] at h
  exact h.1

/-- first pass: at most `p` outputs, and the `d` inputs are present shards -/
theorem rsPass1Oob_false (d p : Nat) (s : List Sh) (regen : Nat → Bool)
    (hreg : ∀ i, regen i = true → presentAt s i = false)
    (hc : checkShards s true = none)
    (hnp : d ≤ ((List.range (d + p)).filter (presentAt s)).length) :
    rsPass1Oob d p s regen = false := by
  unfold rsPass1Oob
  have hlen : (List.take d ((List.range (d + p)).filter (presentAt s))).length = d := by
    rw [List.length_take]; omega
  simp only [Bool.or_eq_false_iff, decide_eq_false_iff_not, Nat.not_lt, resliceOob_false,
    List.any_eq_false, Bool.false_eq_true, not_false_eq_true, implies_true, and_true, hlen,
    Nat.sub_self, List.replicate_zero, List.append_nil]
  refine ⟨count_missing (presentAt s) _ d p hreg hnp, codeOob_false _ _ _ (fun hout => ⟨?_, ?_⟩)
    fun l hl => List.eq_of_mem_replicate hl⟩
  · intro hnil
    have := congrArg List.length hnil
    rw [List.length_map, hlen] at this
    subst this
    exact hout rfl
  · intro l hl
    obtain ⟨i, hi, rfl⟩ := List.mem_map.mp hl
    exact present_len s hc i (List.mem_filter.mp (List.mem_of_mem_take hi)).2

/-- second pass: it reads all data shards; when a parity shard is an output, the first pass has
regenerated every missing data shard (`rsParityRequired`) -/
theorem rsPass2Oob_false (d p : Nat) (s : List Sh) (dataOnly : Bool) (required : Option (List Bool))
    (hd : 0 < d) (hc : checkShards s true = none) (hdo : dataOnly = false)
    (hmask : ∀ l, required = some l → l.length = d + p) :
    rsPass2Oob d p s required (rsRegen d p s dataOnly required) = false := by
  unfold rsPass2Oob
  simp only [Bool.or_eq_false_iff, decide_eq_false_iff_not, Nat.not_lt, resliceOob_false,
    List.any_eq_false, Bool.false_eq_true, not_false_eq_true, implies_true, and_true]
  have hout := List.length_filter_le
    (fun j => !presentAt s (d + j) && reqAt required (d + j)) (List.range p)
  rw [List.length_range] at hout
  refine ⟨hout, codeOob_false _ _ _ (fun hout => ⟨?_, ?_⟩) fun l hl => List.eq_of_mem_replicate hl⟩
  · intro hnil
    have := congrArg List.length hnil
    rw [List.length_map, List.length_range, List.length_nil] at this
    omega
  · -- some parity shard `d + j` is missing and requested
    have hne : (List.range p).filter (fun j => !presentAt s (d + j) && reqAt required (d + j)) ≠ [] :=
      fun h => hout (by rw [h]; rfl)
    obtain ⟨j, hj⟩ := List.exists_mem_of_ne_nil _ hne
    rw [List.mem_filter, List.mem_range] at hj
    simp only [Bool.and_eq_true, Bool.not_eq_true'] at hj
    obtain ⟨hjp, hjm, hjr⟩ := hj
    -- hence every missing data shard was regenerated
    have hregen : ∀ i, presentAt s i = false → rsRegen d p s dataOnly required i = true := by
      intro i hi
      unfold rsRegen
      simp only [hi, Bool.not_false, Bool.true_and, hdo, Bool.and_true, Bool.or_eq_true]
      cases required with
      | none => exact .inl rfl
      | some l =>
        have hl := hmask l rfl
        refine .inr (List.any_eq_true.mpr ⟨d + j, List.mem_range.mpr (by omega), ?_⟩)
        simp only [reqAt] at hjr
        simp only [hjm, Bool.not_false, Bool.true_and, Bool.and_eq_true, decide_eq_true_eq]
        exact ⟨⟨by omega, hjr⟩, by omega⟩
    intro l hl
    obtain ⟨i, _, rfl⟩ := List.mem_map.mp hl
    cases hp : presentAt s i with
    | true => simp only [if_true]; exact present_len s hc i hp
    | false => simp only [Bool.false_eq_true, if_false, hregen i hp, if_true]

theorem rsReconOob_false (d p : Nat) (s : List Sh) (dataOnly : Bool) (required : Option (List Bool))
    (hd : 0 < d) (hc : checkShards s true = none)
    (hnp : d ≤ ((List.range (d + p)).filter (presentAt s)).length)
    (hmask : ∀ l, required = some l → dataOnly = false → l.length = d + p) :
    rsReconOob d p s dataOnly required = false := by
  unfold rsReconOob
  simp only []
  rw [rsPass1Oob_false d p s _ (rsRegen_missing d p s dataOnly required) hc hnp]
  cases dataOnly with
  | true => rfl
  | false =>
    rw [rsPass2Oob_false d p s false required hd hc rfl (fun l hl => hmask l hl rfl)]
    rfl

theorem leoReconOob_false (d p : Nat) (s : List Sh) (recoverAll : Bool)
    (hc : checkShards s true = none) : leoReconOob d p s recoverAll = false := by
  unfold leoReconOob
  simp only [Bool.or_eq_false_iff, List.any_eq_false, resliceOob_false, Bool.and_false,
    Bool.false_eq_true, not_false_eq_true, implies_true, true_and]
  refine ⟨fun i _ h => ?_, fun i hi h => ?_⟩
  · simp only [Bool.and_eq_true, decide_eq_true_eq] at h
    have := present_len s hc i h.1
    omega
  · -- a missing shard below `fin` is regenerated to `shardSize` bytes
    simp only [Bool.and_eq_true, Bool.not_eq_true', decide_eq_true_eq] at h
    obtain ⟨hm, h⟩ := h
    rw [List.mem_range] at hi
    cases recoverAll with
    | true => simp [hm] at h
    | false => simp [hm, show i < d from hi] at h

/-- the mask of `ReconstructSome`, if any -/
def rsRequired : RMode → Option (List Bool)
  | .some r => r
  | _ => none

/-- `dataOnly` of the matrix codec's `reconstruct`: from the length of the mask, or `b` without one -/
@[simp] def rsDataOnly (d p : Nat) (b : Bool) : Option (List Bool) → Bool
  | some l => l.length ≠ d + p
  | none => b

/-- `dataOnly` of a call without a mask -/
def rsFlag : RMode → Bool
  | .all => false
  | _ => true

/-- `recoverAll` of the Leopard `reconstruct` -/
def leoRecoverAll (d p : Nat) : RMode → Bool
  | .all => true
  | .data => false
  | .some r => (match r with | some l => l.length = d + p | none => false)

theorem rsDataOnly_inv (d p : Nat) (b : Bool) (required : Option (List Bool)) (l : List Bool)
    (h : required = some l) (h' : rsDataOnly d p b required = false) : l.length = d + p := by
  subst h
  exact Decidable.of_not_not (of_decide_eq_false h')

theorem rsRequired_eq_some (m : RMode) (l : List Bool) : rsRequired m = some l ↔ m = .some (some l) := by
  cases m with
  | all => exact ⟨nofun, nofun⟩
  | data => exact ⟨nofun, nofun⟩
  | some r => exact ⟨fun h => congrArg RMode.some h, fun h => RMode.some.inj h⟩

/-- the matrix codec's branch of `reconstruct` for a decoded mode -/
def reconRs (d p : Nat) (s : List Sh) (dataOnly : Bool) (required : Option (List Bool)) : Outcome :=
  if s.length ≠ d + p || (match required with | some l => l.length < d | none => false) then .err .tooFewShards
  else match checkShards s true with
    | some e => .err e
    | none =>
      let numberPresent := ((List.range (d + p)).filter (presentAt s)).length
      let dataPresent := ((List.range d).filter (presentAt s)).length
      let shardIdxOk := (List.range (d + p)).all fun i => (idx? s i).isSome
      let missingRequired := match required with
        | none => 0
        | some l => ((List.range (d + p)).filter fun i => !presentAt s i && i < l.length && l.getD i false).length
      if !shardIdxOk then .panic
      else if numberPresent = d + p || (dataOnly && dataPresent = d) || (required.isSome && missingRequired = 0) then .ok
      else if numberPresent < d then .err .tooFewShards
      else
        let decodeIdxOk := match required with
          | none => true
          | some l => (List.range d).all fun i => (idx? l i).isSome
        let parityIdxOk := dataOnly || (match required with
          | none => true
          | some l => (List.range p).all fun j => (idx? l (d + j)).isSome)
        if decodeIdxOk && parityIdxOk then
          if rsReconOob d p s dataOnly required then .panic else .ok
        else .panic

theorem reconstruct_rs8 (d p : Nat) (s : List Sh) (m : RMode) :
    reconstruct .rs8 d p s m =
      reconRs d p s (rsDataOnly d p (rsFlag m) (rsRequired m)) (rsRequired m) := by
  cases m <;> rfl

/-- the Leopard branch of `reconstruct` for a decoded mode -/
def reconLeo (d p : Nat) (s : List Sh) (recoverAll : Bool) : Outcome :=
  if s.length ≠ d + p then .err .tooFewShards
  else match checkShards s true with
    | some e => .err e
    | none =>
      let numberPresent := ((List.range (d + p)).filter (presentAt s)).length
      let dataPresent := ((List.range d).filter (presentAt s)).length
      let shardIdxOk := (List.range (d + p)).all fun i => (idx? s i).isSome
      if !shardIdxOk then .panic
      else if numberPresent = d + p || (!recoverAll && dataPresent = d) then .ok
      else if numberPresent < d then .err .tooFewShards
      else if shardSize s % 64 ≠ 0 then .err .invalidShardSize
      else if leoReconOob d p s recoverAll then .panic
      else .ok

theorem reconstruct_leo (k : Kind) (hk : k ≠ .rs8) (d p : Nat) (s : List Sh) (m : RMode) :
    reconstruct k d p s m = reconLeo d p s (leoRecoverAll d p m) := by
  cases k with
  | rs8 => exact absurd rfl hk
  | leo8 => cases m <;> rfl
  | leo16 => cases m <;> rfl

theorem update_idxOk (d p : Nat) (s nw : List Sh) (hs : s.length = d + p) (hn : nw.length = d) :
    ((List.range d).all fun i => (idx? nw i).isSome && (idx? s i).isSome) = true :=
  List.all_eq_true.mpr fun i hi => by
    have := List.mem_range.mp hi
    rw [idx?_isSome nw i (by omega), idx?_isSome s i (by omega)]; rfl

theorem update_rs8_eq (d p : Nat) (s nw : List Sh) (hl : s.length = d + p) (hn : nw.length = d)
    (hcs : checkShards s true = none) (hcn : checkShards nw true = none)
    (hsz : shardSize nw = shardSize s) :
    update .rs8 d p s nw =
      if updateMissingOld d s nw then .err .invalidInput
      else if (s.drop d).any (·.len == 0) then .err .invalidInput
      else if updateOob d s nw then .panic else .ok := by
  simp only [update, leoK, hl, hn, hcs, hcn, hsz, update_idxOk d p s nw hl hn, ne_eq,
    not_true_eq_false, decide_false, Bool.not_true, Bool.false_eq_true, if_false]

/-- The argument checks of `Update` leave only slices of exactly `shardSize` bytes.  `hwf` (a nil
new shard has length 0) connects the `!= nil` test of the check with the `len(in) == 0` test of
the kernels. -/
theorem updateOob_false (d : Nat) (s nw : List Sh) (hwf : ∀ x ∈ nw, x.wf = true)
    (hcs : checkShards s true = none) (hcn : checkShards nw true = none)
    (hsz : shardSize nw = shardSize s)
    (hb1 : updateMissingOld d s nw = false)
    (hb2 : (s.drop d).any (·.len == 0) = false) : updateOob d s nw = false := by
  rw [Bool.eq_false_iff]
  intro h
  unfold updateOob at h
  obtain ⟨c, hc, h⟩ := List.any_eq_true.mp h
  unfold updateMissingOld at hb1
  rw [List.any_eq_false] at hb1 hb2
  have h1 := hb1 c hc
  split at h
  · rename_i inp oldin hi ho
    rw [hi, ho] at h1
    have hin : inp ∈ nw := List.mem_of_getElem? hi
    have hon : oldin ∈ s := List.mem_of_getElem? ho
    have hw := hwf inp hin
    simp only [Sh.wf, Bool.or_eq_true, Bool.not_eq_true', beq_iff_eq] at hw
    simp only [Bool.and_eq_true, Bool.or_eq_true, decide_eq_true_eq, List.any_eq_true] at h
    obtain ⟨hne, h⟩ := h
    have hnil : inp.isNil = false := hw.resolve_right hne
    have holen : oldin.len ≠ 0 := fun h0 => h1 (by simp [hnil, h0])
    have e1 := checkShards_len nw true hcn inp hin hne
    have e2 := checkShards_len s true hcs oldin hon holen
    rcases h with ((h | h) | h) | ⟨out, hout, h⟩
    · omega
    · omega
    · omega
    · have hol : out.len ≠ 0 := fun h0 => hb2 out hout (by simp [h0])
      have e3 := checkShards_len s true hcs out (List.mem_of_mem_drop hout) hol
      omega
  · cases h

theorem newFF_eq (order : Nat) (k : Kind) (d p : Int) : newFF order k d p =
    if d ≤ 0 ∨ p ≤ 0 then .err .invShardNum
    else if (order : Int) < d ∨ (order : Int) < p ∨ (order : Int) < d + (ceilPow2 p.toNat : Int) then
      .err .maxShardNum
    else .enc k := by
  unfold newFF
  simp only [Bool.or_eq_true, decide_eq_true_eq, gt_iff_lt, or_assoc]

/-- `tot ≤ 0` is rejected for every matrix family: `newMatrix` refuses, and with a custom matrix
the explicit test comes before `make` -/
theorem new_eq (d p : Int) (leo : Leo) (fam : Fam) : new d p leo fam =
    if (leo = .gf16 ∧ 0 < p) ∨ 256 < wrap64 (d + p) then newFF 65536 .leo16 d p
    else if leo = .always ∧ 0 < p then newFF 256 .leo8 d p
    else if d ≤ 0 ∨ p < 0 then .err .invShardNum
    else if p = 0 then .enc .rs8
    else if wrap64 (d + p) ≤ 0 then .err .other
    else match fam with
      | .custom rows cols => if (rows : Int) < p ∨ (cols : Int) < d then .err .other else .enc .rs8
      | _ => .enc .rs8 := by
  unfold new
  simp only [Bool.or_eq_true, Bool.and_eq_true, decide_eq_true_eq, gt_iff_lt]
  refine ite_congr_else fun _ => ite_congr_else fun _ => ite_congr_else fun _ =>
    ite_congr_else fun _ => ?_
  cases fam with
  | custom rows cols =>
    by_cases ht : wrap64 (d + p) ≤ 0 <;> by_cases hr : (rows : Int) < p <;>
      by_cases hc : (cols : Int) < d <;> simp [ht, hr, hc]
  | _ => rfl

theorem wrap64_cases (x : Int) (hlo : -2 ^ 64 ≤ x) (hhi : x < 2 ^ 64) :
    (x < -2 ^ 63 ∧ wrap64 x = x + 2 ^ 64) ∨ (-2 ^ 63 ≤ x ∧ x < 2 ^ 63 ∧ wrap64 x = x) ∨
      (2 ^ 63 ≤ x ∧ wrap64 x = x - 2 ^ 64) := by
  unfold wrap64
  simp only
  split <;> omega

theorem wrap64_id (x : Int) (hlo : -2 ^ 63 ≤ x) (hhi : x < 2 ^ 63) : wrap64 x = x := by
  have := wrap64_cases x (by omega) (by omega); omega

private theorem ceilPow2_fold (n : Nat) : ∀ (m a acc : Nat), (acc = 2 ^ a ∨ n ≤ acc) →
    ((List.range' a m).foldl (fun acc k => if acc < n then 2 ^ (k + 1) else acc) acc = 2 ^ (a + m) ∨
      n ≤ (List.range' a m).foldl (fun acc k => if acc < n then 2 ^ (k + 1) else acc) acc) := by
  intro m
  induction m with
  | zero => intro a acc h; simpa using h
  | succ m ih =>
    intro a acc h
    rw [List.range'_succ, List.foldl_cons]
    have := ih (a + 1) (if acc < n then 2 ^ (a + 1) else acc) (by
      by_cases hlt : acc < n
      · simp [hlt]
      · simp only [hlt, if_false]; right; omega)
    rw [show a + (m + 1) = a + 1 + m by omega]
    exact this

/-- `ceilPow2 n` is at least `n` (in the range the library uses it) -/
theorem le_ceilPow2 (n : Nat) (h : n ≤ 2 ^ 18) : n ≤ ceilPow2 n := by
  unfold ceilPow2
  rw [List.range_eq_range']
  have := ceilPow2_fold n 18 0 1 (.inl rfl)
  omega

theorem newFF_ne_panic (order : Nat) (k : Kind) (d p : Int) : newFF order k d p ≠ .panic := by
  rw [newFF_eq]
  exact ite_ne nofun fun _ => ite_ne nofun fun _ => nofun

theorem newFF_inv (order : Nat) (k : Kind) (d p : Int) (h : d ≤ 0 ∨ p ≤ 0) :
    newFF order k d p = .err .invShardNum := by
  rw [newFF_eq, if_pos h]

theorem newFF_max (order : Nat) (k : Kind) (d p : Int) (hd : 0 < d) (hp : 0 < p)
    (h : (order : Int) < d ∨ (order : Int) < p ∨ (order : Int) < d + (ceilPow2 p.toNat : Int)) :
    newFF order k d p = .err .maxShardNum := by
  rw [newFF_eq, if_neg (by omega), if_pos h]

theorem new_invShardNum (d p : Int) (leo : Leo) (fam : Fam) (h : d ≤ 0 ∨ p < 0) :
    new d p leo fam = .err .invShardNum := by
  have h' : d ≤ 0 ∨ p ≤ 0 := h.imp id Int.le_of_lt
  rw [new_eq]
  exact ite_eq (fun _ => newFF_inv _ _ _ _ h') fun _ =>
    ite_eq (fun _ => newFF_inv _ _ _ _ h') fun _ => if_pos h

theorem newFF_enc (order : Nat) (k k' : Kind) (d p : Int) (h : newFF order k d p = .enc k') :
    k' = k ∧ 0 < d ∧ 0 < p ∧ d ≤ order ∧ p ≤ order ∧ d + (ceilPow2 p.toNat : Int) ≤ order := by
  rw [newFF_eq] at h
  by_cases h1 : d ≤ 0 ∨ p ≤ 0
  · rw [if_pos h1] at h; cases h
  · rw [if_neg h1] at h
    by_cases h2 : (order : Int) < d ∨ (order : Int) < p ∨ (order : Int) < d + (ceilPow2 p.toNat : Int)
    · rw [if_pos h2] at h; cases h
    · rw [if_neg h2] at h
      cases h
      exact ⟨rfl, by omega, by omega, by omega, by omega, by omega⟩

theorem new_enc_inv (d p : Int) (leo : Leo) (fam : Fam) (k : Kind) (h : new d p leo fam = .enc k) :
    (k = .leo16 ∧ 0 < d ∧ 0 < p ∧ p ≤ 65536 ∧ d + (ceilPow2 p.toNat : Int) ≤ 65536 ∧
        (leo = .gf16 ∨ 256 < wrap64 (d + p))) ∨
    (k = .leo8 ∧ 0 < d ∧ 0 < p ∧ p ≤ 256 ∧ d + (ceilPow2 p.toNat : Int) ≤ 256 ∧ leo = .always ∧
        wrap64 (d + p) ≤ 256) ∨
    (k = .rs8 ∧ 0 < d ∧ 0 ≤ p ∧ wrap64 (d + p) ≤ 256 ∧ (p = 0 ∨ 0 < wrap64 (d + p)) ∧
        (p = 0 ∨ leo = .asNeeded)) := by
  rw [new_eq] at h
  by_cases h1 : (leo = .gf16 ∧ 0 < p) ∨ 256 < wrap64 (d + p)
  · rw [if_pos h1] at h
    obtain ⟨rfl, a, b, _, hpo, f⟩ := newFF_enc _ _ _ _ _ h
    exact .inl ⟨rfl, a, b, by omega, by omega, h1.imp And.left id⟩
  · rw [if_neg h1] at h
    have hw : wrap64 (d + p) ≤ 256 := Int.not_lt.mp fun h' => h1 (.inr h')
    by_cases h2 : leo = .always ∧ 0 < p
    · rw [if_pos h2] at h
      obtain ⟨rfl, a, b, _, hpo, f⟩ := newFF_enc _ _ _ _ _ h
      exact .inr (.inl ⟨rfl, a, b, by omega, by omega, h2.1, hw⟩)
    · rw [if_neg h2] at h
      by_cases h3 : d ≤ 0 ∨ p < 0
      · rw [if_pos h3] at h; cases h
      · rw [if_neg h3] at h
        -- no option forced Leopard, so with parity the option is the default one
        have hleo : p = 0 ∨ leo = .asNeeded := by
          by_cases hp0 : p = 0
          · exact .inl hp0
          · have hpp : 0 < p := by omega
            cases leo with
            | asNeeded => exact .inr rfl
            | gf16 => exact absurd (.inl ⟨rfl, hpp⟩) h1
            | always => exact absurd ⟨rfl, hpp⟩ h2
        by_cases h4 : p = 0
        · rw [if_pos h4] at h
          exact .inr (.inr ⟨(NewOut.enc.inj h).symm, by omega, by omega, hw, by omega, hleo⟩)
        · rw [if_neg h4] at h
          by_cases h5 : wrap64 (d + p) ≤ 0
          · rw [if_pos h5] at h; cases h
          · rw [if_neg h5] at h
            have hk : k = .rs8 := by
              cases fam with
              | custom rows cols =>
                dsimp only at h
                by_cases hc : (rows : Int) < p ∨ (cols : Int) < d
                · rw [if_pos hc] at h; cases h
                · rw [if_neg hc] at h; exact (NewOut.enc.inj h).symm
              | _ => exact (NewOut.enc.inj h).symm
            exact .inr (.inr ⟨hk, by omega, by omega, hw, by omega, hleo⟩)

/-- `new_enc_inv` for 64-bit integers, where the wrapped total is the total -/
theorem new_enc_inv64 (d p : Int) (hd : -2 ^ 63 ≤ d ∧ d < 2 ^ 63) (hp : -2 ^ 63 ≤ p ∧ p < 2 ^ 63)
    (leo : Leo) (fam : Fam) (k : Kind) (h : new d p leo fam = .enc k) :
    (k = .leo16 ∧ 0 < d ∧ 0 < p ∧ d + p ≤ 65536 ∧ d + (ceilPow2 p.toNat : Int) ≤ 65536 ∧
        (leo = .gf16 ∨ 256 < d + p)) ∨
    (k = .leo8 ∧ 0 < d ∧ 0 < p ∧ d + p ≤ 256 ∧ d + (ceilPow2 p.toNat : Int) ≤ 256 ∧
        leo = .always) ∨
    (k = .rs8 ∧ 0 < d ∧ 0 ≤ p ∧ d + p ≤ 256 ∧ (p = 0 ∨ leo = .asNeeded)) := by
  rcases new_enc_inv d p leo fam k h with
    ⟨hk, a, b, hpo, c, e⟩ | ⟨hk, a, b, _, c, e, _⟩ | ⟨hk, a, b, c, e, f⟩
  · -- `d + p ≤ d + ceilPow2 p ≤ 65536`: no wrap-around
    have hle := le_ceilPow2 p.toNat (by omega)
    rw [wrap64_id (d + p) (by omega) (by omega)] at e
    exact .inl ⟨hk, a, b, by omega, c, e⟩
  · have hle := le_ceilPow2 p.toNat (by omega)
    exact .inr (.inl ⟨hk, a, b, by omega, c, e⟩)
  · -- a sum of two non-negative 64-bit integers that wraps is negative
    have hw := wrap64_cases (d + p) (by omega) (by omega)
    exact .inr (.inr ⟨hk, a, b, by omega, f⟩)

end RSV.Model.Api
