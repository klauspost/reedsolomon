import RSV.Proofs.LeoSched
/-!
Every step generated by `encodeSched` / `reconSched` (`RSV/Model/Leopard.lean`) is in range, for every
context `C` (any tables, any `C.P.bits`), every `d` and every `p ≤ 2^64`: the hypothesis
`∀ s ∈ sched, InRange nrows nshards s` of `RSV/Proofs/LeoSched.lean`.  The generators are `Id.run do`
blocks; after `Std.Legacy.Range.forIn_eq_forIn_range'` their loops are `forIn` over `List.range'`, and
`forIn_inv` / `bind_inv` carry an invariant through them.  For the layer loops the invariant is
`dist = 2^j`, `j ≤ e`, `dist4 = 4·dist` (outer) and `dist4 ∣ r` (middle); with `dist4 ∣ m` and `r < m`
this gives `r + dist4 ≤ m` (`add_le_of_dvd`).
-/
namespace RSV.Proofs.LeoSchedRange
open RSV.Model.Leo RSV.Proofs.LeoSched

theorem forIn_inv {α β : Type} (P : β → Prop) {l : List α} {f : α → β → Id (ForInStep β)}
    {init : β} (h0 : P init) (hs : ∀ a ∈ l, ∀ b, P b → P (f a b).run.value) :
    P (forIn l init f).run := by
  induction l generalizing init with
  | nil => exact h0
  | cons a l ih =>
    rw [List.forIn_cons]
    have h1 := hs a List.mem_cons_self init h0
    show P (Id.run (match (f a init).run with
      | ForInStep.done b => pure b
      | ForInStep.yield b => forIn l b f))
    cases h : (f a init).run with
    | done b => rw [h] at h1; exact h1
    | yield b =>
      rw [h] at h1
      exact ih h1 (fun a ha => hs a (List.mem_cons_of_mem _ ha))

theorem bind_inv {β γ : Type} (P : β → Prop) {Q : γ → Prop} {x : Id β} {g : β → Id γ}
    (hx : P x.run) (hg : ∀ b, P b → Q (g b).run) : Q (x >>= g).run := hg _ hx

/-- `bind_inv` inside a loop body, whose result is a `ForInStep` -/
theorem bind_invV {β γ : Type} (P : β → Prop) {Q : γ → Prop} {x : Id β} {g : β → Id (ForInStep γ)}
    (hx : P x.run) (hg : ∀ b, P b → Q (g b).run.value) : Q (x >>= g).run.value := hg _ hx

/-- every step of the accumulator addresses rows `< n` and shards `< k` -/
def AllIn (n k : Nat) (a : Array Step) : Prop := ∀ s ∈ a.toList, InRange n k s

theorem AllIn.empty (n k : Nat) : AllIn n k #[] := by intro s hs; simp at hs

theorem AllIn.push {n k : Nat} {a : Array Step} (h : AllIn n k a) {s : Step} (hs : InRange n k s) :
    AllIn n k (a.push s) := by
  intro t ht
  simp only [Array.toList_push, List.mem_append, List.mem_singleton] at ht
  rcases ht with ht | rfl
  · exact h t ht
  · exact hs

theorem AllIn.append {n k : Nat} {a b : Array Step} (h : AllIn n k a) (hb : AllIn n k b) :
    AllIn n k (a ++ b) := by
  intro t ht
  simp only [Array.toList_append, List.mem_append] at ht
  rcases ht with ht | ht
  · exact h t ht
  · exact hb t ht

theorem AllIn.appendList {n k : Nat} {a : Array Step} (h : AllIn n k a) {l : List Step}
    (hl : ∀ s ∈ l, InRange n k s) : AllIn n k (a ++ l.toArray) :=
  h.append (by intro t ht; exact hl t (by simpa using ht))

variable (C : Ctx)

theorem fft2_in {n k x y : Nat} (logm : Nat) (hx : x < n) (hy : y < n) :
    ∀ s ∈ fft2 C x y logm, InRange n k s := by
  intro s hs
  unfold fft2 at hs
  split at hs <;> simp at hs
  · subst hs; exact ⟨hy, hx⟩
  · rcases hs with rfl | rfl
    · exact ⟨hx, hy⟩
    · exact ⟨hy, hx⟩

theorem ifft2_eq_reverse (x y logm : Nat) : ifft2 C x y logm = (fft2 C x y logm).reverse := by
  unfold ifft2 fft2; split <;> rfl

theorem ifft2_in {n k x y : Nat} (logm : Nat) (hx : x < n) (hy : y < n) :
    ∀ s ∈ ifft2 C x y logm, InRange n k s := fun s hs =>
  fft2_in C logm hx hy s (List.mem_reverse.mp (ifft2_eq_reverse C x y logm ▸ hs))

theorem fft4_in {n k b dist : Nat} (m01 m23 m02 : Nat) (h : b + 3 * dist < n) :
    ∀ s ∈ fft4 C b dist m01 m23 m02, InRange n k s := by
  intro s hs
  simp only [fft4, List.mem_append] at hs
  rcases hs with ((hs | hs) | hs) | hs <;> exact fft2_in C _ (by omega) (by omega) s hs

theorem ifft4_in {n k b dist : Nat} (m01 m23 m02 : Nat) (h : b + 3 * dist < n) :
    ∀ s ∈ ifft4 C b dist m01 m23 m02, InRange n k s := by
  intro s hs
  simp only [ifft4, List.mem_append] at hs
  rcases hs with ((hs | hs) | hs) | hs <;> exact ifft2_in C _ (by omega) (by omega) s hs

theorem add_le_of_dvd {D r m : Nat} (hr : D ∣ r) (hm : D ∣ m) (h : r < m) : r + D ≤ m := by
  obtain ⟨a, rfl⟩ := hr
  obtain ⟨b, rfl⟩ := hm
  have hD : 0 < D := by
    rcases Nat.eq_zero_or_pos D with h0 | h0
    · subst h0; simp at h
    · exact h0
  have hab : a < b := Nat.lt_of_mul_lt_mul_left h
  calc D * a + D = D * (a + 1) := by rw [Nat.mul_succ]
    _ ≤ D * b := Nat.mul_le_mul_left D hab

theorem four_mul_pow2 (j : Nat) : 4 * 2 ^ j = 2 ^ (j + 2) := by
  rw [Nat.pow_succ, Nat.pow_succ]; omega

/-- outer-loop state `(out, dist, dist4)` of `ifftLayers` -/
def IOuter (n k e : Nat) (s : Array Step × Nat × Nat) : Prop :=
  AllIn n k s.fst ∧ ∃ j, s.snd.fst = 2 ^ j ∧ j ≤ e ∧ s.snd.snd = 4 * s.snd.fst

/-- middle-loop state `(out, r)` -/
def IMid (n k D : Nat) (s : Array Step × Nat) : Prop :=
  AllIn n k s.fst ∧ D ∣ s.snd

/-- the middle loop of a radix-4 pass of `ifftLayers` / `fftLayers`: the block starts `r` are
multiples of `D = dist4` below `mtrunc ≤ m`, and `D ∣ m`, so each block `[r, r + D)` lies below `m`;
`blk s i` is the gadget appended at row `i` of the block starting at `s.snd` -/
theorem midLoop_in {n k D m mtrunc dist : Nat} {blk : Array Step × Nat → Nat → List Step}
    (hdm : D ∣ m) (hmt : mtrunc ≤ m)
    (hblk : ∀ (s : Array Step × Nat) (i : Nat), s.snd + D ≤ m → s.snd ≤ i → i < s.snd + dist →
      ∀ t ∈ blk s i, InRange n k t)
    {out : Array Step} (hout : AllIn n k out) (l : List Nat) :
    IMid n k D (forIn (m := Id) l (out, 0) fun _ s =>
      if s.snd < mtrunc then do
        let o ← forIn (List.range' s.snd (s.snd + dist - s.snd)) s.fst fun i o =>
          pure (ForInStep.yield (o ++ (blk s i).toArray))
        pure (ForInStep.yield (o, s.snd + D))
      else pure (ForInStep.yield (s.fst, s.snd))).run := by
  apply forIn_inv (IMid n k D) ⟨hout, Nat.dvd_zero _⟩
  rintro _ _ ⟨out1, r⟩ ⟨hout1, hr⟩
  simp only at hout1 hr ⊢
  split
  · rename_i hlt
    have hle := add_le_of_dvd hr hdm (Nat.lt_of_lt_of_le hlt hmt)
    apply bind_invV (AllIn n k)
    · apply forIn_inv (AllIn n k) hout1
      intro i hi out2 hout2
      have hi' := List.mem_range'_1.mp hi
      exact hout2.appendList (hblk (out1, r) i hle hi'.1 (by omega))
    · intro out2 hout2
      exact ⟨hout2, Nat.dvd_add hr (Nat.dvd_refl _)⟩
  · exact ⟨hout1, hr⟩

theorem ifftLayers_in (base mtrunc m off adj n k e : Nat) (hm : m = 2 ^ e) (hmt : mtrunc ≤ m)
    (hn : base + m ≤ n) : AllIn n k (ifftLayers C base mtrunc m off adj) := by
  unfold ifftLayers
  simp only [Std.Legacy.Range.forIn_eq_forIn_range', Std.Legacy.Range.size, Nat.sub_zero,
    Nat.add_one_sub_one, Nat.div_one]
  apply bind_inv (IOuter n k e)
  · apply forIn_inv (IOuter n k e) ⟨AllIn.empty n k, 0, rfl, Nat.zero_le _, rfl⟩
    rintro _ _ ⟨out, dist, dist4⟩ ⟨hout, j, hj, hje, h4⟩
    simp only at hout hj h4 ⊢
    split
    · rename_i hle
      have h42 : dist4 = 2 ^ (j + 2) := by rw [h4, hj, four_mul_pow2]
      have hj2 : j + 2 ≤ e := (Nat.pow_le_pow_iff_right Nat.one_lt_two).mp (by rw [← h42, ← hm]; exact hle)
      apply bind_invV (IMid n k dist4)
      · apply midLoop_in (by rw [h42, hm]; exact Nat.pow_dvd_pow 2 hj2) hmt _ hout
        intro s i h1 h2 h3
        exact ifft4_in C _ _ _ (by omega)
      · rintro ⟨out1, r⟩ ⟨hout1, _⟩
        exact ⟨hout1, j + 2, h42, hj2, by show dist4 <<< 2 = 4 * dist4; rw [Nat.shiftLeft_eq]; omega⟩
    · exact ⟨hout, j, hj, hje, h4⟩
  · rintro ⟨out, dist, dist4⟩ ⟨hout, j, hj, hje, h4⟩
    simp only at hout hj h4 ⊢
    split
    · rename_i hlt
      apply bind_inv (AllIn n k) _ (fun b hb => hb)
      apply forIn_inv (AllIn n k) hout
      intro i hi out2 hout2
      have hi' := List.mem_range'_1.mp hi
      have hjl : j < e := (Nat.pow_lt_pow_iff_right Nat.one_lt_two).mp (by rw [← hj, ← hm]; exact hlt)
      have h2 : 2 ^ (j + 1) ≤ 2 ^ e := Nat.pow_le_pow_right (by decide) hjl
      rw [Nat.pow_succ, ← hj, ← hm] at h2
      exact hout2.appendList (ifft2_in C _ (by omega) (by omega))
    · exact hout

theorem pow2_shr2 (j : Nat) (h : 2 ^ j >>> 2 ≠ 0) :
    ∃ j', j = j' + 2 ∧ 2 ^ j >>> 2 = 2 ^ j' ∧ 2 ^ j = 4 * 2 ^ j' := by
  match j, h with
  | 0, h => exact absurd rfl h
  | 1, h => exact absurd rfl h
  | j' + 2, _ =>
    refine ⟨j', rfl, ?_, (four_mul_pow2 j').symm⟩
    rw [Nat.shiftRight_eq_div_pow, ← four_mul_pow2]
    exact Nat.mul_div_cancel_left _ (by decide)

/-- outer-loop state `(out, dist4, dist)` of `fftLayers` -/
def FOuter (n k e : Nat) (s : Array Step × Nat × Nat) : Prop :=
  AllIn n k s.fst ∧ ∃ j, s.snd.fst = 2 ^ j ∧ j ≤ e ∧ s.snd.snd = s.snd.fst >>> 2

theorem fftLayers_in (mtrunc m n k e : Nat) (hm : m = 2 ^ e) (hmt : mtrunc ≤ m)
    (hn : m ≤ n) : AllIn n k (fftLayers C mtrunc m) := by
  unfold fftLayers
  simp only [Std.Legacy.Range.forIn_eq_forIn_range', Std.Legacy.Range.size, Nat.sub_zero,
    Nat.add_one_sub_one, Nat.div_one]
  apply bind_inv (FOuter n k e)
  · apply forIn_inv (FOuter n k e) ⟨AllIn.empty n k, e, hm, Nat.le_refl _, rfl⟩
    rintro _ _ ⟨out, dist4, dist⟩ ⟨hout, j, hj, hje, h4⟩
    simp only at hout hj h4 ⊢
    split
    · rename_i hne
      obtain ⟨j', hjj, hd, hd4⟩ := pow2_shr2 j (by rw [← hj, ← h4]; exact hne)
      have hdist : dist = 2 ^ j' := by rw [h4, hj, hd]
      have h44 : dist4 = 4 * dist := by rw [hj, hd4, hdist]
      apply bind_invV (IMid n k dist4)
      · apply midLoop_in (by rw [hj, hm]; exact Nat.pow_dvd_pow 2 hje) hmt _ hout
        intro s i h1 h2 h3
        exact fft4_in C _ _ _ (by omega)
      · rintro ⟨out1, r⟩ ⟨hout1, _⟩
        exact ⟨hout1, j', hdist, by omega, rfl⟩
    · exact ⟨hout, j, hj, hje, h4⟩
  · rintro ⟨out, dist4, dist⟩ ⟨hout, j, hj, hje, h4⟩
    simp only at hout hj h4 ⊢
    split
    · rename_i h2
      have hdm : 2 ∣ m := by
        have : dist4 ∣ m := by rw [hj, hm]; exact Nat.pow_dvd_pow 2 hje
        rwa [h2] at this
      apply bind_inv (IMid n k 2) _ (fun b hb => hb.1)
      apply forIn_inv (IMid n k 2) ⟨hout, Nat.dvd_zero _⟩
      rintro _ _ ⟨out1, r⟩ ⟨hout1, hr⟩
      simp only at hout1 hr ⊢
      split
      · rename_i hlt
        have := add_le_of_dvd hr hdm (Nat.lt_of_lt_of_le hlt hmt)
        exact ⟨hout1.appendList (fft2_in C _ (by omega) (by omega)),
          Nat.dvd_add hr (Nat.dvd_refl _)⟩
      · exact ⟨hout1, hr⟩
    · exact hout

theorem forIn_push_in {n k : Nat} {l : List Nat} {init : Array Step} {g : Nat → Step}
    (h0 : AllIn n k init) (hg : ∀ i ∈ l, InRange n k (g i)) :
    AllIn n k (forIn (m := Id) l init fun i s => pure (ForInStep.yield (s.push (g i)))).run := by
  apply forIn_inv (AllIn n k) h0
  intro i hi s hs
  simp only [Id.run_pure, ForInStep.value_yield]
  exact hs.push (hg i hi)

/-- `(d - m + m - 1) / m` is the number of further groups of `m` data shards as `encodeSched` writes it -/
theorem groups_lt {d m g : Nat} (hm : 0 < m) (hmd : m < d) (hg : g < (d - m + m - 1) / m) :
    m + g * m < d := by
  have h1 : (g + 1) * m ≤ (d - m + m - 1) / m * m := Nat.mul_le_mul_right m hg
  have h2 := Nat.div_mul_le_self (d - m + m - 1) m
  rw [Nat.succ_mul] at h1
  omega

theorem encodeSched_in (d p : Nat) (hpb : p ≤ 2 ^ 64) :
    AllIn (2 * ceilPow2 p) d (encodeSched C d p) := by
  obtain ⟨e, hm⟩ := ceilPow2_pow2 p
  have hp := le_ceilPow2 p hpb
  unfold encodeSched
  simp only [Std.Legacy.Range.forIn_eq_forIn_range', Std.Legacy.Range.size, Nat.sub_zero,
    Nat.add_one_sub_one, Nat.div_one]
  generalize ceilPow2 p = m at hm hp ⊢
  have hm0 : 0 < m := by rw [hm]; exact Nat.two_pow_pos e
  have hmt : (if d < m then d else m) ≤ m := by split <;> omega
  have hmtd : (if d < m then d else m) ≤ d := by split <;> omega
  apply bind_inv (AllIn (2 * m) d)
  · apply forIn_push_in (AllIn.empty _ _)
    intro i hi
    have := List.mem_range'_1.mp hi
    exact ⟨by omega, by omega⟩
  intro s1 hs1
  apply bind_inv (AllIn (2 * m) d)
  · apply forIn_push_in hs1
    intro i hi
    have := List.mem_range'_1.mp hi
    show i < 2 * m
    omega
  intro s2 hs2
  have hs3 : AllIn (2 * m) d (s2 ++ ifftLayers C 0 (if d < m then d else m) m (m - 1) 0) :=
    hs2.append (ifftLayers_in C 0 _ m _ 0 _ _ e hm hmt (by omega))
  have hfft : AllIn (2 * m) d (fftLayers C p m) := fftLayers_in C p m _ _ e hm hp (by omega)
  split
  · rename_i hmd
    apply bind_inv (AllIn (2 * m) d)
    · apply forIn_inv (AllIn (2 * m) d) hs3
      intro g hg s hs
      have hg' := groups_lt (g := g) hm0 hmd (by have := (List.mem_range'_1.mp hg).2; omega)
      have hcnt : (if m + g * m + m ≤ d then m else d - (m + g * m)) ≤ m := by split <;> omega
      have hcntd : m + g * m + (if m + g * m + m ≤ d then m else d - (m + g * m)) ≤ d := by
        split <;> omega
      apply bind_invV (AllIn (2 * m) d)
      · apply forIn_push_in hs
        intro i hi
        have := List.mem_range'_1.mp hi
        exact ⟨by omega, by omega⟩
      intro t1 ht1
      apply bind_invV (AllIn (2 * m) d)
      · apply forIn_push_in ht1
        intro i hi
        have := List.mem_range'_1.mp hi
        show m + i < 2 * m
        omega
      intro t2 ht2
      apply bind_invV (AllIn (2 * m) d)
      · apply forIn_push_in (ht2.append (ifftLayers_in C m _ m _ 0 _ _ e hm hcnt (by omega)))
        intro i hi
        have := List.mem_range'_1.mp hi
        exact ⟨by omega, by omega⟩
      intro t3 ht3
      exact ht3
    · intro s4 hs4
      exact hs4.append hfft
  · exact hs3.append hfft

/-- `i ^^^ (i - 1)` is `2^(t+1) - 1` where `2^t` is the lowest set bit of `i` -/
theorem lowbit (i : Nat) (hi : 0 < i) : ∃ t, (i ^^^ (i - 1)) + 1 = 2 ^ (t + 1) ∧ 2 ^ t ∣ i := by
  induction i using Nat.strongRecOn with
  | _ i ih =>
    have hdecomp : (i ^^^ (i - 1)) = 2 * ((i ^^^ (i - 1)) / 2) + (i ^^^ (i - 1)) % 2 :=
      (Nat.div_add_mod _ 2).symm
    have hmod : (i ^^^ (i - 1)) % 2 = 1 := by
      rw [Nat.xor_mod_two_eq_one]; omega
    rw [Nat.xor_div_two] at hdecomp
    rcases Nat.mod_two_eq_zero_or_one i with h0 | h1
    · have hj : 0 < i / 2 := by omega
      obtain ⟨t, ht, hdvd⟩ := ih (i / 2) (by omega) hj
      have : (i - 1) / 2 = i / 2 - 1 := by omega
      rw [this] at hdecomp
      refine ⟨t + 1, ?_, ?_⟩
      · rw [Nat.pow_succ 2 (t + 1)]; omega
      · have h2 : i = i / 2 * 2 := by omega
        rw [h2, Nat.pow_succ]
        exact Nat.mul_dvd_mul hdvd (Nat.dvd_refl 2)
    · have : (i - 1) / 2 = i / 2 := by omega
      rw [this, Nat.xor_self] at hdecomp
      exact ⟨0, by omega, by simp⟩

theorem deriv_in {n e i k : Nat} (hn : n = 2 ^ e) (hi : 0 < i) (hin : i < n)
    (hk : k < ((i ^^^ (i - 1)) + 1) >>> 1) : i + k < n := by
  obtain ⟨t, ht, hdvd⟩ := lowbit i hi
  rw [ht, Nat.shiftRight_eq_div_pow, Nat.pow_succ, Nat.pow_one,
    Nat.mul_div_cancel _ (by decide : 0 < 2)] at hk
  have hle : 2 ^ t ≤ i := Nat.le_of_dvd hi hdvd
  have hte : t ≤ e := Nat.le_of_lt ((Nat.pow_lt_pow_iff_right Nat.one_lt_two).mp (by rw [← hn]; omega))
  have hdn : 2 ^ t ∣ n := by rw [hn]; exact Nat.pow_dvd_pow 2 hte
  have := add_le_of_dvd hdvd hdn hin
  omega

theorem reconSched_in (d p : Nat) (missing : Nat → Bool) (el : Array Nat) (hpb : p ≤ 2 ^ 64)
    (hmd : ceilPow2 p + d ≤ 2 ^ 64) :
    AllIn (ceilPow2 (ceilPow2 p + d)) (d + p) (reconSched C d p missing el) := by
  obtain ⟨e, hn⟩ := ceilPow2_pow2 (ceilPow2 p + d)
  have hp := le_ceilPow2 p hpb
  have hmn := le_ceilPow2 (ceilPow2 p + d) hmd
  unfold reconSched
  simp only [Std.Legacy.Range.forIn_eq_forIn_range', Std.Legacy.Range.size, Nat.sub_zero,
    Nat.add_one_sub_one, Nat.div_one]
  generalize ceilPow2 (ceilPow2 p + d) = n at hn hmn ⊢
  generalize ceilPow2 p = m at hp hmn ⊢
  apply bind_inv (AllIn n (d + p))
  · apply forIn_push_in (AllIn.empty _ _)
    intro i hi
    have := List.mem_range'_1.mp hi
    split
    · show i < n; omega
    · exact ⟨by omega, by omega⟩
  intro s1 hs1
  apply bind_inv (AllIn n (d + p))
  · apply forIn_push_in hs1
    intro i hi
    have := List.mem_range'_1.mp hi
    show i < n; omega
  intro s2 hs2
  apply bind_inv (AllIn n (d + p))
  · apply forIn_push_in hs2
    intro i hi
    have := List.mem_range'_1.mp hi
    split
    · show m + i < n; omega
    · exact ⟨by omega, by omega⟩
  intro s3 hs3
  apply bind_inv (AllIn n (d + p))
  · apply forIn_push_in hs3
    intro i hi
    have := List.mem_range'_1.mp hi
    show i < n; omega
  intro s4 hs4
  apply bind_inv (AllIn n (d + p))
  · apply forIn_inv (AllIn n (d + p))
      (hs4.append (ifftLayers_in C 0 (m + d) n 0 1 _ _ e hn hmn (by omega)))
    intro i hi s hs
    have hi' := List.mem_range'_1.mp hi
    apply bind_invV (AllIn n (d + p))
    · apply forIn_push_in hs
      intro k hk
      have hk' := List.mem_range'_1.mp hk
      have := deriv_in (i := i) (k := k) hn (by omega) (by omega) (by omega)
      exact ⟨by omega, by omega⟩
    · intro t ht; exact ht
  intro s5 hs5
  exact hs5.append (fftLayers_in C (m + d) n _ _ e hn hmn (Nat.le_refl _))

end RSV.Proofs.LeoSchedRange
