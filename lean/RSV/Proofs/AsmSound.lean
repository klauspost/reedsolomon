import RSV.Proofs.AsmLoop
import RSV.Proofs.AsmStore
/-!
Matrix-kernel checker, the whole function: `checkKernel prog … = true` ⟹ on every environment
satisfying the contract, `exec` runs `prog` to its `RET` without a fault and the final memory is
the initial memory except that every output `i < O` holds the specified bytes on
`[start, start + (n / B)·B)`.
-/
namespace RSV.Asm

/-- what `checkKernel` establishes: the prologue `pre1` leaves the trip count in `sh.rt`, `pre2` leads to a
state that the loop head `H` generalises, and one trip through `body` ends in `σb`, which covers the block,
has the counter in `sh.rc` and is again an instance of `H` -/
structure Checked (c : Ctx) (sh : Shape) (σ1 σ0 H σb : SymState) : Prop where
  ne : sh.lLoop ≠ sh.lEnd
  run1 : symRun c.cfg false sh.pre1 initSym = some σ1
  cntReg : σ1.gp sh.rt = .cnt
  stores1 : σ1.stores = []
  run2 : symRun c.cfg false sh.pre2 σ1 = some σ0
  storesH : H.stores = []
  stores0 : σ0.stores = []
  init : initOK σ0 H = true
  runb : symRun c.cfg true sh.body H = some σb
  ctr : σb.gp sh.rc = .ctr 0
  stepok : stepOK c.cfg H (σb.setGp sh.rc (.ctr 1)) = true
  cov : covers c.cfg σb.stores = true
  clampG : ∀ r, 16 ≤ r → H.gp r = .unk
  clampV : ∀ v, 32 ≤ v → H.vec v = .unk

theorem clamp_gp (σ : SymState) (r : Nat) (hr : 16 ≤ r) : (clamp σ).gp r = .unk := if_neg (Nat.not_lt.mpr hr)
theorem clamp_vec (σ : SymState) (v : Nat) (hv : 32 ≤ v) : (clamp σ).vec v = .unk := if_neg (Nat.not_lt.mpr hv)

theorem checkKernel_unpack {c : Ctx} {prog : Program}
    (h : checkKernel prog c.cfg.fam c.cfg.xor c.cfg.I c.cfg.O = true) :
    ∃ sh σ1 σ0 H σb, prog = sh.assemble ∧ Checked c sh σ1 σ0 H σb := by
  unfold checkKernel at h
  simp only [] at h
  split at h
  · cases h
  · rename_i sh _
    simp only [Bool.and_eq_true, decide_eq_true_eq] at h
    obtain ⟨⟨hasm, hne⟩, h⟩ := h
    split at h
    · cases h
    · rename_i σ1 hrun1
      simp only [Bool.and_eq_true, decide_eq_true_eq] at h
      obtain ⟨⟨hrt, h1st⟩, h⟩ := h
      split at h
      · cases h
      · rename_i σ0 hrun2
        unfold checkLoop at h
        simp only [Bool.and_eq_true, decide_eq_true_eq] at h
        obtain ⟨⟨⟨hH, h0⟩, hinit⟩, h⟩ := h
        split at h
        · cases h
        · rename_i σb hrunb
          simp only [Bool.and_eq_true, decide_eq_true_eq] at h
          obtain ⟨⟨hrc, hstep⟩, hcov⟩ := h
          exact ⟨sh, σ1, σ0, _, σb, hasm.symm, hne, hrun1, hrt, h1st, hrun2, hH, h0, hinit, hrunb, hrc, hstep, hcov,
            clamp_gp _, clamp_vec _⟩

theorem dec_step {c : Ctx} {sh : Shape} {σ1 σ0 H σb : SymState} (hc : Contract c)
    (hk : Checked c sh σ1 σ0 H σb) {it : Nat} (hit : it < c.cnt)
    {s2 : State} (hsim2 : Sim c it σb s2) :
    ∃ s3, stepInstr c.env (.decq sh.rc) s2 = some s3 ∧ Sim c (it + 1) H s3 ∧
      s3.zf = some (!decide (it + 1 < c.cnt)) := by
  have hg : s2.gp sh.rc = .num (c.cnt - it - 1 + 1) := by
    rw [show c.cnt - it - 1 + 1 = c.cnt - it - 0 by omega]; exact hsim2.gpAt hk.ctr
  have hnw := hc.no_wrap
  have hcntle : c.cnt ≤ c.env.n := Nat.div_le_self _ _
  obtain ⟨cf, hst, _⟩ := stepInstr_dec (env := c.env) (d := 0) (e := 1) rfl hg (by omega)
  refine ⟨_, hst, ?_, ?_⟩
  · exact stepOK_sound hk.stepok hk.clampG hk.clampV hk.storesH hk.cov
      ((hsim2.setGp sh.rc (g := .ctr 1) (v := .num (c.cnt - it - 1)) rfl).setFlags _ _)
  · have : ((c.cnt - it - 1) == 0) = !decide (it + 1 < c.cnt) := by
      by_cases hlast : it + 1 < c.cnt <;> simp [hlast] <;> omega
    exact congrArg some this

theorem checked_sound {c : Ctx} {sh : Shape} {σ1 σ0 H σb : SymState} (hc : Contract c)
    (hk : Checked c sh σ1 σ0 H σb) (s0 : State) (hpc0 : s0.pc = 0) (hmem0 : s0.mem = c.m0) :
    ∃ sf, (∀ fuel, sh.assemble.length * (c.cnt + 1) ≤ fuel → exec c.env sh.assemble fuel s0 = some sf) ∧
      c.rows.MemInv c.cnt [] sf.mem := by
  have hsim0 : Sim c 0 initSym s0 :=
    ⟨fun _ => trivial, fun _ => trivial, hmem0 ▸ c.rows.memInv_init, Rows.storesOK_nil⟩
  -- positions in the assembled program
  have a0 : sh.assemble = [] ++ sh.pre1 ++ (.testq sh.rt sh.rt :: .jz sh.lEnd :: (sh.pre2 ++ (.label sh.lLoop ::
      (sh.body ++ (.decq sh.rc :: .jnz sh.lLoop :: [.vzeroupper, .label sh.lEnd, .ret]))))) := rfl
  have a1 := at_next a0
  have a2 := at_skip (at_next a1)
  have a3 := at_next (at_next (at_skip (at_next a2)))
  have a4 := at_next a3
  have hlen : sh.assemble.length = sh.pre1.length + sh.pre2.length + sh.body.length + 8 := by
    rw [a0]; simp; omega
  have hnl1 := symRun_noLabel hk.run1
  have hnl2 := symRun_noLabel hk.run2
  have hnlb := symRun_noLabel hk.runb
  have findLoop := findLabel_at a2 (by simp [hnl1, hnl2])
  have findEnd := findLabel_at a4 (by simp [hnl1, hnl2, hnlb, hk.ne.symm])
  -- first prologue part
  obtain ⟨s1, hrun1, hpc1, hsim1⟩ := symRun_sound hc (it := 0) (loop := false) (by simp) sh.pre1 [] _ initSym σ1 s0
    a0 (by simpa using hpc0) hsim0 hk.run1
  -- TESTQ ; JZ
  have hg : s1.gp sh.rt = .num c.cnt := hsim1.gpAt hk.cntReg
  have hrunA := jz_guard (env := c.env) (cnt := c.cnt) a0 rfl findEnd (by simpa using hpc1)
    (s2 := setFlags s1 (some (c.cnt == 0)) (some false)) (by simp only [stepInstr, hg, Nat.and_self]) rfl
  by_cases hz : c.cnt = 0
  · -- early exit: JZ taken, label, RET
    rw [if_pos hz] at hrunA
    obtain ⟨sf, hex, hmf⟩ := exec_finish (run_trans hrun1 hrunA) a4 (State.setPc_pc _ _)
    refine ⟨sf, fun fuel hf => hex fuel ?_, ?_⟩
    · rw [hlen, hz] at hf; omega
    · rw [hz, hmf, State.setPc_mem, State.setPc_mem]
      exact hk.stores1 ▸ hsim1.mem
  · -- second prologue part, the loop, VZEROUPPER, label, RET
    rw [if_neg hz] at hrunA
    obtain ⟨s4, hrun4, hpc4, hsim4⟩ := symRun_sound hc (it := 0) (loop := false) (by simp) sh.pre2 _ _ σ1 σ0 _ a2
      (State.setPc_pc _ _) (((hsim1.setFlags _ _).withPc _).withPc _) hk.run2
    have hsimH := initOK_sound hk.init hk.clampG hk.clampV hk.storesH hk.stores0 hsim4
    have htrip := fun it s => loop_trip (env := c.env) (Inv := fun it s => Sim c it H s) (Mid := fun it s => Sim c it σb s)
      (cnt := c.cnt) a2 findLoop (fun _ _ p h => h.withPc p)
      (fun it s hit hpc h => symRun_sound hc (fun _ => hit) sh.body _ _ H σb s (at_skip (at_next a2)) hpc h hk.runb)
      rfl
      (fun it s2 hit h2 => by
        obtain ⟨s3, h3, h3', h3''⟩ := dec_step hc hk hit h2
        exact ⟨s3, h3, h3', h3'', fun h => nomatch h⟩)
      (Or.inl rfl) (it := it) (s := s)
    obtain ⟨s5, hrun5, hsim5, hpc5⟩ := run_iterate htrip c.cnt 0 s4 rfl (by omega) (by rw [hpc4]; simp; omega) hsimH
    obtain ⟨s6, hrun6, hpc6, hmem6⟩ := run_vz (env := c.env) [.vzeroupper] _ _ s5 (by simp) a4
      (by rw [hpc5]; simp; omega)
    have hrun := run_trans (run_trans (run_trans (run_trans hrun1 hrunA) hrun4) hrun5) hrun6
    obtain ⟨sf, hex, hmf⟩ := exec_finish hrun a4 (by rw [hpc6]; simp; omega)
    refine ⟨sf, fun fuel hf => hex fuel ?_, hmf ▸ hmem6 ▸ hk.storesH ▸ hsim5.mem⟩
    have := steps_bound (L := sh.assemble.length) (cnt := c.cnt) (b := sh.body.length + 3)
      (k := sh.pre1.length + sh.pre2.length + 5) (by omega) (by omega)
    simp at this ⊢
    omega

end RSV.Asm
