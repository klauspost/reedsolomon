import RSV.Proofs.AsmSem
import RSV.Proofs.Tables
import RSV.Model.GF256
/-!
The environment contract of the matrix kernels is satisfiable: for every shape, coefficient rows, `start`,
`n` and slice contents there is an environment (matrix memory expanded as `genCodeGenMatrix` /
`genGFNIMatrix` do) that satisfies `Contract`, so the soundness theorem is not vacuous.
-/
namespace RSV.Asm
open RSV.Model.Kernels RSV.Gen

def mkMatrix (cfg : Cfg) (A : Nat → Nat → Nat) (p : Nat) : Nat :=
  match cfg.fam with
  | .avx2 =>
    if p % 64 < 32 then gmul (A (p / 64 % cfg.O) (p / 64 / cfg.O)) (p % 64 % 16)
    else gmul (A (p / 64 % cfg.O) (p / 64 / cfg.O)) (p % 64 % 16 * 16)
  | _ => byteAt (wordAt gf2p811dMulMatrices (A (p / 8 % cfg.O) (p / 8 / cfg.O))) (p % 8)

def mkCtx (cfg : Cfg) (A : Nat → Nat → Nat) (start n : Nat) (inp old : Nat → Nat → Nat) : Ctx where
  cfg := cfg
  env := { n := n, start := start, inputs := cfg.I, outputs := cfg.O,
           size := fun r => match r with
             | .matrix => cfg.matSize
             | .inp _ => start + n
             | .out _ => start + n
             | _ => 0,
           frame := fun _ => none, base := fun _ => 0 }
  m0 := fun r p => match r with
    | .matrix => mkMatrix cfg (fun i j => A i j % 256) p
    | .inp j => inp j p % 256
    | .out i => old i p % 256
    | _ => 0
  A := fun i j => A i j % 256

theorem mkCtx_m0_matrix (cfg : Cfg) (A : Nat → Nat → Nat) (start n : Nat) (inp old : Nat → Nat → Nat) (p : Nat) :
    (mkCtx cfg A start n inp old).m0 .matrix p = mkMatrix cfg (fun i j => A i j % 256) p := rfl
theorem mkCtx_cfg (cfg : Cfg) (A : Nat → Nat → Nat) (start n : Nat) (inp old : Nat → Nat → Nat) :
    (mkCtx cfg A start n inp old).cfg = cfg := rfl
theorem mkCtx_A (cfg : Cfg) (A : Nat → Nat → Nat) (start n : Nat) (inp old : Nat → Nat → Nat) (i j : Nat) :
    (mkCtx cfg A start n inp old).A i j = A i j % 256 := rfl

theorem mkMatrix_avx2 {cfg : Cfg} (hf : cfg.fam = .avx2) (A : Nat → Nat → Nat) {i : Nat} (j : Nat) (hi : i < cfg.O)
    {q x : Nat} (hq : q < 4) (hx : x < 16) :
    mkMatrix cfg A (avx2Slot cfg.O i j + (16 * q + x)) = gmul (A i j) (if q < 2 then x else x * 16) := by
  obtain ⟨h2, h1⟩ := slot_off (m := cfg.O) j hi
  obtain ⟨d1, d2⟩ := slot_off (j * cfg.O + i) (show 16 * q + x < 64 by omega)
  unfold mkMatrix avx2Slot
  simp only [hf]
  rw [d1, d2, h1, h2, Nat.mul_add_mod, Nat.mod_eq_of_lt hx]
  by_cases h : q < 2
  · rw [if_pos h, if_pos (by omega)]
  · rw [if_neg h, if_neg (by omega)]

theorem mkCtx_contract (cfg : Cfg) (A : Nat → Nat → Nat) (start n : Nat) (inp old : Nat → Nat → Nat)
    (h : start + n < M64) : Contract (mkCtx cfg A start n inp old) where
  inputs_eq := rfl
  outputs_eq := rfl
  no_wrap := h
  in_size := fun _ _ => Nat.le_refl _
  out_size := fun _ _ => Nat.le_refl _
  mat_size := Nat.le_refl _
  bytes := by
    intro r p
    have hA : ∀ i j, A i j % 256 < 256 := fun i j => Nat.mod_lt _ (by decide)
    cases r with
    | matrix =>
      rw [mkCtx_m0_matrix]
      unfold mkMatrix
      split
      · split <;> exact gmul_lt _ (hA _ _)
      · exact RSV.byteAt_lt _ _
    | tab k => show 0 < 256; decide
    | inHdr => show 0 < 256; decide
    | outHdr => show 0 < 256; decide
    | inp j => exact Nat.mod_lt _ (by decide)
    | out i => exact Nat.mod_lt _ (by decide)
  coeff := fun i j => Nat.mod_lt _ (by decide)
  mat_avx2 := by
    intro hfam i j hi hj x hx
    have hfam' : cfg.fam = .avx2 := hfam
    have key := fun q (hq : q < 4) => mkMatrix_avx2 hfam' (fun i j => A i j % 256) j hi hq hx
    simp only [mkCtx_m0_matrix, mkCtx_cfg, mkCtx_A, Nat.add_assoc]
    exact ⟨by simpa using key 0 (by decide), by simpa using key 1 (by decide), by simpa using key 2 (by decide),
      by simpa using key 3 (by decide)⟩
  mat_gfni := by
    intro hfam i j hi hj t ht
    have hfam' : cfg.fam ≠ .avx2 := hfam
    obtain ⟨h2, h1⟩ := slot_off (m := cfg.O) j hi
    simp only [mkCtx_m0_matrix, mkCtx_cfg, mkCtx_A]
    unfold mkMatrix gfniSlot
    generalize hs : j * cfg.O + i = sl at h1 h2
    have d0 := slot_off sl ht
    cases hf : cfg.fam with
    | avx2 => exact absurd hf hfam'
    | gfni => simp only [d0.1, d0.2, h1, h2]
    | avxgfni => simp only [d0.1, d0.2, h1, h2]

end RSV.Asm
