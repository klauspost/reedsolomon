import RSV.Proofs.LCHSched.Net
import RSV.Proofs.LCHBridge.Basic
import RSV.Proofs.LeoSchedBounded
/-!
Reading work rows symbol-wise in the field of a reading `F : FieldCtx C K`: `rd F w base s idx` is the image of
symbol `s` of row `base + idx`; a table entry represents a twiddle factor (`TwOK`: logarithm, or the sentinel
`modulus` for `0`), and under `TwOK` the row butterflies `bfF`, `bfI` are the Lin–Chung–Han butterflies.
-/
namespace RSV.LCHBridge
open RSV.Model.Leo RSV.LCH RSV.Proofs.LeoSched RSV.Proofs.LCHSched

variable {C : Ctx} {K : Type} [Field K] (F : FieldCtx C K)

theorem modulus_lt' : C.P.modulus < 2 ^ F.k := by
  rw [modulus_eq F]; have := Nat.two_pow_pos F.k; omega

/-- the bounded linearity hypothesis of `LeoSchedBounded` follows from a field reading -/
theorem mulLinearOn_of_fieldCtx : MulLinearOn C (2 ^ F.k) where
  zero := mulSym_zero C
  lt := F.mul_lt
  pow2 := ⟨F.k, rfl⟩
  xor := by
    intro a b m ha hb hm
    have hab : a ^^^ b < 2 ^ F.k := Nat.xor_lt_two_pow ha hb
    apply F.φ_inj _ _ (F.mul_lt _ _ hab hm)
      (Nat.xor_lt_two_pow (F.mul_lt _ _ ha hm) (F.mul_lt _ _ hb hm))
    rw [F.φ_mul _ _ hab hm, F.φ_xor _ _ ha hb, F.φ_xor _ _ (F.mul_lt _ _ ha hm) (F.mul_lt _ _ hb hm),
      F.φ_mul _ _ ha hm, F.φ_mul _ _ hb hm, add_mul]

def rd (w : Array Vec) (base s : ℕ) : ℕ → K := fun idx => F.φ ((w[base + idx]!)[s]!)

theorem rd_apply (w : Array Vec) (base s idx : ℕ) : rd F w base s idx = F.φ ((w[base + idx]!)[s]!) := rfl

theorem φ_zeroVec (len s : ℕ) : F.φ ((zeroVec len)[s]!) = 0 := by
  rw [get!_zeroVec, F.φ_zero]

theorem φ_xorVec {x y : Vec} {s : ℕ} (hs : s < x.size) (hx : VecBelow (2 ^ F.k) x)
    (hy : VecBelow (2 ^ F.k) y) : F.φ ((xorVec x y)[s]!) = F.φ x[s]! + F.φ y[s]! := by
  rw [get!_xorVec x y s hs, F.φ_xor _ _ (hx s hs) (hy.get (Nat.two_pow_pos _) s)]

theorem φ_mulVec {y : Vec} {s m : ℕ} (hs : s < y.size) (hy : VecBelow (2 ^ F.k) y) (hm : m < 2 ^ F.k) :
    F.φ ((mulVec C y m)[s]!) = F.φ y[s]! * F.g ^ m := by
  rw [get!_mulVec C y m s hs, F.φ_mul _ _ (hy s hs) hm]

/-- the table entry `logm` represents the twiddle factor `tw`: the sentinel `modulus = 2^k - 1` for `0`, the
logarithm to base `g` otherwise -/
def TwOK (logm : ℕ) (tw : K) : Prop :=
  (tw = 0 ∧ logm = 2 ^ F.k - 1) ∨ (logm < 2 ^ F.k - 1 ∧ F.g ^ logm = tw)

variable {F}

theorem TwOK.lt {logm : ℕ} {tw : K} (h : TwOK F logm tw) : logm < 2 ^ F.k := by
  have := Nat.two_pow_pos F.k
  rcases h with ⟨_, h⟩ | ⟨h, _⟩ <;> omega

theorem SkewOK.twOK (hS : SkewOK F) {i b : ℕ} (hi : i < F.k) (hb : 2 ^ (i + 1) ∣ b)
    (hbk : b + 2 ^ (i + 1) ≤ 2 ^ F.k) :
    TwOK F (skewAt C (b + 2 ^ i - 1)) (What (beta F) F.k i (omega (beta F) F.k b)) := by
  obtain ⟨h0, h1⟩ := hS i b hi hb hbk
  by_cases hz : What (beta F) F.k i (omega (beta F) F.k b) = 0
  · exact Or.inl ⟨hz, h0 hz⟩
  · exact Or.inr (h1 hz)

theorem vecBelow_bfF {x y : Vec} {logm : ℕ} (hx : VecBelow (2 ^ F.k) x) (hy : VecBelow (2 ^ F.k) y)
    (hm : logm < 2 ^ F.k) :
    VecBelow (2 ^ F.k) (bfF C x y logm).1 ∧ VecBelow (2 ^ F.k) (bfF C x y logm).2 := by
  have hC := mulLinearOn_of_fieldCtx F
  have h1 : VecBelow (2 ^ F.k) (bfF C x y logm).1 := by
    unfold bfF
    simp only
    split
    · exact hx
    · exact vecBelow_xorVec hC hx (vecBelow_mulVec hC hy hm)
  exact ⟨h1, vecBelow_xorVec hC hy h1⟩

theorem vecBelow_bfI {x y : Vec} {logm : ℕ} (hx : VecBelow (2 ^ F.k) x) (hy : VecBelow (2 ^ F.k) y)
    (hm : logm < 2 ^ F.k) :
    VecBelow (2 ^ F.k) (bfI C x y logm).1 ∧ VecBelow (2 ^ F.k) (bfI C x y logm).2 := by
  have hC := mulLinearOn_of_fieldCtx F
  have h2 : VecBelow (2 ^ F.k) (xorVec y x) := vecBelow_xorVec hC hy hx
  refine ⟨?_, h2⟩
  unfold bfI
  simp only
  split
  · exact hx
  · exact vecBelow_xorVec hC hx (vecBelow_mulVec hC h2 hm)

theorem φ_bfF_fst {len s logm : ℕ} {tw : K} {x y : Vec} (hx : x.size = len) (hy : y.size = len)
    (hs : s < len) (bx : VecBelow (2 ^ F.k) x) (by' : VecBelow (2 ^ F.k) y) (ht : TwOK F logm tw) :
    F.φ ((bfF C x y logm).1[s]!) = F.φ x[s]! + tw * F.φ y[s]! := by
  have hC := mulLinearOn_of_fieldCtx F
  unfold bfF
  simp only
  rcases ht with ⟨h0, hm⟩ | ⟨hlt, hg⟩
  · rw [if_pos (by rw [modulus_eq F]; exact hm), h0, zero_mul, add_zero]
  · rw [if_neg (by rw [modulus_eq F]; omega),
      φ_xorVec F (by omega) bx (vecBelow_mulVec hC by' (by omega)),
      φ_mulVec F (by omega) by' (by omega), hg, mul_comm]

theorem φ_bfF_snd {len s logm : ℕ} {tw : K} {x y : Vec} (hx : x.size = len) (hy : y.size = len)
    (hs : s < len) (bx : VecBelow (2 ^ F.k) x) (by' : VecBelow (2 ^ F.k) y) (ht : TwOK F logm tw) :
    F.φ ((bfF C x y logm).2[s]!) = (F.φ x[s]! + tw * F.φ y[s]!) + F.φ y[s]! := by
  have h1 := φ_bfF_fst hx hy hs bx by' ht
  have hb := (vecBelow_bfF (C := C) bx by' ht.lt).1
  show F.φ ((xorVec y (bfF C x y logm).1)[s]!) = _
  rw [φ_xorVec F (by omega) by' hb, h1, add_comm]

theorem φ_bfI_snd {len s logm : ℕ} {x y : Vec} (hy : y.size = len)
    (hs : s < len) (bx : VecBelow (2 ^ F.k) x) (by' : VecBelow (2 ^ F.k) y) :
    F.φ ((bfI C x y logm).2[s]!) = F.φ x[s]! + F.φ y[s]! := by
  show F.φ ((xorVec y x)[s]!) = _
  rw [φ_xorVec F (by omega) by' bx, add_comm]

theorem φ_bfI_fst {len s logm : ℕ} {tw : K} {x y : Vec} (hx : x.size = len) (hy : y.size = len)
    (hs : s < len) (bx : VecBelow (2 ^ F.k) x) (by' : VecBelow (2 ^ F.k) y) (ht : TwOK F logm tw) :
    F.φ ((bfI C x y logm).1[s]!) = F.φ x[s]! + tw * (F.φ x[s]! + F.φ y[s]!) := by
  have hC := mulLinearOn_of_fieldCtx F
  have h2 : VecBelow (2 ^ F.k) (xorVec y x) := vecBelow_xorVec hC by' bx
  have e2 : F.φ ((xorVec y x)[s]!) = F.φ x[s]! + F.φ y[s]! := by
    rw [φ_xorVec F (by omega) by' bx, add_comm]
  unfold bfI
  simp only
  rcases ht with ⟨h0, hm⟩ | ⟨hlt, hg⟩
  · rw [if_pos (by rw [modulus_eq F]; exact hm), h0, zero_mul, add_zero]
  · rw [if_neg (by rw [modulus_eq F]; omega),
      φ_xorVec F (by omega) bx (vecBelow_mulVec hC h2 (by omega)),
      φ_mulVec F (by rw [size_xorVec]; omega) h2 (by omega), e2, hg, mul_comm]

end RSV.LCHBridge
