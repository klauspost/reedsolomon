import RSV.Proofs.LCHBridge.Skew
import RSV.Proofs.LeoField
import RSV.Proofs.Leo16.Iso
/-!
The two field readings of Leopard's contexts: `F8` over `GF256` (`φ = toGF`, `g = x = 2`, `k = 8`) and `F16` over
`GF65536` (`φ = toGF16`, `g = GF65536.X`, `k = 16`), every field discharged from `RSV.Proofs.LeoField` /
`RSV.Proofs.Leo16`.  `skewOK8`, `skewOK16` are corollaries of the structural theorem `skewOK`: no table is evaluated
for them.
-/
namespace RSV.LCHBridge
open RSV RSV.Model RSV.LCH

section GF8
open RSV.Proofs.LeoField

def X8 : GF256 := ⟨2, by decide⟩

theorem X8_pow_val (n : ℕ) : (X8 ^ n).val = gpow 2 n := GF256.pow_val X8 n

theorem gpow_two_255 : gpow 2 255 = 1 := (RSV.basis8.xpow_eq_ppow 255).symm.trans RSV.prim8.per

theorem X8_pow_255 : X8 ^ 255 = 1 := GF256.ext (by rw [X8_pow_val, gpow_two_255]; rfl)

theorem toGF_one : toGF 1 = 1 := by unfold toGF; rw [cm_one]; rfl

theorem toGF_mulSym {a m : ℕ} (ha : a < 256) (hm : m < 256) :
    toGF (Leo.mulSym C8 a m) = toGF a * X8 ^ m :=
  GF256.ext (by rw [GF256.mul_val, X8_pow_val, toGF_val, toGF_val, cm_mulSym ha hm])

theorem X8_pow_log {a : ℕ} (h0 : a ≠ 0) (ha : a < 256) : X8 ^ T8.log[a]! = toGF a :=
  GF256.ext (by rw [X8_pow_val, toGF_val, log_spec h0 ha])

def F8 : LCHBridge.FieldCtx (Leo.mkCtx Leo.P8) GF256 where
  k := 8
  hbits := rfl
  hk := by decide
  φ := toGF
  g := X8
  char2 := GF256.instCharP
  φ_zero := toGF_zero
  φ_one := toGF_one
  φ_xor := fun a b _ _ => toGF_xor a b
  φ_inj := fun a b ha hb h => toGF_inj (show a < 256 from ha) (show b < 256 from hb) h
  g_pow_modulus := X8_pow_255
  g_ne_zero := by decide
  mul_lt := fun a m _ _ => mulLog_lt a m
  φ_mul := fun a m ha hm => toGF_mulSym (show a < 256 from ha) (show m < 256 from hm)
  log_lt := fun a h0 ha => log_lt h0 (show a < 256 from ha)
  log_spec := fun a h0 ha => X8_pow_log h0 (show a < 256 from ha)
  log_zero := log_zero

theorem skewOK8 : SkewOK F8 := skewOK F8 rfl

end GF8

section GF16
open RSV.Proofs.Leo16

theorem X16_pow_log {a : ℕ} (h0 : a ≠ 0) (ha : a < 65536) : GF65536.X ^ T16.log[a]! = toGF16 a :=
  GF65536.ext (by rw [GF65536.X_pow_val, toGF16_val, log16_spec h0 ha])

def F16 : LCHBridge.FieldCtx (Leo.mkCtx Leo.P16) GF65536 where
  k := 16
  hbits := rfl
  hk := by decide
  φ := toGF16
  g := GF65536.X
  char2 := GF65536.instCharP
  φ_zero := toGF16_zero
  φ_one := toGF16_one
  φ_xor := fun a b _ _ => toGF16_xor a b
  φ_inj := fun a b ha hb h => toGF16_inj (show a < 65536 from ha) (show b < 65536 from hb) h
  g_pow_modulus := GF65536.X_pow_65535
  g_ne_zero := by decide
  mul_lt := fun a m _ _ => mulLog16_lt a m
  φ_mul := fun a m ha hm => toGF16_mulSym (show a < 65536 from ha) (show m < 65536 from hm)
  log_lt := fun a h0 ha => log16_lt h0 (show a < 65536 from ha)
  log_spec := fun a h0 ha => X16_pow_log h0 (show a < 65536 from ha)
  log_zero := log16_zero

theorem skewOK16 : SkewOK F16 := skewOK F16 rfl

end GF16

end RSV.LCHBridge

#print axioms RSV.LCHBridge.skewOK
#print axioms RSV.LCHBridge.omega_beta
#print axioms RSV.LCHBridge.indep_beta
#print axioms RSV.LCHBridge.F8
#print axioms RSV.LCHBridge.F16
#print axioms RSV.LCHBridge.skewOK8
#print axioms RSV.LCHBridge.skewOK16
