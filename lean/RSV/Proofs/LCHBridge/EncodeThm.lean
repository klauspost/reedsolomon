import RSV.Proofs.LCH.Encode
import RSV.Proofs.LCHSched.Encode
import RSV.Proofs.LCHBridge.Layers
/-!
Leopard's `encode` computes the code with generator `encMatrix (beta F) F.k t p d` (`encode_eq_encMatrix`), which
is MDS (`encode_generator_mds`): schedule → row networks (`encode_row`) → `fft` / `ifft` (`rd_fftRows`,
`rd_ifftRows`); the work area before the forward transform reads as `∑_g ifft ((g+1)·m) (group g)`
(`encWork_spec`); then `LCH.parity_eq`.
-/
namespace RSV.LCHBridge
open RSV.Model.Leo RSV.LCH RSV.Proofs.LeoSched RSV.Proofs.LCHSched Finset

variable {C : Ctx} {K : Type} [Field K] {F : FieldCtx C K}

/-- number of further groups of `m` data shards after the first one (as computed by `encodeSched`) -/
def ngroups (m d : ℕ) : ℕ := if m < d then (d - m + m - 1) / m else 0

theorem mul_succ_le_of_lt_of_dvd {a m N : ℕ} (h : a * m < N) (hd : m ∣ N) : (a + 1) * m ≤ N := by
  rw [Nat.succ_mul]
  exact RSV.Proofs.LeoSchedRange.add_le_of_dvd (Nat.dvd_mul_left _ _) hd h

theorem groups_arith {m d N : ℕ} (hm : 0 < m) (hd : 0 < d) (hdvd : m ∣ N) (hadm : d + m ≤ N) :
    (ngroups m d + 1 + 1) * m ≤ N ∧ d ≤ (ngroups m d + 1) * m := by
  unfold ngroups
  by_cases h : m < d
  · rw [if_pos h]
    have e : d - m + m - 1 = d - 1 := by omega
    rw [e]
    have h1 : (d - 1) / m * m ≤ d - 1 := Nat.div_mul_le_self _ _
    have h2 : d - 1 < ((d - 1) / m + 1) * m := by
      rw [Nat.mul_comm]; exact Nat.lt_mul_div_succ _ hm
    have h3 : ((d - 1) / m + 1) * m = (d - 1) / m * m + m := Nat.succ_mul _ _
    exact ⟨mul_succ_le_of_lt_of_dvd (by omega) hdvd, by omega⟩
  · rw [if_neg h]
    exact ⟨mul_succ_le_of_lt_of_dvd (by omega) hdvd, by omega⟩

def msg (F : FieldCtx C K) (data : Array Vec) (d s : ℕ) : ℕ → K :=
  fun c => if c < d then F.φ ((data[c]!)[s]!) else 0

structure Good (F : FieldCtx C K) (len n : ℕ) (w : Array Vec) : Prop where
  size : w.size = n
  wf : WF len w
  below : SymsBelow (2 ^ F.k) w

theorem Good.replicate (F : FieldCtx C K) (len n : ℕ) : Good F len n (Array.replicate n (zeroVec len)) :=
  ⟨by simp, WF_replicate _ _, symsBelow_replicate (Nat.two_pow_pos _) _ _⟩

theorem dataRows_all (Pr : Vec → Prop) {len base off cnt m : ℕ} {data w : Array Vec}
    (hd : ∀ j, j < cnt → Pr data[off + j]!) (hz : Pr (zeroVec len)) (hw : ∀ x, x < w.size → Pr w[x]!) :
    ∀ x, x < (dataRows data len base off cnt m w).size → Pr (dataRows data len base off cnt m w)[x]! := by
  intro x hx
  rw [size_dataRows] at hx
  rw [dataRows_get _ _ _ _ _ _ _ x hx]
  split
  · exact hd _ (by omega)
  · split
    · exact hz
    · exact hw x hx

theorem Good.dataRows {len n base off cnt m : ℕ} {data w : Array Vec} (hw : Good F len n w)
    (hd : WF len data) (hbd : SymsBelow (2 ^ F.k) data) (hcnt : ∀ j, j < cnt → off + j < data.size) :
    Good F len n (dataRows data len base off cnt m w) :=
  ⟨by rw [size_dataRows, hw.size],
    dataRows_all (·.size = len) (fun j hj => hd _ (hcnt j hj)) (size_zeroVec len) hw.wf,
    dataRows_all (VecBelow (2 ^ F.k)) (fun _ _ => hbd.row _) (vecBelow_zeroVec (Nat.two_pow_pos _) len)
      hw.below⟩

theorem Good.xorInto {len n m : ℕ} {w : Array Vec} (hw : Good F len n w) : Good F len n (xorInto m w) := by
  refine ⟨by rw [size_xorInto, hw.size], fun x hx => ?_, fun x hx => ?_⟩
  · rw [size_xorInto] at hx
    rw [xorInto_get m w x hx]
    split
    · rw [size_xorVec]; exact hw.wf x hx
    · exact hw.wf x hx
  · rw [size_xorInto] at hx
    show VecBelow _ _
    rw [xorInto_get m w x hx]
    split
    · exact vecBelow_xorVec (mulLinearOn_of_fieldCtx F) (hw.below.row _) (hw.below.row _)
    · exact hw.below.row x

theorem Good.ifftRows {len n t off skewOff idxAdj base : ℕ} {w : Array Vec} (hw : Good F len n w)
    (G : Geo F t off skewOff idxAdj) (hS : SkewOK F) (hsz : base + 2 ^ t ≤ n) :
    Good F len n (ifftRows C t base skewOff idxAdj w) :=
  ⟨by rw [size_ifftRows, hw.size], WF_ifftRows C len t _ _ _ _ (by rw [hw.size]; exact hsz) hw.wf,
    symsBelow_ifftRows G hS (by rw [hw.size]; exact hsz) hw.below⟩

theorem rd_dataRows {len base off cnt m s x : ℕ} (data w : Array Vec) (hsz : base + m ≤ w.size)
    (hx : x < m) :
    rd F (dataRows data len base off cnt m w) base s x =
      if x < cnt then F.φ ((data[off + x]!)[s]!) else 0 := by
  rw [rd_apply, dataRows_get _ _ _ _ _ _ _ (base + x) (by omega)]
  by_cases h : x < cnt
  · rw [if_pos (by omega), if_pos h, Nat.add_sub_cancel_left]
  · rw [if_neg (by omega), if_pos (by omega), if_neg h, φ_zeroVec]

theorem rd_ifftRows_dataRows (hS : SkewOK F) {t off skewOff base doff cnt d len n s j : ℕ}
    {data w : Array Vec} (G : Geo F t off skewOff 0) (hw : Good F len n w) (hbase : base + 2 ^ t ≤ n)
    (hdsz : d ≤ data.size) (hwd : WF len data) (hbd : SymsBelow (2 ^ F.k) data)
    (hcnt : ∀ x, x < 2 ^ t → (x < cnt ↔ doff + x < d)) (hc : cnt ≤ 2 ^ t) (hs : s < len)
    (hj : j < 2 ^ t) :
    Good F len n (ifftRows C t base skewOff 0 (dataRows data len base doff cnt (2 ^ t) w)) ∧
    rd F (ifftRows C t base skewOff 0 (dataRows data len base doff cnt (2 ^ t) w)) base s j =
      ifft (beta F) F.k t off (fun x => msg F data d s (doff + x)) j := by
  have hD : Good F len n (dataRows data len base doff cnt (2 ^ t) w) :=
    hw.dataRows hwd hbd fun x hx => by have := (hcnt x (by omega)).mp hx; omega
  refine ⟨hD.ifftRows G hS hbase, ?_⟩
  rw [rd_ifftRows G hS (by rw [hD.size]; exact hbase) hD.wf hD.below hs hj]
  refine ifft_congr (beta F) F.k (fun x hx => ?_) j hj
  rw [rd_dataRows data w (by rw [hw.size]; exact hbase) hx]
  unfold msg
  by_cases h : x < cnt
  · rw [if_pos h, if_pos ((hcnt x hx).mp h)]
  · rw [if_neg h, if_neg fun h' => h ((hcnt x hx).mpr h')]

/-- geometry of group `g`: point offset `(g+2)·m`, table offset as written in `encodeSched` -/
theorem geo_group {t g : ℕ} (htk : t ≤ F.k) (hle : (g + 1 + 1 + 1) * 2 ^ t ≤ 2 ^ F.k) :
    Geo F t (2 ^ t + (2 ^ t + g * 2 ^ t)) (2 ^ t - 1 + (2 ^ t + g * 2 ^ t)) 0 := by
  have hm := Nat.two_pow_pos t
  have e1 : (g + 1 + 1 + 1) * 2 ^ t = 2 ^ t + (2 ^ t + g * 2 ^ t) + 2 ^ t := by ring
  exact ⟨htk, dvd_add (dvd_refl _) (dvd_add (dvd_refl _) (Dvd.intro_left _ rfl)), by omega, by omega⟩

section Groups
variable (hS : SkewOK F) {t d len s : ℕ} {data : Array Vec} (htk : t ≤ F.k) (hdsz : d ≤ data.size)
  (hwd : WF len data) (hbd : SymsBelow (2 ^ F.k) data) (hs : s < len)
include hS htk hdsz hwd hbd hs

theorem encGroup_spec {g : ℕ} {w : Array Vec} (hle : (g + 1 + 1 + 1) * 2 ^ t ≤ 2 ^ F.k)
    (hw : Good F len (2 * 2 ^ t) w) :
    Good F len (2 * 2 ^ t) (encGroup C data len d (2 ^ t) t g w) ∧ ∀ j, j < 2 ^ t →
      rd F (encGroup C data len d (2 ^ t) t g w) 0 s j =
        rd F w 0 s j + ifft (beta F) F.k t ((g + 1 + 1) * 2 ^ t)
          (fun x => msg F data d s ((g + 1) * 2 ^ t + x)) j := by
  have hm := Nat.two_pow_pos t
  have G : Geo F t _ _ 0 := geo_group htk hle
  have e2 : (g + 1 + 1) * 2 ^ t = 2 ^ t + (2 ^ t + g * 2 ^ t) := by ring
  have e3 : (g + 1) * 2 ^ t = 2 ^ t + g * 2 ^ t := by ring
  have hlo := fun j hj => encGroup_get_lo C data len d (2 ^ t) t g w rfl (by rw [hw.size]) j hj
  unfold encGroup at hlo ⊢
  rw [e2, e3]
  generalize hcnt : (if 2 ^ t + g * 2 ^ t + 2 ^ t ≤ d then 2 ^ t else d - (2 ^ t + g * 2 ^ t)) = cnt at hlo ⊢
  have hc : cnt ≤ 2 ^ t := by rw [← hcnt]; split <;> omega
  have hiff : ∀ x, x < 2 ^ t → (x < cnt ↔ 2 ^ t + g * 2 ^ t + x < d) := by
    intro x hx; rw [← hcnt]; split <;> omega
  have key := fun j (hj : j < 2 ^ t) =>
    rd_ifftRows_dataRows (base := 2 ^ t) (s := s) (j := j) hS G hw (by omega) hdsz hwd hbd hiff hc hs hj
  have hI := (key 0 hm).1
  refine ⟨hI.xorInto, fun j hj => ?_⟩
  rw [rd_apply, rd_apply, Nat.zero_add, hlo j hj,
    φ_xorVec F (by rw [hw.wf j (by rw [hw.size]; omega)]; exact hs) (hw.below.row j) (hI.below.row _)]
  congr 1
  exact (key j hj).2

theorem encFirst_spec {w : Array Vec} (hle : (1 + 1) * 2 ^ t ≤ 2 ^ F.k) (hw : Good F len (2 * 2 ^ t) w) :
    Good F len (2 * 2 ^ t) (ifftRows C t 0 (2 ^ t - 1) 0
        (dataRows data len 0 0 (if d < 2 ^ t then d else 2 ^ t) (2 ^ t) w)) ∧ ∀ j, j < 2 ^ t →
      rd F (ifftRows C t 0 (2 ^ t - 1) 0
          (dataRows data len 0 0 (if d < 2 ^ t then d else 2 ^ t) (2 ^ t) w)) 0 s j =
        ifft (beta F) F.k t (2 ^ t) (msg F data d s) j := by
  have hm := Nat.two_pow_pos t
  have G : Geo F t (2 ^ t) (2 ^ t - 1) 0 := Geo.inv htk (dvd_refl _) hm (by omega)
  generalize hcnt : (if d < 2 ^ t then d else 2 ^ t) = cnt
  have hc : cnt ≤ 2 ^ t := by rw [← hcnt]; split <;> omega
  have hiff : ∀ x, x < 2 ^ t → (x < cnt ↔ 0 + x < d) := by
    intro x hx; rw [← hcnt]; split <;> omega
  have key := fun j (hj : j < 2 ^ t) =>
    rd_ifftRows_dataRows (base := 0) (s := s) (j := j) hS G hw (by omega) hdsz hwd hbd hiff hc hs hj
  refine ⟨(key 0 hm).1, fun j hj => ?_⟩
  rw [(key j hj).2]
  simp only [Nat.zero_add]

theorem encFold_spec (n : ℕ) (hle : (n + 1 + 1) * 2 ^ t ≤ 2 ^ F.k) (W0 : Array Vec)
    (hw : Good F len (2 * 2 ^ t) W0) :
    Good F len (2 * 2 ^ t) ((List.range' 0 n).foldl (fun w g => encGroup C data len d (2 ^ t) t g w) W0) ∧
    ∀ j, j < 2 ^ t →
      rd F ((List.range' 0 n).foldl (fun w g => encGroup C data len d (2 ^ t) t g w) W0) 0 s j =
        rd F W0 0 s j + ∑ g ∈ range n, ifft (beta F) F.k t ((g + 1 + 1) * 2 ^ t)
          (fun x => msg F data d s ((g + 1) * 2 ^ t + x)) j := by
  induction n with
  | zero =>
    refine ⟨hw, fun j _ => ?_⟩
    rw [Finset.sum_range_zero, add_zero]; rfl
  | succ n ih =>
    have hm := Nat.two_pow_pos t
    have e : (n + 1 + 1 + 1) * 2 ^ t = (n + 1 + 1) * 2 ^ t + 2 ^ t := Nat.succ_mul _ _
    obtain ⟨h1, h4⟩ := ih (by omega)
    rw [List.range'_concat, List.foldl_append, List.foldl_cons, List.foldl_nil, Nat.zero_add, Nat.one_mul]
    obtain ⟨k1, k2⟩ := encGroup_spec hS htk hdsz hwd hbd hs (g := n) hle h1
    refine ⟨k1, fun j hj => ?_⟩
    rw [k2 j hj, h4 j hj, Finset.sum_range_succ, add_assoc]

end Groups

theorem encWork_eq_foldl (C : Ctx) (sh : Array Vec) (len d m t : ℕ) (w : Array Vec) :
    encWork C sh len d m t w =
      (List.range' 0 (ngroups m d)).foldl (fun w g => encGroup C sh len d m t g w)
        (ifftRows C t 0 (m - 1) 0 (dataRows sh len 0 0 (if d < m then d else m) m w)) := by
  unfold encWork ngroups
  split <;> rfl

theorem encWork_spec (hS : SkewOK F) {t d len s : ℕ} {data : Array Vec} (htk : t ≤ F.k)
    (hdsz : d ≤ data.size) (hwd : WF len data) (hbd : SymsBelow (2 ^ F.k) data) (hs : s < len)
    (hle : (ngroups (2 ^ t) d + 1 + 1) * 2 ^ t ≤ 2 ^ F.k) :
    Good F len (2 * 2 ^ t) (encWork C data len d (2 ^ t) t (Array.replicate (2 * 2 ^ t) (zeroVec len))) ∧
    ∀ j, j < 2 ^ t →
      rd F (encWork C data len d (2 ^ t) t (Array.replicate (2 * 2 ^ t) (zeroVec len))) 0 s j =
        ∑ g ∈ range (ngroups (2 ^ t) d + 1), ifft (beta F) F.k t ((g + 1) * 2 ^ t)
          (fun x => msg F data d s (g * 2 ^ t + x)) j := by
  have hle1 : (1 + 1) * 2 ^ t ≤ 2 ^ F.k :=
    Nat.le_trans (Nat.mul_le_mul_right _ (by omega)) hle
  obtain ⟨hF, hFrd⟩ := encFirst_spec hS htk hdsz hwd hbd hs hle1 (Good.replicate F len (2 * 2 ^ t))
  obtain ⟨hG, h4⟩ := encFold_spec hS htk hdsz hwd hbd hs (ngroups (2 ^ t) d) hle _ hF
  rw [encWork_eq_foldl]
  refine ⟨hG, fun j hj => ?_⟩
  rw [h4 j hj, hFrd j hj, Finset.sum_range_succ', add_comm]
  simp only [Nat.zero_add, Nat.one_mul, Nat.zero_mul]

theorem size_encode' (C : Ctx) (d p len : ℕ) (data : Array Vec) (hp64 : p ≤ 2 ^ 64) :
    (encode C d p len data).size = p :=
  size_encode C d p len data (by have := le_ceilPow2 p hp64; omega)

theorem encode_rows (C : Ctx) {d p len : ℕ} {data : Array Vec} (hp64 : p ≤ 2 ^ 64) (hdsz : data.size = d)
    (hwd : WF len data) : WF len (encode C d p len data) := by
  have hpm := le_ceilPow2 p hp64
  have hin := RSV.Proofs.LeoSchedRange.encodeSched_in C d p hp64
  have h := run_wf C (WF_replicate (2 * ceilPow2 p) len) hwd (steps := (encodeSched C d p).toList) (by
    intro st hst
    rw [Array.size_replicate, hdsz]
    exact hin st hst)
  rw [Array.size_replicate] at h
  intro i hi
  have hip : i < p := by rw [size_encode' C d p len data hp64] at hi; exact hi
  unfold encode
  rw [get!_extract _ 0 p i (by omega) (by rw [h.2]; omega), Nat.zero_add]
  exact h.1 i (by rw [h.2]; omega)

theorem shape_arith {k d p t : ℕ} (hd : 0 < d) (hp64 : p ≤ 2 ^ 64) (hm : ceilPow2 p = 2 ^ t)
    (hadm : d + ceilPow2 p ≤ 2 ^ k) :
    p ≤ 2 ^ t ∧ t ≤ k ∧ (ngroups (2 ^ t) d + 1 + 1) * 2 ^ t ≤ 2 ^ k ∧ d ≤ (ngroups (2 ^ t) d + 1) * 2 ^ t := by
  have hpm := le_ceilPow2 p hp64
  rw [hm] at hadm hpm
  have htk : t ≤ k := (Nat.pow_le_pow_iff_right (a := 2) (by decide)).mp (by omega)
  exact ⟨hpm, htk, groups_arith (Nat.two_pow_pos t) hd (Nat.pow_dvd_pow 2 htk) hadm⟩

theorem encode_sym (hS : SkewOK F) {d p t len s r : ℕ} {data : Array Vec} (hd : 0 < d) (hp64 : p ≤ 2 ^ 64)
    (hm : ceilPow2 p = 2 ^ t) (hadm : d + ceilPow2 p ≤ 2 ^ F.k) (hdsz : d ≤ data.size) (hwd : WF len data)
    (hbd : SymsBelow (2 ^ F.k) data) (hr : r < p) (hs : s < len) :
    ((encode C d p len data)[r]!)[s]! < 2 ^ F.k ∧
    F.φ (((encode C d p len data)[r]!)[s]!) =
      parity (beta F) F.k t (ngroups (2 ^ t) d + 1) (fun g x => msg F data d s (g * 2 ^ t + x)) r := by
  obtain ⟨hpm, htk, hA1, -⟩ := shape_arith hd hp64 hm hadm
  have hrt : r < 2 ^ t := by omega
  obtain ⟨hW, hWrd⟩ := encWork_spec hS htk hdsz hwd hbd hs hA1
  rw [encode_row C len data d p t hm (by rw [F.hbits]; omega) hp64 r hr, hm]
  refine ⟨((symsBelow_fftRows (Geo.fwd htk) hS (by rw [hW.size]; omega) hW.below).row r).get
    (Nat.two_pow_pos _) s, ?_⟩
  have h1 : ∀ w : Array Vec, F.φ ((w[r]!)[s]!) = rd F w 0 s r := by
    intro w; rw [rd_apply, Nat.zero_add]
  unfold parity
  rw [h1, rd_fftRows (Geo.fwd htk) hS (by rw [hW.size]; omega) hW.wf hW.below hs hrt,
    fft_congr (beta F) F.k hWrd r hrt]

theorem encode_eq_encMatrix (hS : SkewOK F) {d p t len s : ℕ} {data : Array Vec} (hd : 0 < d)
    (hp64 : p ≤ 2 ^ 64) (hm : ceilPow2 p = 2 ^ t) (hadm : d + ceilPow2 p ≤ 2 ^ F.k)
    (hdsz : d ≤ data.size) (hwd : WF len data) (hbd : SymsBelow (2 ^ F.k) data) (r : Fin p) (hs : s < len) :
    F.φ (((encode C d p len data)[r.val]!)[s]!) =
      ∑ c : Fin d, encMatrix (beta F) F.k t p d r c * F.φ ((data[c.val]!)[s]!) := by
  have : CharP K 2 := F.char2
  obtain ⟨hpm, -, hA1, hA2⟩ := shape_arith hd hp64 hm hadm
  rw [(encode_sym hS hd hp64 hm hadm hdsz hwd hbd r.2 hs).2,
    parity_eq_range (indep_beta F) hA1 hA2 (msg F data d s) (fun c hc => if_neg (Nat.not_lt.mpr hc))
      (Nat.lt_of_lt_of_le r.2 hpm),
    ← Fin.sum_univ_eq_sum_range (fun c => vconst (beta F) F.k t (c / 2 ^ t) /
      (omega (beta F) F.k r.val - omega (beta F) F.k (2 ^ t + c)) * msg F data d s c) d]
  refine Finset.sum_congr rfl fun c _ => ?_
  show _ * msg F data d s c.val = _
  unfold msg
  rw [if_pos c.2]
  rfl

theorem encode_eq_cw (hS : SkewOK F) {d p t len s : ℕ} {data : Array Vec} (hd : 0 < d)
    (hp64 : p ≤ 2 ^ 64) (hm : ceilPow2 p = 2 ^ t) (hadm : d + ceilPow2 p ≤ 2 ^ F.k)
    (hdsz : d ≤ data.size) (hwd : WF len data) (hbd : SymsBelow (2 ^ F.k) data) (r : Fin p) (hs : s < len) :
    F.φ (((encode C d p len data)[r.val]!)[s]!) =
      CodeTheory.cw (encMatrix (beta F) F.k t p d) (fun c => F.φ ((data[c.val]!)[s]!)) (Sum.inr r) := by
  rw [CodeTheory.cw_inr]
  exact encode_eq_encMatrix hS hd hp64 hm hadm hdsz hwd hbd r hs

/-- needs only the field reading, not `SkewOK` -/
theorem encode_generator_mds (F : FieldCtx C K) {d p t : ℕ} (hd : 0 < d) (hp64 : p ≤ 2 ^ 64)
    (hm : ceilPow2 p = 2 ^ t) (hadm : d + ceilPow2 p ≤ 2 ^ F.k) :
    CodeTheory.MDS (encMatrix (beta F) F.k t p d) := by
  obtain ⟨hpm, -, hA1, hA2⟩ := shape_arith hd hp64 hm hadm
  exact encMatrix_mds (indep_beta F) hA1 hpm hA2

/-- any `d` of the `d + p` symbols at position `s` (data symbols and the parity symbols computed by `encode` in
Leopard's table arithmetic) determine the data symbols -/
theorem encode_any_d (hS : SkewOK F) {d p t len s : ℕ} {data data' : Array Vec} (hd : 0 < d)
    (hp64 : p ≤ 2 ^ 64) (hm : ceilPow2 p = 2 ^ t) (hadm : d + ceilPow2 p ≤ 2 ^ F.k)
    (hdsz : d ≤ data.size) (hwd : WF len data) (hbd : SymsBelow (2 ^ F.k) data)
    (hdsz' : d ≤ data'.size) (hwd' : WF len data') (hbd' : SymsBelow (2 ^ F.k) data') (hs : s < len)
    (S : Finset (Fin d ⊕ Fin p)) (hcard : S.card = d)
    (hdata : ∀ c : Fin d, Sum.inl c ∈ S → (data[c.val]!)[s]! = (data'[c.val]!)[s]!)
    (hpar : ∀ r : Fin p, Sum.inr r ∈ S →
      ((encode C d p len data)[r.val]!)[s]! = ((encode C d p len data')[r.val]!)[s]!) :
    ∀ c : Fin d, (data[c.val]!)[s]! = (data'[c.val]!)[s]! := by
  have hM := encode_generator_mds F hd hp64 hm hadm
  have := hM.unique S hcard (fun c => F.φ ((data[c.val]!)[s]!)) (fun c => F.φ ((data'[c.val]!)[s]!)) (by
    intro i hi
    rcases i with c | r
    · simp only [CodeTheory.cw_inl]; rw [hdata c hi]
    · rw [← encode_eq_cw hS hd hp64 hm hadm hdsz hwd hbd r hs,
        ← encode_eq_cw hS hd hp64 hm hadm hdsz' hwd' hbd' r hs, hpar r hi])
  intro c
  have hB := Nat.two_pow_pos F.k
  exact F.φ_inj _ _ ((hbd.row c.val).get hB s) ((hbd'.row c.val).get hB s) (congrFun this c)

end RSV.LCHBridge
