import RSV.Model.LeoTables
import RSV.Proofs.LeoPres.Loops
/-!
The table-building loops of `Leo.initFFTSkew` (the `skew` component) as folds, for any parameters and any tables;
nothing is evaluated.  The fill loops of round `m` are specified through an arbitrary relation
`R b skew[b + 2^m - 1]` that holds for `(0, 0)` and is propagated by `(b, v) ↦ (b + 2^(i+1), v ^^^ temp[i])`
(`fillRound_spec`): it then holds at every multiple `b` of `2^(m+1)` below `2^bits`, and all other positions are
untouched.
-/
namespace RSV.LCHBridge
open RSV.Model RSV.Proofs RSV.Proofs.LeoPres

def tempInit (bits : Nat) : Array Nat :=
  (List.range' 1 (bits - 1)).foldl (fun b a => b.set! (a - 1) (1 <<< a)) (Array.replicate (bits - 1) 0)

/-- the innermost loop: `n` iterations of `skew[j + s] = skew[j] ^ t`, `j = c + q * step` -/
def fillRow (c step s t : Nat) (sk : Array Nat) (n : Nat) : Array Nat :=
  (List.range' 0 n).foldl (fun b q => b.set! (c + q * step + s) (b[c + q * step]! ^^^ t)) sk

def fillRound (bits m : Nat) (temp sk : Array Nat) : Array Nat :=
  (List.range' m (bits - 1 - m)).foldl (fun b i =>
      fillRow ((1 <<< m) - 1) (1 <<< (m + 1)) (1 <<< (i + 1)) temp[i]! b ((1 <<< (i + 1)) / (1 <<< (m + 1))))
    (sk.set! ((1 <<< m) - 1) 0)

def tempUpd (P : Leo.Params) (T : Leo.LUTs) (m : Nat) (temp : Array Nat) : Array Nat :=
  (List.range' (m + 1) (P.bits - 1 - (m + 1))).foldl (fun b a =>
      b.set! a (Leo.mulLog P T b[a]! (Leo.addMod P T.log[b[a]! ^^^ 1]! b[m]!)))
    (temp.set! m (P.modulus - T.log[Leo.mulLog P T temp[m]! T.log[temp[m]! ^^^ 1]!]!))

def rounds (P : Leo.Params) (T : Leo.LUTs) (n : Nat) : Array Nat × Array Nat :=
  (List.range' 0 n).foldl (fun s m => (tempUpd P T m s.1, fillRound P.bits m s.1 s.2))
    (tempInit P.bits, Array.replicate P.modulus 0)

theorem initFFTSkew_skew_eq (P : Leo.Params) (T : Leo.LUTs) :
    (Leo.initFFTSkew P T).skew =
      (List.range' 0 P.modulus).foldl (fun b a => b.set! a T.log[b[a]!]!) (rounds P T (P.bits - 1)).2 := by
  unfold Leo.initFFTSkew
  simp only [Std.Legacy.Range.forIn_eq_forIn_range', Std.Legacy.Range.size,
    List.forIn_pure_yield_eq_foldl, bind_pure_comp, map_pure, Id.run_pure, Nat.sub_zero,
    Nat.add_one_sub_one, Nat.div_one]
  rfl

theorem rounds_succ (P : Leo.Params) (T : Leo.LUTs) (n : Nat) :
    rounds P T (n + 1) = (tempUpd P T n (rounds P T n).1, fillRound P.bits n (rounds P T n).1 (rounds P T n).2) := by
  unfold rounds
  rw [List.range'_1_concat, List.foldl_append]
  simp only [List.foldl_cons, List.foldl_nil, Nat.zero_add]

theorem foldl_set_size {α : Type} (g h : Array Nat → α → Nat) (l : List α) : ∀ t : Array Nat,
    (l.foldl (fun b x => b.set! (g b x) (h b x)) t).size = t.size := by
  induction l with
  | nil => intro t; rfl
  | cons y l ih => intro t; simp only [List.foldl_cons]; rw [ih]; simp

theorem tempInit_size (bits : Nat) : (tempInit bits).size = bits - 1 := by
  unfold tempInit
  rw [foldl_setg_size]; simp

theorem tempInit_get (bits i : Nat) (hi : i + 1 < bits) : (tempInit bits)[i]! = 2 ^ (i + 1) := by
  unfold tempInit
  have h := foldl_setg_hit (fun a => a - 1) (fun a => 1 <<< a) (List.range' 1 (bits - 1)) (i + 1)
    (by rw [List.mem_range'_1]; omega)
    (fun y hy hyx => by
      rw [List.mem_range'_1] at hy
      have hyx' : y - 1 = i + 1 - 1 := hyx
      have : y = i + 1 := by omega
      rw [this])
    (Array.replicate (bits - 1) 0) (by simp; omega)
  simp only [Nat.add_sub_cancel] at h
  rw [h, Nat.one_shiftLeft]

theorem fillRow_size (c step s t : Nat) (sk : Array Nat) (n : Nat) :
    (fillRow c step s t sk n).size = sk.size :=
  foldl_set_size (fun _ q => c + q * step + s) (fun b q => b[c + q * step]! ^^^ t) _ sk

theorem fillRow_succ (c step s t : Nat) (sk : Array Nat) (n : Nat) :
    fillRow c step s t sk (n + 1) =
      (fillRow c step s t sk n).set! (c + n * step + s) ((fillRow c step s t sk n)[c + n * step]! ^^^ t) := by
  unfold fillRow
  rw [List.range'_1_concat, List.foldl_append]
  simp only [List.foldl_cons, List.foldl_nil, Nat.zero_add]

theorem fillRow_spec (c step s t : Nat) (sk : Array Nat) (hstep : 0 < step) : ∀ n,
    (∀ q, q < n → c + q * step < s) → (∀ q, q < n → c + q * step + s < sk.size) →
    (∀ q, q < n → (fillRow c step s t sk n)[c + q * step + s]! = sk[c + q * step]! ^^^ t) ∧
    (∀ j, (∀ q, q < n → j ≠ c + q * step + s) → (fillRow c step s t sk n)[j]! = sk[j]!) := by
  intro n
  induction n with
  | zero => exact fun _ _ => ⟨fun q hq => absurd hq (Nat.not_lt_zero q), fun j _ => rfl⟩
  | succ n ih =>
    intro hrd hwr
    obtain ⟨ih1, ih2⟩ := ih (fun q hq => hrd q (by omega)) (fun q hq => hwr q (by omega))
    have hn := hrd n (by omega)
    refine ⟨fun q hq => ?_, fun j hj => ?_⟩
    · rw [fillRow_succ]
      by_cases hqn : q = n
      · subst hqn
        rw [Arr.get!_set!_self _ _ _ (by rw [fillRow_size]; exact hwr q (by omega))]
        rw [ih2 _ (fun q' hq' => by have := hrd q' (by omega); omega)]
      · have hlt : q < n := by omega
        have : q * step < n * step := Nat.mul_lt_mul_of_pos_right hlt hstep
        rw [Arr.get!_set!_ne _ _ _ _ (by omega)]
        exact ih1 q hlt
    · rw [fillRow_succ, Arr.get!_set!_ne _ _ _ _ (Ne.symm (hj n (by omega)))]
      exact ih2 j (fun q hq => hj q (by omega))

def fillRows (m : Nat) (temp sk : Array Nat) (n : Nat) : Array Nat :=
  (List.range' m n).foldl (fun b i =>
      fillRow ((1 <<< m) - 1) (1 <<< (m + 1)) (1 <<< (i + 1)) temp[i]! b ((1 <<< (i + 1)) / (1 <<< (m + 1))))
    (sk.set! ((1 <<< m) - 1) 0)

theorem fillRows_succ (m : Nat) (temp sk : Array Nat) (n : Nat) :
    fillRows m temp sk (n + 1) =
      fillRow (2 ^ m - 1) (2 ^ (m + 1)) (2 ^ (m + n + 1)) temp[m + n]! (fillRows m temp sk n) (2 ^ n) := by
  unfold fillRows
  rw [List.range'_1_concat, List.foldl_append]
  simp only [List.foldl_cons, List.foldl_nil, Nat.one_shiftLeft]
  congr 1
  rw [show m + n + 1 = n + (m + 1) by omega, Nat.pow_add, Nat.mul_div_cancel _ (Nat.two_pow_pos _)]

theorem fillRows_spec (bits m : Nat) (temp sk : Array Nat) (R : Nat → Nat → Prop)
    (hsz : sk.size = 2 ^ bits - 1) (R0 : R 0 0)
    (hR : ∀ i, m ≤ i → i + 1 < bits → ∀ b v, 2 ^ (m + 1) ∣ b → b < 2 ^ (i + 1) → R b v →
      R (b + 2 ^ (i + 1)) (v ^^^ temp[i]!)) : ∀ n, m + n + 1 ≤ bits →
    (fillRows m temp sk n).size = sk.size ∧
    (∀ b, 2 ^ (m + 1) ∣ b → b < 2 ^ (m + n + 1) → R b (fillRows m temp sk n)[b + 2 ^ m - 1]!) ∧
    (∀ j, (∀ b, 2 ^ (m + 1) ∣ b → j ≠ b + 2 ^ m - 1) → (fillRows m temp sk n)[j]! = sk[j]!) := by
  intro n
  have hA : 0 < 2 ^ m := Nat.two_pow_pos m
  have hstepeq : 2 ^ (m + 1) = 2 * 2 ^ m := by rw [Nat.pow_succ]; omega
  induction n with
  | zero =>
    intro hn
    have hlt : 2 ^ m < 2 ^ bits := Nat.pow_lt_pow_right (by decide) (by omega)
    have h0 : fillRows m temp sk 0 = sk.set! (2 ^ m - 1) 0 := by
      unfold fillRows; simp [Nat.one_shiftLeft]
    rw [h0]
    refine ⟨by simp, fun b hb hlt' => ?_, fun j hj => ?_⟩
    · have : b = 0 := Nat.eq_zero_of_dvd_of_lt hb hlt'
      subst this
      rw [Nat.zero_add, Arr.get!_set!_self _ _ _ (by omega)]
      exact R0
    · have := hj 0 (Nat.dvd_zero _)
      rw [Nat.zero_add] at this
      exact Arr.get!_set!_ne _ _ _ _ (Ne.symm this)
  | succ n ih =>
    intro hn
    obtain ⟨ihs, ih1, ih2⟩ := ih (by omega)
    rw [fillRows_succ]
    have hseq : 2 ^ (m + n + 1) = 2 ^ n * 2 ^ (m + 1) := by
      rw [show m + n + 1 = n + (m + 1) by omega, Nat.pow_add]
    have hs2 : 2 ^ (m + (n + 1) + 1) = 2 * 2 ^ (m + n + 1) := by
      rw [show m + (n + 1) + 1 = (m + n + 1) + 1 by omega, Nat.pow_succ]; omega
    have hbits : 2 * 2 ^ (m + n + 1) ≤ 2 ^ bits := by
      rw [← hs2]; exact Nat.pow_le_pow_right (by decide) (by omega)
    have hq : ∀ q, q < 2 ^ n → q * 2 ^ (m + 1) + 2 ^ (m + 1) ≤ 2 ^ (m + n + 1) := by
      intro q hq
      have := Nat.mul_le_mul_right (2 ^ (m + 1)) (show q + 1 ≤ 2 ^ n from hq)
      rw [Nat.add_mul, Nat.one_mul] at this
      rw [hseq]; exact this
    obtain ⟨hr1, hr2⟩ := fillRow_spec (2 ^ m - 1) (2 ^ (m + 1)) (2 ^ (m + n + 1)) temp[m + n]!
      (fillRows m temp sk n) (Nat.two_pow_pos _) (2 ^ n)
      (fun q hq' => by have := hq q hq'; omega)
      (fun q hq' => by have := hq q hq'; rw [ihs, hsz]; omega)
    refine ⟨by rw [fillRow_size, ihs], fun b hb hlt => ?_, fun j hj => ?_⟩
    · by_cases hbs : b < 2 ^ (m + n + 1)
      · rw [hr2 _ (fun q _ => by omega)]
        exact ih1 b hb hbs
      · obtain ⟨b', rfl⟩ := Nat.exists_eq_add_of_le' (Nat.le_of_not_lt hbs)
        have hb' : 2 ^ (m + 1) ∣ b' := by
          have : 2 ^ (m + 1) ∣ 2 ^ (m + n + 1) := ⟨2 ^ n, by rw [hseq, Nat.mul_comm]⟩
          exact (Nat.dvd_add_iff_left this).mpr hb
        have hb'lt : b' < 2 ^ (m + n + 1) := by omega
        obtain ⟨q, rfl⟩ := hb'
        have hqlt : q < 2 ^ n := by
          rw [hseq, Nat.mul_comm] at hb'lt
          exact Nat.lt_of_mul_lt_mul_right hb'lt
        have hpos : 2 ^ (m + 1) * q + 2 ^ (m + n + 1) + 2 ^ m - 1 =
            2 ^ m - 1 + q * 2 ^ (m + 1) + 2 ^ (m + n + 1) := by
          rw [Nat.mul_comm]; omega
        rw [hpos, hr1 q hqlt]
        have hold := ih1 (2 ^ (m + 1) * q) ⟨q, rfl⟩ hb'lt
        have hpos' : 2 ^ (m + 1) * q + 2 ^ m - 1 = 2 ^ m - 1 + q * 2 ^ (m + 1) := by
          rw [Nat.mul_comm]; omega
        rw [hpos'] at hold
        exact hR (m + n) (by omega) (by omega) _ _ ⟨q, rfl⟩ hb'lt hold
    · rw [hr2 j (fun q _ => by
        have := hj (q * 2 ^ (m + 1) + 2 ^ (m + n + 1))
          ((Nat.dvd_add_iff_left ⟨2 ^ n, by rw [hseq, Nat.mul_comm]⟩).mp ⟨q, Nat.mul_comm _ _⟩)
        omega)]
      exact ih2 j hj

theorem fillRound_eq (bits m : Nat) (temp sk : Array Nat) :
    fillRound bits m temp sk = fillRows m temp sk (bits - 1 - m) := rfl

theorem fillRound_spec (bits m : Nat) (temp sk : Array Nat) (R : Nat → Nat → Prop) (hm : m + 2 ≤ bits)
    (hsz : sk.size = 2 ^ bits - 1) (R0 : R 0 0)
    (hR : ∀ i, m ≤ i → i + 1 < bits → ∀ b v, 2 ^ (m + 1) ∣ b → b < 2 ^ (i + 1) → R b v →
      R (b + 2 ^ (i + 1)) (v ^^^ temp[i]!)) :
    (fillRound bits m temp sk).size = sk.size ∧
    (∀ b, 2 ^ (m + 1) ∣ b → b < 2 ^ bits → R b (fillRound bits m temp sk)[b + 2 ^ m - 1]!) ∧
    (∀ j, (∀ b, 2 ^ (m + 1) ∣ b → j ≠ b + 2 ^ m - 1) → (fillRound bits m temp sk)[j]! = sk[j]!) := by
  have h := fillRows_spec bits m temp sk R hsz R0 hR (bits - 1 - m) (by omega)
  rw [show m + (bits - 1 - m) + 1 = bits by omega] at h
  rw [fillRound_eq]
  exact h

theorem foldl_map2_get (G : Nat → Nat → Nat) (m : Nat) (b0 : Array Nat) : ∀ n, m + 1 + n ≤ b0.size →
    ((List.range' (m + 1) n).foldl (fun b a => b.set! a (G b[a]! b[m]!)) b0).size = b0.size ∧
    ∀ i, ((List.range' (m + 1) n).foldl (fun b a => b.set! a (G b[a]! b[m]!)) b0)[i]! =
      if m + 1 ≤ i ∧ i < m + 1 + n then G b0[i]! b0[m]! else b0[i]! := by
  intro n
  induction n with
  | zero => exact fun _ => ⟨rfl, fun i => by rw [if_neg (by omega)]; rfl⟩
  | succ n ih =>
    intro hn
    obtain ⟨hs, hg⟩ := ih (by omega)
    rw [List.range'_1_concat, List.foldl_append]
    simp only [List.foldl_cons, List.foldl_nil]
    refine ⟨by simpa using hs, fun i => ?_⟩
    by_cases hin : m + 1 + n = i
    · subst hin
      rw [Arr.get!_set!_self _ _ _ (by omega), hg, hg, if_neg (by omega), if_neg (by omega), if_pos (by omega)]
    · rw [Arr.get!_set!_ne _ _ _ _ hin, hg]
      by_cases h1 : m + 1 ≤ i ∧ i < m + 1 + n
      · rw [if_pos h1, if_pos (by omega)]
      · rw [if_neg h1, if_neg (by omega)]

theorem tempUpd_spec (P : Leo.Params) (T : Leo.LUTs) (m : Nat) (temp : Array Nat)
    (hsz : temp.size = P.bits - 1) (hm : m + 2 ≤ P.bits) :
    (tempUpd P T m temp).size = temp.size ∧
    (tempUpd P T m temp)[m]! = P.modulus - T.log[Leo.mulLog P T temp[m]! T.log[temp[m]! ^^^ 1]!]! ∧
    (∀ i, m < i → i + 1 < P.bits → (tempUpd P T m temp)[i]! =
      Leo.mulLog P T temp[i]! (Leo.addMod P T.log[temp[i]! ^^^ 1]!
        (P.modulus - T.log[Leo.mulLog P T temp[m]! T.log[temp[m]! ^^^ 1]!]!))) := by
  unfold tempUpd
  obtain ⟨hs, hg⟩ := foldl_map2_get (fun x y => Leo.mulLog P T x (Leo.addMod P T.log[x ^^^ 1]! y)) m
    (temp.set! m (P.modulus - T.log[Leo.mulLog P T temp[m]! T.log[temp[m]! ^^^ 1]!]!))
    (P.bits - 1 - (m + 1)) (by simp; omega)
  refine ⟨by simpa using hs, ?_, fun i hmi hi => ?_⟩
  · rw [hg, if_neg (by omega), Arr.get!_set!_self _ _ _ (by omega)]
  · rw [hg, if_pos (by omega), Arr.get!_set!_ne _ _ _ _ (by omega), Arr.get!_set!_self _ _ _ (by omega)]

end RSV.LCHBridge
