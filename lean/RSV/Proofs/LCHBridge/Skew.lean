import RSV.Proofs.LCHBridge.Basic
import RSV.Proofs.LCHBridge.SkewLoops
/-!
`fftSkew` is the table of logarithms of the LCH twiddle factors: for any context `C` whose skew table is the one
computed by `Leo.initFFTSkew C.P C.T` and any field reading `F : FieldCtx C K` of it, `SkewOK F` holds.  Nothing is
evaluated: the proof is a loop invariant over the rounds of `initFFTSkew` (`RSV.LCHBridge.rounds`, see
`SkewLoops.lean`):

* entering round `m`, `temp[i]` (`m ≤ i`) is the symbol of `Ŵ_m(β_{i+1})` (`TempOK`);
* the fill loops of round `m` write the symbol of `Ŵ_m(ω_b)` at `b + 2^m - 1` for every multiple `b` of `2^(m+1)`
  (additivity of `Ŵ_m`), and touch nothing else;
* the update of `temp` implements `Ŵ_{m+1}(x) = Ŵ_m(x)(Ŵ_m(x)+1) / (Ŵ_m(β_{m+1})(Ŵ_m(β_{m+1})+1))`
  (`What_succ_mul`), `temp[m]` being overwritten with the logarithm of the inverse of the denominator;
* the final pass replaces every symbol by its logarithm (`log 0 = modulus` is the sentinel).
-/
namespace RSV.LCHBridge
open RSV.Model.Leo RSV.LCH RSV.Proofs RSV.Proofs.LeoPres

variable {C : Ctx} {K : Type} [Field K]

structure TempOK (F : FieldCtx C K) (m : ℕ) (temp : Array ℕ) : Prop where
  size : temp.size = F.k - 1
  val : ∀ i, m ≤ i → i + 1 < F.k →
    temp[i]! < 2 ^ F.k ∧ F.φ temp[i]! = What (beta F) F.k m (beta F (i + 1))

theorem log_mul_succ (F : FieldCtx C K) {u : ℕ} (hu : u < 2 ^ F.k) (hne : F.φ u ^ 2 + F.φ u ≠ 0) :
    C.T.log[u ^^^ 1]! < 2 ^ F.k - 1 ∧ F.g ^ C.T.log[u ^^^ 1]! = F.φ u + 1 := by
  obtain ⟨h1, h2⟩ := xor_one_spec F hu
  have hx : u ^^^ 1 ≠ 0 := by
    intro h0
    rw [h0, F.φ_zero] at h2
    apply hne
    linear_combination (-F.φ u) * h2
  exact ⟨F.log_lt _ hx h1, by rw [F.log_spec _ hx h1, h2]⟩

theorem tempUpd_ok (F : FieldCtx C K) {m : ℕ} {temp : Array ℕ} (h : TempOK F m temp) (hm : m + 2 ≤ F.k) :
    TempOK F (m + 1) (tempUpd C.P C.T m temp) := by
  have := F.char2
  have hβ := indep_beta F
  obtain ⟨hs, hgm, hgi⟩ := tempUpd_spec C.P C.T m temp (by rw [F.hbits]; exact h.size)
    (by rw [F.hbits]; exact hm)
  have hpos := Nat.two_pow_pos F.k
  -- the pivot `t = Ŵ_m(β_{m+1})`
  obtain ⟨htm, hφm⟩ := h.val m (le_refl m) (by omega)
  have hne := What_sq_add_ne_zero hβ (le_refl m) (show m + 1 < F.k by omega)
  rw [← hφm] at hne
  obtain ⟨hL1, hg1⟩ := log_mul_succ F htm hne
  obtain ⟨hp, hφp⟩ := mulLog_spec F htm (show C.T.log[temp[m]! ^^^ 1]! < 2 ^ F.k by omega)
  rw [hg1] at hφp
  have hp0 : mulLog C.P C.T temp[m]! C.T.log[temp[m]! ^^^ 1]! ≠ 0 := by
    intro h0
    rw [h0, F.φ_zero] at hφp
    apply hne
    linear_combination -hφp
  have hL2 := F.log_lt _ hp0 hp
  have hg2 := F.log_spec _ hp0 hp
  rw [hφp] at hg2
  -- `D = modulus - log (t (t+1))`: `g^D` is the inverse of `t (t+1)`
  have hD : F.g ^ (C.P.modulus - C.T.log[mulLog C.P C.T temp[m]! C.T.log[temp[m]! ^^^ 1]!]!) *
      (F.φ temp[m]! * (F.φ temp[m]! + 1)) = 1 := by
    rw [← hg2, ← pow_add, modulus_eq F, Nat.sub_add_cancel (by omega), F.g_pow_modulus]
  refine ⟨by rw [hs, h.size], fun i hmi hi => ?_⟩
  obtain ⟨hti, hφi⟩ := h.val i (by omega) hi
  have hnei := What_sq_add_ne_zero hβ (show m ≤ i by omega) hi
  rw [← hφi] at hnei
  obtain ⟨hL3, hg3⟩ := log_mul_succ F hti hnei
  obtain ⟨hsum, hgsum⟩ := addMod_spec F (show C.T.log[temp[i]! ^^^ 1]! ≤ 2 ^ F.k - 1 by omega)
    (show C.P.modulus - C.T.log[mulLog C.P C.T temp[m]! C.T.log[temp[m]! ^^^ 1]!]! ≤ 2 ^ F.k - 1 by
      rw [modulus_eq F]; omega)
  obtain ⟨hnew, hφnew⟩ := mulLog_spec F hti hsum
  rw [hgi i (by omega) (by rw [F.hbits]; exact hi)]
  refine ⟨hnew, ?_⟩
  rw [hφnew, hgsum, hg3]
  have hW := What_succ_mul hβ (show m + 1 < F.k by omega) (beta F (i + 1))
  rw [← hφm, ← hφi] at hW
  linear_combination
    (-(F.g ^ (C.P.modulus - C.T.log[mulLog C.P C.T temp[m]! C.T.log[temp[m]! ^^^ 1]!]!))) * hW +
    What (beta F) F.k (m + 1) (beta F (i + 1)) * hD

structure RoundsOK (F : FieldCtx C K) (m : ℕ) (s : Array ℕ × Array ℕ) : Prop where
  temp : TempOK F m s.1
  size : s.2.size = 2 ^ F.k - 1
  done : ∀ m', m' < m → ∀ b, 2 ^ (m' + 1) ∣ b → b + 2 ^ (m' + 1) ≤ 2 ^ F.k →
    s.2[b + 2 ^ m' - 1]! < 2 ^ F.k ∧
    F.φ s.2[b + 2 ^ m' - 1]! = What (beta F) F.k m' (omega (beta F) F.k b)
  rest : ∀ j, 2 ^ m ∣ j + 1 → s.2[j]! = 0

theorem roundsOK_zero (F : FieldCtx C K) : RoundsOK F 0 (rounds C.P C.T 0) := by
  have h0 : rounds C.P C.T 0 = (tempInit C.P.bits, Array.replicate C.P.modulus 0) := rfl
  rw [h0, F.hbits, modulus_eq F]
  refine ⟨⟨tempInit_size _, fun i _ hi => ?_⟩, by simp, fun m' hm' => absurd hm' (Nat.not_lt_zero _),
    fun j _ => ?_⟩
  · rw [tempInit_get _ _ hi, What_zero_eq (beta_zero F)]
    exact ⟨Nat.pow_lt_pow_right (by decide) hi, rfl⟩
  · by_cases hj : j < 2 ^ F.k - 1
    · exact Arr.get!_replicate _ _ _ hj
    · simp [hj]

theorem roundsOK_succ (F : FieldCtx C K) {m : ℕ} (hm : m + 2 ≤ F.k) (h : RoundsOK F m (rounds C.P C.T m)) :
    RoundsOK F (m + 1) (rounds C.P C.T (m + 1)) := by
  have := F.char2
  have hβ := indep_beta F
  rw [rounds_succ]
  generalize rounds C.P C.T m = s at h
  obtain ⟨htemp, hsize, hdone, hrest⟩ := h
  obtain ⟨hfs, hf1, hf2⟩ := fillRound_spec C.P.bits m s.1 s.2
    (fun b v => v < 2 ^ F.k ∧ F.φ v = What (beta F) F.k m (omega (beta F) F.k b))
    (by rw [F.hbits]; exact hm) (by rw [F.hbits]; exact hsize)
    ⟨Nat.two_pow_pos _, by rw [F.φ_zero, omega_zero, What_apply_zero _ _ (by omega)]⟩
    (fun i hmi hi b v _ hb hv => by
      rw [F.hbits] at hi
      obtain ⟨hti, hφi⟩ := htemp.val i hmi hi
      refine ⟨Nat.xor_lt_two_pow hv.1 hti, ?_⟩
      rw [F.φ_xor _ _ hv.1 hti, hv.2, hφi, Nat.add_comm b, omega_two_pow_add _ _ hi hb,
        What_add _ _ (by omega), add_comm])
  refine ⟨tempUpd_ok F htemp hm, by rw [hfs, hsize], fun m' hm' b hb hle => ?_, fun j hj => ?_⟩
  · by_cases hmm : m' = m
    · subst hmm
      exact hf1 b hb (by rw [F.hbits]; have := Nat.two_pow_pos (m' + 1); omega)
    · have hlt : m' < m := by omega
      rw [hf2 _ (fun b' hb' heq => by
        have h1 := Nat.two_pow_pos m'
        have h2 := Nat.two_pow_pos m
        have hd1 : 2 ^ (m' + 1) ∣ b' := dvd_trans (pow_dvd_pow 2 (by omega)) hb'
        have hd2 : 2 ^ (m' + 1) ∣ 2 ^ m := pow_dvd_pow 2 (by omega)
        have hsum : b + 2 ^ m' = b' + 2 ^ m := by omega
        have hd3 : 2 ^ (m' + 1) ∣ b + 2 ^ m' := by rw [hsum]; exact Nat.dvd_add hd1 hd2
        exact not_two_pow_succ_dvd m' ((Nat.dvd_add_right hb).mp hd3))]
      exact hdone m' hlt b hb hle
  · rw [hf2 _ (fun b' hb' heq => by
      have h2 := Nat.two_pow_pos m
      have hsum : j + 1 = b' + 2 ^ m := by omega
      rw [hsum] at hj
      exact not_two_pow_succ_dvd m ((Nat.dvd_add_right hb').mp hj))]
    exact hrest j (dvd_trans (pow_dvd_pow 2 (Nat.le_succ m)) hj)

theorem roundsOK (F : FieldCtx C K) : ∀ m, m + 1 ≤ F.k → RoundsOK F m (rounds C.P C.T m) := by
  intro m
  induction m with
  | zero => exact fun _ => roundsOK_zero F
  | succ m ih => exact fun hm => roundsOK_succ F (by omega) (ih (by omega))

theorem rounds_final (F : FieldCtx C K) {i b : ℕ} (hi : i < F.k) (hb : 2 ^ (i + 1) ∣ b)
    (hle : b + 2 ^ (i + 1) ≤ 2 ^ F.k) :
    (rounds C.P C.T (F.k - 1)).2[b + 2 ^ i - 1]! < 2 ^ F.k ∧
    F.φ (rounds C.P C.T (F.k - 1)).2[b + 2 ^ i - 1]! = What (beta F) F.k i (omega (beta F) F.k b) := by
  have := F.char2
  have hk := F.hk
  have h := roundsOK F (F.k - 1) (by omega)
  by_cases hik : i < F.k - 1
  · exact h.done i hik b hb hle
  · have hik' : i = F.k - 1 := by omega
    have hb0 : b = 0 := by
      have h1 : 2 ^ (i + 1) = 2 ^ F.k := by rw [hik', Nat.sub_add_cancel hk]
      omega
    subst hb0
    rw [Nat.zero_add, h.rest _ (by rw [hik', Nat.sub_add_cancel (Nat.two_pow_pos _)]), F.φ_zero, omega_zero,
      What_apply_zero _ _ (by omega)]
    exact ⟨Nat.two_pow_pos _, rfl⟩

theorem skewOK (F : FieldCtx C K) (hS : C.S.skew = (initFFTSkew C.P C.T).skew) : SkewOK F := by
  intro i b hi hb hle
  obtain ⟨hu, hφ⟩ := rounds_final F hi hb hle
  have hsz : (rounds C.P C.T (F.k - 1)).2.size = 2 ^ F.k - 1 := (roundsOK F (F.k - 1) (by have := F.hk; omega)).size
  have hpos : b + 2 ^ i - 1 < 2 ^ F.k - 1 := by
    have := Nat.two_pow_pos i
    rw [Nat.pow_succ] at hle
    omega
  have hget : skewAt C (b + 2 ^ i - 1) = C.T.log[(rounds C.P C.T (F.k - 1)).2[b + 2 ^ i - 1]!]! := by
    unfold skewAt
    rw [hS, initFFTSkew_skew_eq, F.hbits, modulus_eq F]
    have := (foldl_map_get (fun v => C.T.log[v]!) (rounds C.P C.T (F.k - 1)).2 (2 ^ F.k - 1)
      (by rw [hsz])).2 (b + 2 ^ i - 1)
    rw [if_pos hpos] at this
    exact this
  rw [hget, ← hφ]
  generalize (rounds C.P C.T (F.k - 1)).2[b + 2 ^ i - 1]! = u at hu hφ ⊢
  refine ⟨fun h0 => ?_, fun hne => ?_⟩
  · rw [φ_eq_zero F hu h0, F.log_zero]
  · have hu0 : u ≠ 0 := fun h => hne (by rw [h, F.φ_zero])
    exact ⟨F.log_lt u hu0 hu, F.log_spec u hu0 hu⟩

theorem skewOK_mkCtx (P : Params) {K : Type} [Field K] (F : FieldCtx (mkCtx P) K) : SkewOK F :=
  skewOK F rfl

end RSV.LCHBridge
