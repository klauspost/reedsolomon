import RSV.Proofs.LCHBridge.Iface
/-!
Consequences of a field reading `F : FieldCtx C K`: the LCH point with index `j` is `φ j` (`omega_beta`), the images
of the Cantor basis are independent, `addMod` adds exponents of `g`; and the recurrence of the normalised subspace
polynomials that `initFFTSkew` iterates (`What_succ_mul`).
-/
namespace RSV.LCHBridge
open RSV.Model.Leo RSV.LCH

section LCH
variable {K : Type} [Field K] [CharP K 2] {β : ℕ → K} {k : ℕ}

theorem What_sq_add {m : ℕ} (hβ : Indep β k) (hm : m < k) (x : K) :
    What β k m x ^ 2 + What β k m x = W β k (m + 1) x / W β k m (β m) ^ 2 := by
  have ha := W_beta_ne_zero hβ hm
  unfold What
  rw [W_succ' β k hm]
  field_simp

omit [CharP K 2] in
theorem W_succ_beta_ne_zero {m i : ℕ} (hβ : Indep β k) (hmi : m ≤ i) (hi : i + 1 < k) :
    W β k (m + 1) (β (i + 1)) ≠ 0 := by
  rw [← omega_two_pow β k hi]
  exact W_omega_ne_zero hβ (Nat.pow_lt_pow_right (by decide) hi)
    (Nat.pow_le_pow_right (by decide) (by omega))

theorem What_sq_add_ne_zero {m i : ℕ} (hβ : Indep β k) (hmi : m ≤ i) (hi : i + 1 < k) :
    What β k m (β (i + 1)) ^ 2 + What β k m (β (i + 1)) ≠ 0 := by
  rw [What_sq_add hβ (by omega)]
  exact div_ne_zero (W_succ_beta_ne_zero hβ hmi hi) (pow_ne_zero _ (W_beta_ne_zero hβ (by omega)))

/-- `Ŵ_{m+1}(x) = (Ŵ_m(x)² + Ŵ_m(x)) / (Ŵ_m(β_{m+1})² + Ŵ_m(β_{m+1}))`, in multiplicative form -/
theorem What_succ_mul {m : ℕ} (hβ : Indep β k) (hm : m + 1 < k) (x : K) :
    What β k (m + 1) x * (What β k m (β (m + 1)) ^ 2 + What β k m (β (m + 1))) =
      What β k m x ^ 2 + What β k m x := by
  rw [What_sq_add hβ (by omega), What_sq_add hβ (by omega)]
  have ha := W_beta_ne_zero hβ (show m < k by omega)
  have hb := W_succ_beta_ne_zero hβ (le_refl m) hm
  unfold What
  field_simp

omit [CharP K 2] in
theorem What_zero_eq (h0 : β 0 = 1) (x : K) : What β k 0 x = x := by
  unfold What
  rw [W_zero, W_zero, h0, div_one]

end LCH

theorem not_two_pow_succ_dvd (n : ℕ) : ¬ 2 ^ (n + 1) ∣ 2 ^ n := by
  intro h
  have := Nat.le_of_dvd (Nat.two_pow_pos n) h
  rw [Nat.pow_succ] at this
  have := Nat.two_pow_pos n
  omega

variable {C : Ctx} {K : Type} [Field K]

theorem beta_zero (F : FieldCtx C K) : beta F 0 = 1 := by
  unfold beta; rw [pow_zero, F.φ_one]

theorem omega_beta (F : FieldCtx C K) : ∀ j, j < 2 ^ F.k → omega (beta F) F.k j = F.φ j := by
  have := F.char2
  suffices h : ∀ n, n ≤ F.k → ∀ j, j < 2 ^ n → omega (beta F) F.k j = F.φ j from h F.k le_rfl
  intro n
  induction n with
  | zero =>
    intro _ j hj
    have : j = 0 := by simpa using hj
    subst this
    rw [omega_zero, F.φ_zero]
  | succ n ih =>
    intro hn j hj
    by_cases hlt : j < 2 ^ n
    · exact ih (by omega) j hlt
    · obtain ⟨r, rfl⟩ := Nat.exists_eq_add_of_le (Nat.le_of_not_lt hlt)
      have hr : r < 2 ^ n := by rw [pow_succ] at hj; omega
      have hnk : 2 ^ n < 2 ^ F.k := Nat.pow_lt_pow_right (by decide) (by omega)
      rw [omega_two_pow_add _ _ (by omega) hr, ih (by omega) r hr, RSV.BF.two_pow_add_eq_xor hr,
        F.φ_xor _ _ hnk (lt_trans hr hnk)]
      rfl

theorem indep_beta (F : FieldCtx C K) : Indep (beta F) F.k := fun a ha b hb h =>
  F.φ_inj a b ha hb (by rw [← omega_beta F a ha, ← omega_beta F b hb, h])

theorem order_eq (F : FieldCtx C K) : C.P.order = 2 ^ F.k := by
  unfold Params.order; rw [F.hbits, Nat.one_shiftLeft]

theorem modulus_eq (F : FieldCtx C K) : C.P.modulus = 2 ^ F.k - 1 := by
  unfold Params.modulus; rw [order_eq F]

theorem one_lt (F : FieldCtx C K) : 1 < 2 ^ F.k := Nat.one_lt_two_pow (by have := F.hk; omega)

theorem φ_eq_zero (F : FieldCtx C K) {u : ℕ} (hu : u < 2 ^ F.k) (h : F.φ u = 0) : u = 0 :=
  F.φ_inj u 0 hu (Nat.two_pow_pos _) (by rw [h, F.φ_zero])

theorem xor_one_spec (F : FieldCtx C K) {u : ℕ} (hu : u < 2 ^ F.k) :
    u ^^^ 1 < 2 ^ F.k ∧ F.φ (u ^^^ 1) = F.φ u + 1 :=
  ⟨Nat.xor_lt_two_pow hu (one_lt F), by rw [F.φ_xor u 1 hu (one_lt F), F.φ_one]⟩

/-- on representatives in `[0, 2^k - 1]`, `addMod` is addition modulo `2^k - 1` -/
theorem addMod_mod (P : Params) {k a b : ℕ} (hk : P.bits = k) (ha : a ≤ 2 ^ k - 1) (hb : b ≤ 2 ^ k - 1) :
    addMod P a b ≤ 2 ^ k - 1 ∧ addMod P a b % (2 ^ k - 1) = (a + b) % (2 ^ k - 1) := by
  have hpos := Nat.two_pow_pos k
  unfold addMod Params.order
  simp only
  rw [hk, Nat.one_shiftLeft, Nat.shiftRight_eq_div_pow]
  by_cases hlt : a + b < 2 ^ k
  · rw [Nat.div_eq_of_lt hlt, Nat.add_zero, Nat.mod_eq_of_lt hlt]
    exact ⟨by omega, rfl⟩
  · have h1 : (a + b) / 2 ^ k = 1 := Nat.div_eq_of_lt_le (by omega) (by omega)
    rw [h1, Nat.mod_eq_sub_mod (by omega), Nat.mod_eq_of_lt (by omega)]
    refine ⟨by omega, ?_⟩
    have h2 : a + b = (a + b + 1 - 2 ^ k) + (2 ^ k - 1) := by omega
    conv_rhs => rw [h2, Nat.add_mod_right]

theorem addMod_spec (F : FieldCtx C K) {a b : ℕ} (ha : a ≤ 2 ^ F.k - 1) (hb : b ≤ 2 ^ F.k - 1) :
    addMod C.P a b < 2 ^ F.k ∧ F.g ^ addMod C.P a b = F.g ^ a * F.g ^ b := by
  obtain ⟨h1, h2⟩ := addMod_mod C.P F.hbits ha hb
  have hpos := Nat.two_pow_pos F.k
  exact ⟨by omega, by rw [pow_eq_pow_mod _ F.g_pow_modulus, h2, ← pow_eq_pow_mod _ F.g_pow_modulus, pow_add]⟩

/-- `mulLog` on the tables of the context is `mulSym` -/
theorem mulLog_spec (F : FieldCtx C K) {a m : ℕ} (ha : a < 2 ^ F.k) (hm : m < 2 ^ F.k) :
    mulLog C.P C.T a m < 2 ^ F.k ∧ F.φ (mulLog C.P C.T a m) = F.φ a * F.g ^ m :=
  ⟨F.mul_lt a m ha hm, F.φ_mul a m ha hm⟩

end RSV.LCHBridge
