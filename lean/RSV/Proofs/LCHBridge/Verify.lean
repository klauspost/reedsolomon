import RSV.Proofs.LCHBridge.EncodeThm
import RSV.Model.LeoVerify
/-!
Lemmas behind `RSV.Props.C06leo`.  `leoVerify C d p len shards` re-encodes `shards[0 … d]` and compares with
`shards[d … d + p]`.  If two data sets differ at symbol position `s` in exactly one shard `c`, every parity symbol
`(r, s)` differs, by `encMatrix r c * (φ new - φ old)`: the entry is non-zero (`MDS_entry_ne_zero`) and `φ` is
injective.  If they differ there in at least one and at most `p` shards, some parity symbol `(r, s)` differs (the
code has distance `p + 1`).
-/
namespace RSV.LCHBridge
open RSV.Model.Leo RSV.LCH RSV.Proofs.LeoSched RSV.Proofs.LCHSched Finset

@[simp] theorem size_setSym (sh : Array Vec) (i s v : ℕ) : (setSym sh i s v).size = sh.size := by
  unfold setSym; rw [size_set!]

theorem get!_setSym_ne (sh : Array Vec) (i j s v : ℕ) (h : i ≠ j) : (setSym sh i s v)[j]! = sh[j]! :=
  get!_set!_ne _ _ _ _ h

theorem get!_setSym_self (sh : Array Vec) (i s v : ℕ) (h : i < sh.size) :
    (setSym sh i s v)[i]! = sh[i]!.set! s v :=
  get!_set!_self _ _ _ h

theorem sym_setSym_self (sh : Array Vec) (i s v : ℕ) (hi : i < sh.size) (hs : s < sh[i]!.size) :
    ((setSym sh i s v)[i]!)[s]! = v := by
  rw [get!_setSym_self sh i s v hi, get!_set!_self _ _ _ hs]

theorem sym_setSym_ne (sh : Array Vec) (i j s k v : ℕ) (h : i ≠ j ∨ s ≠ k) :
    ((setSym sh i s v)[j]!)[k]! = (sh[j]!)[k]! := by
  unfold setSym
  rw [get!_set!]
  split
  · next hh =>
    obtain ⟨rfl, _⟩ := hh
    rcases h with h | h
    · exact absurd rfl h
    · rw [get!_set!_ne _ _ _ _ h]
  · rfl

theorem size_row_setSym (sh : Array Vec) (i j s v : ℕ) : ((setSym sh i s v)[j]!).size = (sh[j]!).size := by
  unfold setSym
  rw [get!_set!]
  split
  · next hh => obtain ⟨rfl, _⟩ := hh; rw [size_set!]
  · rfl

theorem WF_setSym {len : ℕ} {sh : Array Vec} (h : WF len sh) (i s v : ℕ) : WF len (setSym sh i s v) := by
  intro j hj
  rw [size_row_setSym]
  exact h j (by simpa using hj)

theorem symsBelow_setSym {B : ℕ} {sh : Array Vec} (h : SymsBelow B sh) (i s : ℕ) {v : ℕ} (hv : v < B) :
    SymsBelow B (setSym sh i s v) := by
  intro j hj k hk
  rw [size_setSym] at hj
  rw [size_row_setSym] at hk
  by_cases hh : i = j ∧ s = k
  · obtain ⟨rfl, rfl⟩ := hh
    rw [sym_setSym_self sh i s v hj hk]; exact hv
  · rw [sym_setSym_ne sh i j s k v (by omega)]
    exact h j hj k hk

theorem setSym_append_left (data par : Array Vec) (c s v : ℕ) (hc : c < data.size) :
    setSym (data ++ par) c s v = setSym data c s v ++ par := by
  unfold setSym
  simp only [Array.set!_eq_setIfInBounds]
  rw [get!_append, if_pos hc, Array.setIfInBounds_append_left hc]

theorem setSym_append_right (data par : Array Vec) (r s v : ℕ) :
    setSym (data ++ par) (data.size + r) s v = data ++ setSym par r s v := by
  unfold setSym
  simp only [Array.set!_eq_setIfInBounds]
  rw [get!_append, if_neg (by omega), Nat.add_sub_cancel_left,
    Array.setIfInBounds_append_right (by omega), Nat.add_sub_cancel_left]

theorem leoVerify_append (C : Ctx) {d p : ℕ} (len : ℕ) (data par : Array Vec) (hd : data.size = d)
    (hp : par.size = p) : leoVerify C d p len (data ++ par) = (encode C d p len data == par) := by
  unfold leoVerify
  subst hd hp
  rw [Array.extract_append_left, Array.extract_append_right, Array.extract_size, Array.extract_size]

theorem leoVerify_eq_true_iff (C : Ctx) (d p len : ℕ) (shards : Array Vec) :
    leoVerify C d p len shards = true ↔
      encode C d p len (shards.extract 0 d) = shards.extract d (d + p) := by
  unfold leoVerify; exact beq_iff_eq

theorem leoVerify_eq_false_iff (C : Ctx) (d p len : ℕ) (shards : Array Vec) :
    leoVerify C d p len shards = false ↔
      encode C d p len (shards.extract 0 d) ≠ shards.extract d (d + p) := by
  unfold leoVerify; exact beq_eq_false_iff_ne

variable {C : Ctx} {K : Type} [Field K] {F : FieldCtx C K}

theorem encode_single_diff_eq (hS : SkewOK F) {d p t len s : ℕ} {data data' : Array Vec} (hd : 0 < d)
    (hp64 : p ≤ 2 ^ 64) (hm : ceilPow2 p = 2 ^ t) (hadm : d + ceilPow2 p ≤ 2 ^ F.k)
    (hdsz : d ≤ data.size) (hwd : WF len data) (hbd : SymsBelow (2 ^ F.k) data)
    (hdsz' : d ≤ data'.size) (hwd' : WF len data') (hbd' : SymsBelow (2 ^ F.k) data') (hs : s < len)
    (c : Fin d) (hsame : ∀ c' : Fin d, c' ≠ c → (data'[c'.val]!)[s]! = (data[c'.val]!)[s]!) (r : Fin p) :
    F.φ (((encode C d p len data')[r.val]!)[s]!) - F.φ (((encode C d p len data)[r.val]!)[s]!) =
      encMatrix (beta F) F.k t p d r c * (F.φ ((data'[c.val]!)[s]!) - F.φ ((data[c.val]!)[s]!)) := by
  rw [encode_eq_encMatrix hS hd hp64 hm hadm hdsz' hwd' hbd' r hs,
    encode_eq_encMatrix hS hd hp64 hm hadm hdsz hwd hbd r hs, ← Finset.sum_sub_distrib]
  rw [Finset.sum_eq_single c]
  · rw [mul_sub]
  · intro c' _ hc'
    rw [hsame c' hc', sub_self]
  · intro h; exact absurd (Finset.mem_univ c) h

theorem encode_single_diff (hS : SkewOK F) {d p len s : ℕ} {data data' : Array Vec} (hd : 0 < d)
    (hp64 : p ≤ 2 ^ 64) (hadm : d + ceilPow2 p ≤ 2 ^ F.k)
    (hdsz : d ≤ data.size) (hwd : WF len data) (hbd : SymsBelow (2 ^ F.k) data)
    (hdsz' : d ≤ data'.size) (hwd' : WF len data') (hbd' : SymsBelow (2 ^ F.k) data') (hs : s < len)
    (c : Fin d) (hsame : ∀ c' : Fin d, c' ≠ c → (data'[c'.val]!)[s]! = (data[c'.val]!)[s]!)
    (hdiff : (data'[c.val]!)[s]! ≠ (data[c.val]!)[s]!) (r : Fin p) :
    ((encode C d p len data')[r.val]!)[s]! ≠ ((encode C d p len data)[r.val]!)[s]! := by
  obtain ⟨t, hm⟩ := RSV.Proofs.LeoSched.ceilPow2_pow2 p
  intro heq
  have h := encode_single_diff_eq hS hd hp64 hm hadm hdsz hwd hbd hdsz' hwd' hbd' hs c hsame r
  rw [heq, sub_self] at h
  have hB := Nat.two_pow_pos F.k
  have hne : F.φ ((data'[c.val]!)[s]!) - F.φ ((data[c.val]!)[s]!) ≠ 0 :=
    sub_ne_zero.mpr fun e =>
      hdiff (F.φ_inj _ _ ((hbd'.row c.val).get hB s) ((hbd.row c.val).get hB s) e)
  exact mul_ne_zero (RSV.Model.MDS_entry_ne_zero (encode_generator_mds F hd hp64 hm hadm) r c) hne h.symm

theorem encode_diff_upto_p (hS : SkewOK F) {d p len s : ℕ} {data data' : Array Vec} (hd : 0 < d)
    (hp64 : p ≤ 2 ^ 64) (hadm : d + ceilPow2 p ≤ 2 ^ F.k)
    (hdsz : d ≤ data.size) (hwd : WF len data) (hbd : SymsBelow (2 ^ F.k) data)
    (hdsz' : d ≤ data'.size) (hwd' : WF len data') (hbd' : SymsBelow (2 ^ F.k) data') (hs : s < len)
    (D : Finset (Fin d)) (hcard : D.card ≤ p)
    (hsame : ∀ c : Fin d, c ∉ D → (data'[c.val]!)[s]! = (data[c.val]!)[s]!)
    (hdiff : ∃ c : Fin d, (data'[c.val]!)[s]! ≠ (data[c.val]!)[s]!) :
    ∃ r : Fin p, ((encode C d p len data')[r.val]!)[s]! ≠ ((encode C d p len data)[r.val]!)[s]! := by
  obtain ⟨t, hm⟩ := RSV.Proofs.LeoSched.ceilPow2_pow2 p
  by_contra hno
  have hall : ∀ r : Fin p, ((encode C d p len data')[r.val]!)[s]! = ((encode C d p len data)[r.val]!)[s]! := by
    intro r; by_contra h; exact hno ⟨r, h⟩
  have hDle : D.card ≤ d := by simpa using Finset.card_le_univ D
  have hT : d ≤ (Dᶜ.disjSum (Finset.univ : Finset (Fin p))).card := by
    rw [Finset.card_disjSum, Finset.card_compl, Finset.card_univ, Fintype.card_fin, Fintype.card_fin]
    omega
  obtain ⟨S, hST, hScard⟩ := Finset.exists_subset_card_eq hT
  obtain ⟨c, hc⟩ := hdiff
  refine hc (encode_any_d hS hd hp64 hm hadm hdsz' hwd' hbd' hdsz hwd hbd hs S hScard ?_ ?_ c)
  · intro c' hc'
    have := hST hc'
    rw [Finset.inl_mem_disjSum, Finset.mem_compl] at this
    exact hsame c' this
  · intro r _
    exact hall r

end RSV.LCHBridge
