import RSV.Proofs.LCH.Transform
import RSV.Proofs.LCHBridge.Sym
/-!
The row networks read symbol-wise are the Lin–Chung–Han transforms (`rd_fftRows`, `rd_ifftRows`), given that the
skew table holds the logarithms of the twiddle factors.  `Geo F t off skewOff idxAdj` collects the geometry of a
transform of size `2^t` at point offset `off` reading the table at `skewOff + · - idxAdj`: the block at row offset
`b` of layer `i` uses the entry for `Ŵ_i(ω_{off+b})`.
-/
namespace RSV.LCHBridge
open RSV.Model.Leo RSV.LCH RSV.Proofs.LeoSched RSV.Proofs.LCHSched

variable {C : Ctx} {K : Type} [Field K] {F : FieldCtx C K}

theorem blk_bound {i t idx : ℕ} (hi : i < t) (hidx : idx < 2 ^ t) :
    idx / 2 ^ (i + 1) * 2 ^ (i + 1) + 2 ^ (i + 1) ≤ 2 ^ t :=
  RSV.Proofs.LeoSchedRange.add_le_of_dvd (Nat.dvd_mul_left _ _) (Nat.pow_dvd_pow 2 hi)
    (Nat.lt_of_le_of_lt (Nat.div_mul_le_self _ _) hidx)

structure Geo (F : FieldCtx C K) (t off skewOff idxAdj : ℕ) : Prop where
  tk : t ≤ F.k
  dvd : 2 ^ t ∣ off
  le : off + 2 ^ t ≤ 2 ^ F.k
  /-- the skew index `skewOff + b + d - idxAdj` of a layer is `off + b + d - 1`: the encoder passes
  `(off - 1, 0)`, the decoder `(0, 1)` -/
  sk : skewOff + 1 = off + idxAdj

/-- offset `0` with skew arguments `(0, 1)`: the encoder's forward transform `fftRows C t 0 0 1` and both transforms
of the decoder -/
theorem Geo.fwd {t : ℕ} (htk : t ≤ F.k) : Geo F t 0 0 1 :=
  ⟨htk, dvd_zero _, by rw [Nat.zero_add]; exact Nat.pow_le_pow_right (by decide) htk, rfl⟩

/-- the inverse transforms of the encoder: `ifftRows C t base (off - 1) 0` -/
theorem Geo.inv {t off : ℕ} (htk : t ≤ F.k) (hdvd : 2 ^ t ∣ off) (hpos : 0 < off)
    (hle : off + 2 ^ t ≤ 2 ^ F.k) : Geo F t off (off - 1) 0 :=
  ⟨htk, hdvd, hle, by omega⟩

theorem Geo.twOK_block {t off skewOff idxAdj : ℕ} (G : Geo F t off skewOff idxAdj) (hS : SkewOK F) {i b : ℕ}
    (hi : i < t) (hb : 2 ^ (i + 1) ∣ b) (hbt : b + 2 ^ (i + 1) ≤ 2 ^ t) :
    TwOK F (skewAt C (skewOff + b + 2 ^ i - idxAdj)) (What (beta F) F.k i (omega (beta F) F.k (off + b))) := by
  have hp := Nat.two_pow_pos i
  have e : skewOff + b + 2 ^ i - idxAdj = (off + b) + 2 ^ i - 1 := by
    have := G.sk; omega
  rw [e]
  exact hS.twOK (by have := G.tk; omega) (dvd_add ((Nat.pow_dvd_pow 2 hi).trans G.dvd) hb)
    (by have := G.le; omega)

theorem Geo.twOK {t off skewOff idxAdj : ℕ} (G : Geo F t off skewOff idxAdj) (hS : SkewOK F) {i idx : ℕ}
    (hi : i < t) (hidx : idx < 2 ^ t) :
    TwOK F (skewAt C (skewOff + idx / 2 ^ (i + 1) * 2 ^ (i + 1) + 2 ^ i - idxAdj))
      (twiddle (beta F) F.k i off idx) :=
  G.twOK_block hS hi (Nat.dvd_mul_left _ _) (blk_bound hi hidx)

section Layer
variable {t off skewOff idxAdj : ℕ} (G : Geo F t off skewOff idxAdj) (hS : SkewOK F)
include G hS

theorem rd_layerRows {bf : Vec → Vec → ℕ → Vec × Vec} {B : K → K → K → K × K}
    (hφ : ∀ {len s logm : ℕ} {tw : K} {x y : Vec}, x.size = len → y.size = len → s < len →
      VecBelow (2 ^ F.k) x → VecBelow (2 ^ F.k) y → TwOK F logm tw →
      F.φ ((bf x y logm).1[s]!) = (B tw (F.φ x[s]!) (F.φ y[s]!)).1 ∧
        F.φ ((bf x y logm).2[s]!) = (B tw (F.φ x[s]!) (F.φ y[s]!)).2)
    {len base i s idx : ℕ} {w : Array Vec} (hi : i < t) (hsz : base + 2 ^ t ≤ w.size)
    (hw : WF len w) (hb : SymsBelow (2 ^ F.k) w) (hs : s < len) (hidx : idx < 2 ^ t) :
    rd F (layerRows bf (fun b => skewAt C (skewOff + b + 2 ^ i - idxAdj)) (2 ^ i) base (2 ^ t) w) base s idx =
      layer (beta F) F.k B i off (rd F w base s) idx := by
  have htw := G.twOK hS hi hidx
  have hbb := blk_bound hi hidx
  have hdm := Nat.div_add_mod' idx (2 ^ (i + 1))
  have hp : 2 ^ (i + 1) = 2 * 2 ^ i := pow_succ' 2 i
  rw [rd_apply, layerRows_get_pow _ _ i base (2 ^ t) w hsz idx hidx]
  by_cases hl : idx % 2 ^ (i + 1) < 2 ^ i
  · rw [if_pos hl, layer_low _ _ hl,
      (hφ (hw _ (by omega)) (hw _ (by omega)) hs (hb.row _) (hb.row _) htw).1, rd_apply, rd_apply,
      Nat.add_assoc]
  · have h1 := (blk_high hl).1
    rw [if_neg hl, layer_high _ _ hl,
      (hφ (hw _ (by omega)) (hw _ (by omega)) hs (hb.row _) (hb.row _) htw).2, rd_apply, rd_apply,
      Nat.add_sub_assoc h1]

theorem rd_fftLayerRows {len base i s idx : ℕ} {w : Array Vec} (hi : i < t) (hsz : base + 2 ^ t ≤ w.size)
    (hw : WF len w) (hb : SymsBelow (2 ^ F.k) w) (hs : s < len) (hidx : idx < 2 ^ t) :
    rd F (fftLayerRows C i base (2 ^ t) skewOff idxAdj w) base s idx =
      fftLayer (beta F) F.k i off (rd F w base s) idx := by
  rw [fftLayer_eq_layer]
  exact rd_layerRows G hS
    (fun hx hy hs bx by' ht => ⟨φ_bfF_fst hx hy hs bx by' ht, φ_bfF_snd hx hy hs bx by' ht⟩)
    hi hsz hw hb hs hidx

theorem rd_ifftLayerRows {len base i s idx : ℕ} {w : Array Vec} (hi : i < t) (hsz : base + 2 ^ t ≤ w.size)
    (hw : WF len w) (hb : SymsBelow (2 ^ F.k) w) (hs : s < len) (hidx : idx < 2 ^ t) :
    rd F (ifftLayerRows C i base (2 ^ t) skewOff idxAdj w) base s idx =
      ifftLayer (beta F) F.k i off (rd F w base s) idx := by
  rw [ifftLayer_eq_layer]
  exact rd_layerRows G hS
    (fun hx hy hs bx by' ht => ⟨φ_bfI_fst hx hy hs bx by' ht, φ_bfI_snd hy hs bx by'⟩)
    hi hsz hw hb hs hidx

theorem symsBelow_layerRows {bf : Vec → Vec → ℕ → Vec × Vec}
    (hbf : ∀ {x y : Vec} {logm : ℕ}, VecBelow (2 ^ F.k) x → VecBelow (2 ^ F.k) y → logm < 2 ^ F.k →
      VecBelow (2 ^ F.k) (bf x y logm).1 ∧ VecBelow (2 ^ F.k) (bf x y logm).2)
    {base i : ℕ} {w : Array Vec} (hi : i < t) (hsz : base + 2 ^ t ≤ w.size) (hb : SymsBelow (2 ^ F.k) w) :
    SymsBelow (2 ^ F.k)
      (layerRows bf (fun b => skewAt C (skewOff + b + 2 ^ i - idxAdj)) (2 ^ i) base (2 ^ t) w) :=
  layerRows_all (VecBelow (2 ^ F.k)) _ _ _ _ _ w hsz (layer_dvd i t hi)
    (fun _ hdb hbt _ _ hx hy =>
      hbf hx hy (G.twOK_block hS hi (by rwa [Nat.pow_succ']) (by rwa [Nat.pow_succ'])).lt) hb

theorem symsBelow_fftLayerRows {base i : ℕ} {w : Array Vec} (hi : i < t) (hsz : base + 2 ^ t ≤ w.size)
    (hb : SymsBelow (2 ^ F.k) w) :
    SymsBelow (2 ^ F.k) (fftLayerRows C i base (2 ^ t) skewOff idxAdj w) :=
  symsBelow_layerRows G hS vecBelow_bfF hi hsz hb

theorem symsBelow_ifftLayerRows {base i : ℕ} {w : Array Vec} (hi : i < t) (hsz : base + 2 ^ t ≤ w.size)
    (hb : SymsBelow (2 ^ F.k) w) :
    SymsBelow (2 ^ F.k) (ifftLayerRows C i base (2 ^ t) skewOff idxAdj w) :=
  symsBelow_layerRows G hS vecBelow_bfI hi hsz hb

theorem symsBelow_fftRowsAux {base : ℕ} (j : ℕ) (hj : j ≤ t) (w : Array Vec) (hsz : base + 2 ^ t ≤ w.size)
    (hb : SymsBelow (2 ^ F.k) w) :
    SymsBelow (2 ^ F.k) (fftRowsAux C base (2 ^ t) skewOff idxAdj j w) := by
  induction j generalizing w with
  | zero => exact hb
  | succ j ih =>
    rw [fftRowsAux]
    exact ih (by omega) _ (by rw [size_fftLayerRows]; exact hsz)
      (symsBelow_fftLayerRows G hS (by omega) hsz hb)

theorem symsBelow_ifftRowsAux {base : ℕ} (j : ℕ) (hj : j ≤ t) (w : Array Vec) (hsz : base + 2 ^ t ≤ w.size)
    (hb : SymsBelow (2 ^ F.k) w) :
    SymsBelow (2 ^ F.k) (ifftRowsAux C base (2 ^ t) skewOff idxAdj j w) := by
  induction j with
  | zero => exact hb
  | succ j ih =>
    rw [ifftRowsAux]
    exact symsBelow_ifftLayerRows G hS (by omega) (by rw [size_ifftRowsAux]; exact hsz) (ih (by omega))

theorem rd_fftRowsAux {len base s : ℕ} (hs : s < len) (j : ℕ) (hj : j ≤ t) (w : Array Vec)
    (hsz : base + 2 ^ t ≤ w.size) (hw : WF len w) (hb : SymsBelow (2 ^ F.k) w) :
    ∀ idx, idx < 2 ^ t → rd F (fftRowsAux C base (2 ^ t) skewOff idxAdj j w) base s idx =
      fft (beta F) F.k j off (rd F w base s) idx := by
  induction j generalizing w with
  | zero => intro idx _; rfl
  | succ j ih =>
    intro idx hidx
    have hwl : WF len (fftLayerRows C j base (2 ^ t) skewOff idxAdj w) :=
      layerRows_all (·.size = len) _ _ _ _ _ _ hsz (layer_dvd j t (by omega))
        (fun _ _ _ x y hx hy => size_bfF C hx hy _) hw
    rw [fftRowsAux, fft_succ,
      ih (by omega) (fftLayerRows C j base (2 ^ t) skewOff idxAdj w)
        (by rw [size_fftLayerRows]; exact hsz) hwl
        (symsBelow_fftLayerRows G hS (by omega) hsz hb) idx hidx]
    refine fft_congr_block (beta F) F.k (Nat.le_of_succ_le hj) (c := 0) (fun x hx => ?_) idx
      (Nat.div_eq_of_lt hidx)
    exact rd_fftLayerRows G hS (by omega) hsz hw hb hs
      ((Nat.div_eq_zero_iff.mp hx).resolve_left (Nat.two_pow_pos t).ne')

theorem rd_ifftRowsAux {len base s : ℕ} (hs : s < len) (j : ℕ) (hj : j ≤ t) (w : Array Vec)
    (hsz : base + 2 ^ t ≤ w.size) (hw : WF len w) (hb : SymsBelow (2 ^ F.k) w) :
    ∀ idx, idx < 2 ^ t → rd F (ifftRowsAux C base (2 ^ t) skewOff idxAdj j w) base s idx =
      ifft (beta F) F.k j off (rd F w base s) idx := by
  induction j with
  | zero => intro idx _; rfl
  | succ j ih =>
    intro idx hidx
    rw [ifftRowsAux, ifft_succ,
      rd_ifftLayerRows G hS (by omega) (by rw [size_ifftRowsAux]; exact hsz)
        (WF_ifftRowsAux C len base t skewOff idxAdj j (by omega) w hsz hw)
        (symsBelow_ifftRowsAux G hS j (by omega) w hsz hb) hs hidx]
    refine ifftLayer_congr_block (beta F) F.k (t := t) (c := 0) (by omega) (fun x hx => ?_) idx
      (Nat.div_eq_of_lt hidx)
    exact ih (by omega) x ((Nat.div_eq_zero_iff.mp hx).resolve_left (Nat.two_pow_pos t).ne')

theorem symsBelow_fftRows {base : ℕ} {w : Array Vec} (hsz : base + 2 ^ t ≤ w.size)
    (hb : SymsBelow (2 ^ F.k) w) : SymsBelow (2 ^ F.k) (fftRows C t base skewOff idxAdj w) :=
  symsBelow_fftRowsAux G hS t (Nat.le_refl _) w hsz hb

theorem symsBelow_ifftRows {base : ℕ} {w : Array Vec} (hsz : base + 2 ^ t ≤ w.size)
    (hb : SymsBelow (2 ^ F.k) w) : SymsBelow (2 ^ F.k) (ifftRows C t base skewOff idxAdj w) :=
  symsBelow_ifftRowsAux G hS t (Nat.le_refl _) w hsz hb

theorem rd_fftRows {len base s idx : ℕ} {w : Array Vec} (hsz : base + 2 ^ t ≤ w.size) (hw : WF len w)
    (hb : SymsBelow (2 ^ F.k) w) (hs : s < len) (hidx : idx < 2 ^ t) :
    rd F (fftRows C t base skewOff idxAdj w) base s idx = fft (beta F) F.k t off (rd F w base s) idx :=
  rd_fftRowsAux G hS hs t (Nat.le_refl _) w hsz hw hb idx hidx

theorem rd_ifftRows {len base s idx : ℕ} {w : Array Vec} (hsz : base + 2 ^ t ≤ w.size) (hw : WF len w)
    (hb : SymsBelow (2 ^ F.k) w) (hs : s < len) (hidx : idx < 2 ^ t) :
    rd F (ifftRows C t base skewOff idxAdj w) base s idx = ifft (beta F) F.k t off (rd F w base s) idx :=
  rd_ifftRowsAux G hS hs t (Nat.le_refl _) w hsz hw hb idx hidx

end Layer

end RSV.LCHBridge
