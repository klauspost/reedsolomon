import RSV.Proofs.LCH.Subspace
import RSV.Model.Leopard
/-!
# The interface between Leopard's table contexts and the Lin–Chung–Han mathematics

* `FieldCtx C K`: a *field reading* of a Leopard context `C` (tables `log`/`exp`, product `mulSym`): a map
  `φ` from symbols (naturals below `2^k`, Leopard's Cantor-basis indices) into a field `K` of characteristic 2
  that is additive, injective, turns `mulSym C a m` into `φ a * g ^ m`, and under which `log` is the discrete
  logarithm to base `g`.  Instances: `F8` for `mkCtx P8` over `GF256` and `F16` for `mkCtx P16` over `GF65536`
  (`Instances.lean`).
* `beta F i = φ (2^i)`: the image of the Cantor basis; `RSV.LCH.omega (beta F) k j = φ j` for `j < 2^k`.
* `SkewOK F`: the skew table `fftSkew` (`skewAt C`) holds, at index `b + 2^i - 1` (`b` a multiple of `2^(i+1)`),
  the logarithm of the LCH twiddle factor `Ŵ_i(ω_b)`, with the sentinel `modulus` for the factor 0.
-/
namespace RSV.LCHBridge
open RSV.Model.Leo RSV.LCH

structure FieldCtx (C : Ctx) (K : Type) [Field K] where
  /-- number of bits -/
  k : ℕ
  hbits : C.P.bits = k
  hk : 1 ≤ k
  /-- symbols into the field -/
  φ : ℕ → K
  /-- the generator `x` -/
  g : K
  char2 : CharP K 2
  φ_zero : φ 0 = 0
  φ_one : φ 1 = 1
  φ_xor : ∀ a b, a < 2 ^ k → b < 2 ^ k → φ (a ^^^ b) = φ a + φ b
  φ_inj : ∀ a b, a < 2 ^ k → b < 2 ^ k → φ a = φ b → a = b
  g_pow_modulus : g ^ (2 ^ k - 1) = 1
  g_ne_zero : g ≠ 0
  /-- products stay symbols -/
  mul_lt : ∀ a m, a < 2 ^ k → m < 2 ^ k → mulSym C a m < 2 ^ k
  /-- `mulSym a log_m` is multiplication by `g ^ log_m` (also for `log_m = modulus`, where `g ^ modulus = 1`) -/
  φ_mul : ∀ a m, a < 2 ^ k → m < 2 ^ k → φ (mulSym C a m) = φ a * g ^ m
  /-- the logarithm table -/
  log_lt : ∀ a, a ≠ 0 → a < 2 ^ k → C.T.log[a]! < 2 ^ k - 1
  log_spec : ∀ a, a ≠ 0 → a < 2 ^ k → g ^ (C.T.log[a]!) = φ a
  log_zero : C.T.log[0]! = 2 ^ k - 1

variable {C : Ctx} {K : Type} [Field K]

/-- image of the Cantor basis: basis element `i` has index `2^i` -/
def beta (F : FieldCtx C K) : ℕ → K := fun i => F.φ (2 ^ i)

/-- the skew table is the table of logarithms of the LCH twiddle factors (used through `SkewOK.twOK`, `Sym.lean`) -/
def SkewOK (F : FieldCtx C K) : Prop :=
  ∀ i b, i < F.k → 2 ^ (i + 1) ∣ b → b + 2 ^ (i + 1) ≤ 2 ^ F.k →
    (What (beta F) F.k i (omega (beta F) F.k b) = 0 → skewAt C (b + 2 ^ i - 1) = 2 ^ F.k - 1) ∧
    (What (beta F) F.k i (omega (beta F) F.k b) ≠ 0 →
      skewAt C (b + 2 ^ i - 1) < 2 ^ F.k - 1 ∧
      F.g ^ (skewAt C (b + 2 ^ i - 1)) = What (beta F) F.k i (omega (beta F) F.k b))

end RSV.LCHBridge
