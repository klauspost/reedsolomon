import RSV.Gen.Funcs
import RSV.Proofs.GF256Field
/-!
# The regenerated Go functions (`RSV.Gen.Funcs`) equal the model / specification functions

`RSV/Gen/Funcs.lean` is produced on every run by the Go-subset → Lean translator of
`tools/extract` from the current Go sources.  This file has the 64-bit wrap-arounds and the
GF(2^8) functions, which are table look-ups: what they compute follows from the table theorems of
C17 (`expTable[i] = 2^i`, `2^log a = a`, `mulTable`) by field arithmetic.  The Leopard helpers are
in `GenFuncsLeo.lean`, the property statements in `RSV/Props/C17funcs.lean`.
-/
namespace RSV.GenFuncs
open RSV.Gen RSV.Tables

theorem i64_id {x : Int} (h1 : -2 ^ 63 ≤ x) (h2 : x < 2 ^ 63) : i64 x = x := by
  unfold i64; omega

theorem u64_id {x : Nat} (h : x < 18446744073709551616) : u64 x = x := Nat.mod_eq_of_lt h

/-- `x & y`, `x ^ y` on non-negative `int`s below `2^63` are the bitwise operations of the naturals:
the conversion to `uint64` and back changes nothing, the result being below `2^63` again -/
theorem ibit64_natCast (f : Nat → Nat → Nat) (x y : Nat) (hx : x < 2 ^ 63) (hy : y < 2 ^ 63)
    (hf : f x y < 2 ^ 63) :
    i64 (Int.ofNat (f (Int.toNat ((x : Int) % 18446744073709551616))
      (Int.toNat ((y : Int) % 18446744073709551616)))) = ((f x y : Nat) : Int) := by
  have e1 : Int.toNat ((x : Int) % 18446744073709551616) = x := by omega
  have e2 : Int.toNat ((y : Int) % 18446744073709551616) = y := by omega
  rw [e1, e2, Int.ofNat_eq_natCast, i64_id (by omega) (by omega)]

theorem iand64_natCast (x y : Nat) (hx : x < 2 ^ 63) (hy : y < 2 ^ 63) :
    iand64 (x : Int) (y : Int) = ((x &&& y : Nat) : Int) :=
  ibit64_natCast (· &&& ·) x y hx hy (Nat.lt_of_le_of_lt Nat.and_le_left hx)

theorem ixor64_natCast (x y : Nat) (hx : x < 2 ^ 63) (hy : y < 2 ^ 63) :
    ixor64 (x : Int) (y : Int) = ((x ^^^ y : Nat) : Int) :=
  ibit64_natCast (· ^^^ ·) x y hx hy (Nat.xor_lt_two_pow hx hy)

theorem galMultiply_eq_table (a b : Nat) : galMultiply a b = byteAt (mulTableRows[a]!) b := rfl

theorem galMultiply_zero_left (y : Nat) : galMultiply 0 y = 0 := by
  unfold galMultiply
  rw [Tables.mulTable_split.2.1]; simp

theorem galDivide_zero_left (b : Nat) : galDivide 0 b = some 0 := rfl

theorem galDivide_zero_right {a : Nat} (ha : a ≠ 0) : galDivide a 0 = none := by
  unfold galDivide; simp [ha]

theorem galOneOver_zero : galOneOver 0 = none := rfl

/-- `invTable[a]` is the field inverse, also at `0` -/
theorem invTable_inv (a : GF256) : byteAt invTable a.val = (a⁻¹).val := by
  by_cases h : a = 0
  · subst h
    rw [GF256.inv_zero']
    exact invTable_ok.1
  · rw [← GF256.invTable_field a h]
    exact (GF256.ofNat_val_lt (byteAt_lt _ _)).symm

theorem galExp_loop1_eq (L : Nat) (hL : L < 2 ^ 63) :
    galExp_loop1 (L : Int) = some ((L % 255 : Nat) : Int) := by
  induction L using Nat.strongRecOn with
  | _ L ih =>
    rw [galExp_loop1]
    by_cases h : 255 ≤ L
    · have h' : (L : Int) ≥ 255 := by omega
      simp only [h', if_true]
      rw [i64_id (by omega) (by omega)]
      have : ((L : Int) - 255) = ((L - 255 : Nat) : Int) := by omega
      rw [this, ih (L - 255) (by omega) (by omega)]
      have e : (L - 255) % 255 = L % 255 := by omega
      rw [e]
    · have h' : ¬ ((L : Int) ≥ 255) := by omega
      simp only [h', if_false]
      have e : L % 255 = L := by omega
      rw [e]

/-- the generator `x` (= 2) of the exponent table -/
def g : GF256 := GF256.ofNat 2

theorem g_pow_val (i : Nat) : (g ^ i).val = gpow 2 i := by rw [GF256.pow_val]; rfl

theorem g_pow_255 : g ^ 255 = 1 := by
  apply GF256.ext
  rw [g_pow_val, ← expTable_pow 255 (by decide), expTable_255]; rfl

theorem g_pow_mod (m : Nat) : g ^ (m % 255) = g ^ m := by
  conv_rhs => rw [← Nat.div_add_mod m 255]
  rw [pow_add, pow_mul, g_pow_255, one_pow, one_mul]

theorem galDivide_exp {a b : Nat} (ha0 : a ≠ 0) (hb0 : b ≠ 0) :
    galDivide a b = some (byteAt expTable
      (if byteAt logTable b ≤ byteAt logTable a then byteAt logTable a - byteAt logTable b
       else byteAt logTable a + 255 - byteAt logTable b)) := by
  unfold galDivide
  simp only [ha0, hb0, if_false]
  have hla : ((logTable >>> (8 * a)) &&& 255) = byteAt logTable a := rfl
  have hlb : ((logTable >>> (8 * b)) &&& 255) = byteAt logTable b := rfl
  rw [hla, hlb]
  have h1 := byteAt_lt logTable a
  have h2 := byteAt_lt logTable b
  generalize byteAt logTable a = la at *
  generalize byteAt logTable b = lb at *
  simp only [Int.ofNat_eq_natCast]
  have e1 : i64 ((la : Int) - (lb : Int)) = (la : Int) - (lb : Int) := i64_id (by omega) (by omega)
  rw [e1]
  congr 1
  by_cases h : lb ≤ la
  · have hneg : ¬ ((la : Int) - (lb : Int) < 0) := by omega
    simp only [hneg, h, if_false, if_true]
    have : Int.toNat (((la : Int) - (lb : Int)) % 256) = la - lb := by omega
    rw [this]; rfl
  · have hneg : ((la : Int) - (lb : Int) < 0) := by omega
    simp only [hneg, h, if_false, if_true]
    rw [i64_id (by omega) (by omega)]
    have : Int.toNat (((la : Int) - (lb : Int) + 255) % 256) = la + 255 - lb := by omega
    rw [this]; rfl

theorem g_pow_log {a : Nat} (ha : a < 256) (ha0 : a ≠ 0) : g ^ byteAt logTable a = GF256.ofNat a := by
  apply GF256.ext
  rw [g_pow_val, GF256.ofNat_val_lt ha]
  exact Tables.gpow_log a ha ha0

/-- `galOneOver a = expTable[logTable[a] ^ 255]`, and `g ^ (255 - log a) · g ^ log a = g ^ 255 = 1` -/
theorem galOneOver_field {a : Nat} (ha : a < 256) (h0 : a ≠ 0) :
    galOneOver a = some ((GF256.ofNat a)⁻¹).val := by
  unfold galOneOver
  simp only [h0, if_false]
  show some (byteAt expTable (byteAt logTable a ^^^ 255)) = _
  have hl := byteAt_lt logTable a
  rw [BF.xor_255 hl, expTable_pow _ (by omega), ← g_pow_val]
  congr 2
  rw [← g_pow_log ha h0]
  apply eq_inv_of_mul_eq_one_left
  rw [← pow_add, Nat.sub_add_cancel (by omega), g_pow_255]

theorem galDivide_field {a b : Nat} (ha : a < 256) (hb : b < 256) (ha0 : a ≠ 0) (hb0 : b ≠ 0) :
    galDivide a b = some (GF256.ofNat a / GF256.ofNat b).val := by
  rw [galDivide_exp ha0 hb0]
  congr 1
  have h1 := byteAt_lt logTable a
  have h2 := byteAt_lt logTable b
  have hb' := GF256.ofNat_ne_zero hb hb0
  have key : ∀ r, r < 256 → r + byteAt logTable b = byteAt logTable a ∨ r + byteAt logTable b = byteAt logTable a + 255 →
      byteAt expTable r = (GF256.ofNat a / GF256.ofNat b).val := by
    intro r hr hsum
    rw [expTable_pow r hr, ← g_pow_val]
    congr 1
    rw [eq_div_iff hb', ← g_pow_log hb hb0, ← pow_add, ← g_pow_log ha ha0]
    rcases hsum with h | h
    · rw [h]
    · rw [h, pow_add, g_pow_255, mul_one]
  split
  · exact key _ (by omega) (Or.inl (by omega))
  · exact key _ (by omega) (Or.inr (by omega))

theorem gpow_zero_base (n : Nat) (hn : n ≠ 0) : gpow 0 n = 0 := by
  cases n with
  | zero => exact absurd rfl hn
  | succ n => exact gmul_zero_right _

theorem galExp_eq (a n : Nat) (ha : a < 256) (hn : n < 2 ^ 55) :
    galExp a (n : Int) = some (gpow a n) := by
  unfold galExp
  by_cases hn0 : n = 0
  · subst hn0; rfl
  have hn0' : ¬ ((n : Int) = 0) := by omega
  simp only [hn0', if_false]
  by_cases ha0 : a = 0
  · subst ha0; simp only [if_true]; rw [gpow_zero_base n hn0]
  simp only [ha0, if_false]
  show (match galExp_loop1 (i64 (Int.ofNat (byteAt logTable a) * (n : Int))) with
    | none => none
    | some r => some (byteAt expTable (Int.toNat (r % 256)))) = _
  have hl : byteAt logTable a < 256 := byteAt_lt _ _
  have hprod : byteAt logTable a * n < 2 ^ 63 := by
    calc byteAt logTable a * n ≤ 255 * n := Nat.mul_le_mul_right _ (by omega)
      _ < 2 ^ 63 := by omega
  have hcast : Int.ofNat (byteAt logTable a) * (n : Int) = ((byteAt logTable a * n : Nat) : Int) := by
    simp
  rw [hcast, i64_id (by omega) (by omega), galExp_loop1_eq _ hprod]
  simp only
  have hr : (byteAt logTable a * n) % 255 < 255 := Nat.mod_lt _ (by decide)
  have : Int.toNat ((((byteAt logTable a * n) % 255 : Nat) : Int) % 256) = (byteAt logTable a * n) % 255 := by
    omega
  rw [this, expTable_pow _ (by omega), ← g_pow_val, g_pow_mod, pow_mul]
  rw [g_pow_log ha ha0, GF256.pow_val, GF256.ofNat_val_lt ha]

end RSV.GenFuncs
