import RSV.Proofs.Leo16.Mul
import RSV.Proofs.LeoField.Loops
import RSV.Proofs.LeoField.Nibbles
/-!
# Leopard GF(2^16): the product lookup tables equal the direct product (structural)

`T16 = initLUTs P16`.  For every multiplier `m < 65536` and operand `a < 65536`, with no table evaluated: entry
`nib·16 + x` of `nibbleProducts P T m` is `mulLog P T ((x <<< 4·nib) % order) m` (`nib_get`, `LeoField/Loops.lean`),
`a` is the xor of its four shifted nibbles, and `mulLog` is xor-additive (`mulLog16_xor`).  Hence the pair
`mul16LUT P16 T16 m` (the Go `mul16LUTs[log_m].Lo/.Hi`) satisfies `Lo[a &&& 255] ^^^ Hi[a >>> 8] = mulLog a m`, and
the 128-byte SIMD table `mul256LUT16` (the Go `multiply256LUT[log_m]`: entry `i < 64` is the low byte, entry `64 + i`
the high byte, of the product of nibble value `i % 16` at nibble position `i / 16`) composes to the low and high
bytes of `mulLog a m`.
-/
namespace RSV.Proofs.Leo16
open RSV.Model RSV.Proofs.LeoField

theorem byte_nibbles_shl8 (i : Nat) : ((i &&& 15) <<< 8) ^^^ ((i >>> 4) <<< 12) = i <<< 8 := by
  rw [show 12 = 4 + 8 from rfl, Nat.shiftLeft_add, ← Nat.shiftLeft_xor_distrib, byte_nibbles]

theorem nibble_shl_lt {x s : Nat} (hx : x < 16) (hs : s ≤ 12) : x <<< s < 65536 :=
  Nat.lt_of_lt_of_le (shl_lt (n := 4) hx s) (Nat.pow_le_pow_right (by decide) (by omega : 4 + s ≤ 16))

theorem nibble_shift_lt (nib : Nat) (hn : nib < 4) (x : Nat) (hx : x < 16) : x <<< (4 * nib) < 65536 :=
  nibble_shl_lt hx (by omega)

theorem P16_order : Leo.P16.order = 65536 := by decide

theorem and255_lt (a : Nat) : a &&& 255 < 256 := Nat.and_lt_two_pow a (n := 8) (by decide)

theorem shr8_lt {a : Nat} (ha : a < 65536) : a >>> 8 < 256 := shr_lt (k := 8) (n := 8) ha

theorem mul16LUT_fst (P : Leo.Params) (T : Leo.LUTs) (m i : Nat) (hi : i < 256) :
    (Leo.mul16LUT P T m).1[i]! =
      (Leo.nibbleProducts P T m)[i &&& 15]! ^^^ (Leo.nibbleProducts P T m)[(i >>> 4) + 16]! := by
  unfold Leo.mul16LUT
  simp [hi]

theorem mul16LUT_snd (P : Leo.Params) (T : Leo.LUTs) (m i : Nat) (hi : i < 256) :
    (Leo.mul16LUT P T m).2[i]! =
      (Leo.nibbleProducts P T m)[(i &&& 15) + 32]! ^^^ (Leo.nibbleProducts P T m)[(i >>> 4) + 48]! := by
  unfold Leo.mul16LUT
  simp [hi]

theorem mul16LUT_lo {m i : Nat} (hm : m < 65536) (hi : i < 256) :
    (Leo.mul16LUT Leo.P16 T16 m).1[i]! = Leo.mulLog Leo.P16 T16 i m :=
  (mul16LUT_fst _ _ _ _ hi).trans (pres16.nibbles_byte (by decide) hm hi)

theorem mul16LUT_hi {m j : Nat} (hm : m < 65536) (hj : j < 256) :
    (Leo.mul16LUT Leo.P16 T16 m).2[j]! = Leo.mulLog Leo.P16 T16 (j <<< 8) m := by
  have h1 := and15_lt j
  have h2 := shr4_lt hj
  have h6 := nibble_shl_lt h1 (by decide : 8 ≤ 12)
  have h7 := nibble_shl_lt h2 (Nat.le_refl 12)
  rw [mul16LUT_snd _ _ _ _ hj, nib_2 _ _ _ _ h1, nib_3 _ _ _ _ h2, P16_order, Nat.mod_eq_of_lt h6,
    Nat.mod_eq_of_lt h7, ← mulLog16_xor h6 h7 hm, byte_nibbles_shl8]

theorem mul16LUT_get {m a : Nat} (hm : m < 65536) (ha : a < 65536) :
    (Leo.mul16LUT Leo.P16 T16 m).1[a &&& 255]! ^^^ (Leo.mul16LUT Leo.P16 T16 m).2[a >>> 8]! =
      Leo.mulLog Leo.P16 T16 a m := by
  have hl := and255_lt a
  have hh := shr8_lt ha
  have hh8 : (a >>> 8) <<< 8 < 65536 := shl_lt (n := 8) hh 8
  rw [mul16LUT_lo hm hl, mul16LUT_hi hm hh, ← mulLog16_xor (by omega) hh8 hm]
  congr 1
  exact BF.split_low a 8

theorem and255_and15 (a : Nat) : (a &&& 255) &&& 15 = a &&& 15 := by rw [Nat.and_assoc]; rfl

theorem and255_shr4 (a : Nat) : (a &&& 255) >>> 4 = (a >>> 4) &&& 15 := by
  rw [Nat.shiftRight_and_distrib]; rfl

theorem shr8_shr4 (a : Nat) : (a >>> 8) >>> 4 = a >>> 12 := by rw [← Nat.shiftRight_add]

theorem shr12_lt {a : Nat} (ha : a < 65536) : a >>> 12 < 16 := shr_lt (k := 12) (n := 4) ha

theorem nibble_compose16 {m a : Nat} (hm : m < 65536) (ha : a < 65536) :
    (Leo.nibbleProducts Leo.P16 T16 m)[a &&& 15]! ^^^
      (Leo.nibbleProducts Leo.P16 T16 m)[((a >>> 4) &&& 15) + 16]! ^^^
      (Leo.nibbleProducts Leo.P16 T16 m)[((a >>> 8) &&& 15) + 32]! ^^^
      (Leo.nibbleProducts Leo.P16 T16 m)[(a >>> 12) + 48]! = Leo.mulLog Leo.P16 T16 a m := by
  rw [← mul16LUT_get hm ha, mul16LUT_fst _ _ _ _ (and255_lt a), mul16LUT_snd _ _ _ _ (shr8_lt ha),
    and255_and15, and255_shr4, shr8_shr4]
  simp only [Nat.xor_assoc]

theorem nibble_compose16_mul {m a : Nat} (hm : m < 65536) (ha : a < 65536) :
    Leo.mulLog Leo.P16 T16 (a &&& 15) m ^^^
      Leo.mulLog Leo.P16 T16 (((a >>> 4) &&& 15) <<< 4) m ^^^
      Leo.mulLog Leo.P16 T16 (((a >>> 8) &&& 15) <<< 8) m ^^^
      Leo.mulLog Leo.P16 T16 ((a >>> 12) <<< 12) m = Leo.mulLog Leo.P16 T16 a m := by
  have h0 := and15_lt a
  have h1 := and15_lt (a >>> 4)
  have h2 := and15_lt (a >>> 8)
  have h3 := shr12_lt ha
  rw [← nibble_compose16 hm ha, nib_0 _ _ _ _ h0, nib_1 _ _ _ _ h1, nib_2 _ _ _ _ h2, nib_3 _ _ _ _ h3, P16_order,
    Nat.mod_eq_of_lt (by omega : a &&& 15 < 65536),
    Nat.mod_eq_of_lt (nibble_shift_lt 1 (by decide) _ h1),
    Nat.mod_eq_of_lt (nibble_shift_lt 2 (by decide) _ h2),
    Nat.mod_eq_of_lt (nibble_shift_lt 3 (by decide) _ h3)]

theorem mul256LUT16_fst (P : Leo.Params) (T : Leo.LUTs) (m i : Nat) (hi : i < 64) :
    (Leo.mul256LUT16 P T m)[i]! = (Leo.nibbleProducts P T m)[i]! &&& 0xFF := by
  unfold Leo.mul256LUT16
  simp [hi, show i < 128 by omega]

theorem mul256LUT16_snd (P : Leo.Params) (T : Leo.LUTs) (m i : Nat) (hi : i < 64) :
    (Leo.mul256LUT16 P T m)[64 + i]! = (Leo.nibbleProducts P T m)[i]! >>> 8 := by
  unfold Leo.mul256LUT16
  simp [show 64 + i < 128 by omega]

theorem nib16_get {m i : Nat} (hi : i < 64) :
    (Leo.nibbleProducts Leo.P16 T16 m)[i]! = Leo.mulLog Leo.P16 T16 ((i % 16) <<< (4 * (i / 16))) m := by
  have h := nib_get Leo.P16 T16 m (i / 16) (i % 16) (by omega) (Nat.mod_lt _ (by decide))
  rw [show i / 16 * 16 + i % 16 = i by omega, P16_order,
    Nat.mod_eq_of_lt (nibble_shift_lt _ (by omega) _ (Nat.mod_lt _ (by decide)))] at h
  exact h

theorem mul256LUT16_lo {m i : Nat} (hi : i < 64) :
    (Leo.mul256LUT16 Leo.P16 T16 m)[i]! =
      Leo.mulLog Leo.P16 T16 ((i % 16) <<< (4 * (i / 16))) m &&& 0xFF := by
  rw [mul256LUT16_fst _ _ _ _ hi, nib16_get hi]

theorem mul256LUT16_hi {m i : Nat} (hi : i < 64) :
    (Leo.mul256LUT16 Leo.P16 T16 m)[64 + i]! =
      Leo.mulLog Leo.P16 T16 ((i % 16) <<< (4 * (i / 16))) m >>> 8 := by
  rw [mul256LUT16_snd _ _ _ _ hi, nib16_get hi]

/-- the composition performed by the SIMD kernels -/
theorem mul256LUT16_compose {m a : Nat} (hm : m < 65536) (ha : a < 65536) :
    (Leo.mul256LUT16 Leo.P16 T16 m)[a &&& 15]! ^^^
      (Leo.mul256LUT16 Leo.P16 T16 m)[((a >>> 4) &&& 15) + 16]! ^^^
      (Leo.mul256LUT16 Leo.P16 T16 m)[((a >>> 8) &&& 15) + 32]! ^^^
      (Leo.mul256LUT16 Leo.P16 T16 m)[(a >>> 12) + 48]! = Leo.mulLog Leo.P16 T16 a m &&& 0xFF ∧
    (Leo.mul256LUT16 Leo.P16 T16 m)[64 + (a &&& 15)]! ^^^
      (Leo.mul256LUT16 Leo.P16 T16 m)[64 + (((a >>> 4) &&& 15) + 16)]! ^^^
      (Leo.mul256LUT16 Leo.P16 T16 m)[64 + (((a >>> 8) &&& 15) + 32)]! ^^^
      (Leo.mul256LUT16 Leo.P16 T16 m)[64 + ((a >>> 12) + 48)]! = Leo.mulLog Leo.P16 T16 a m >>> 8 := by
  have h0 := and15_lt a
  have h1 := and15_lt (a >>> 4)
  have h2 := and15_lt (a >>> 8)
  have h3 := shr12_lt ha
  constructor
  · rw [mul256LUT16_fst _ _ _ _ (by omega), mul256LUT16_fst _ _ _ _ (by omega),
      mul256LUT16_fst _ _ _ _ (by omega), mul256LUT16_fst _ _ _ _ (by omega),
      ← Nat.and_xor_distrib_right, ← Nat.and_xor_distrib_right, ← Nat.and_xor_distrib_right,
      nibble_compose16 hm ha]
  · rw [mul256LUT16_snd _ _ _ _ (by omega), mul256LUT16_snd _ _ _ _ (by omega),
      mul256LUT16_snd _ _ _ _ (by omega), mul256LUT16_snd _ _ _ _ (by omega),
      ← Nat.shiftRight_xor_distrib, ← Nat.shiftRight_xor_distrib, ← Nat.shiftRight_xor_distrib,
      nibble_compose16 hm ha]

end RSV.Proofs.Leo16
