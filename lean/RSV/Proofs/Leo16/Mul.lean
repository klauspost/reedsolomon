import RSV.Proofs.LeoPres
import RSV.Proofs.Leo16.Arith
import RSV.Proofs.Leo16.Cantor
/-!
# Leopard GF(2^16): the tables `initLUTs P16` and the table product

`pres16 : LeoPres P16 Pinv 16` instantiates the structural theory of `RSV/Proofs/LeoPres.lean` (no
65,536-entry table is evaluated); this file names the model's tables `T16` and context `C16` and the corollaries
other modules use.
-/
namespace RSV.Proofs.Leo16
open RSV.Model

theorem pres16 : LeoPres Leo.P16 Pinv 16 := ⟨prim16, cantor16⟩

def T16 : Leo.LUTs := Leo.initLUTs Leo.P16

theorem exp4_modulus : (exp4 Leo.P16)[65535]! = 0 := pres16.exp4_modulus

theorem mulLog16_lt (a m : Nat) : Leo.mulLog Leo.P16 T16 a m < 65536 := pres16.mulLog_lt a m

theorem mulLog16_xor {a b m : Nat} (ha : a < 65536) (hb : b < 65536) (hm : m < 65536) :
    Leo.mulLog Leo.P16 T16 (a ^^^ b) m =
      Leo.mulLog Leo.P16 T16 a m ^^^ Leo.mulLog Leo.P16 T16 b m :=
  pres16.mulLog_xor ha hb hm

def C16 : Leo.Ctx := Leo.mkCtx Leo.P16

theorem C16_P : C16.P = Leo.P16 := rfl
theorem C16_T : C16.T = T16 := rfl

theorem mulSym16_eq (a m : Nat) : Leo.mulSym C16 a m = Leo.mulLog Leo.P16 T16 a m := rfl

end RSV.Proofs.Leo16
