import RSV.Proofs.LeoField.Cantor
/-!
# Leopard GF(2^16): the Cantor basis and its inverse

`cm16 = Leo.cantorMap Leo.P16`; `cmi16` is the same kind of map for the explicit inverse basis `Pinv`; both
composites are the identity on the 16 unit vectors (`cantor16`, kernel evaluation), hence on all 16-bit values.
-/
namespace RSV.Proofs.Leo16
open RSV.Model RSV.Proofs.LeoField

def cm16 (i : Nat) : Nat := Leo.cantorMap Leo.P16 i

/-- inverse basis: `cm16 (Pinv.cantor[i]) = 2^i` -/
def Pinv : Leo.Params := ⟨16, 0, #[1, 18064, 26072, 25296, 22324, 17904, 21432, 7736, 31918, 20024,
  26376, 49756, 31332, 40620, 4388, 21050]⟩

def cmi16 (v : Nat) : Nat := Leo.cantorMap Pinv v

theorem cantor16 : CantorInv Leo.P16 Pinv 16 :=
  ⟨rfl, rfl, by decide, by decide, by decide +kernel, by decide +kernel, by decide +kernel, by decide +kernel⟩

theorem cm16_lt (i : Nat) : cm16 i < 65536 := cantor16.cm_lt i

theorem cmi16_zero : cmi16 0 = 0 := cantorMap_zero Pinv

end RSV.Proofs.Leo16
