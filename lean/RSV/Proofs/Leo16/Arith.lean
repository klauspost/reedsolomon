import RSV.Proofs.BinFieldOrder
import Mathlib.Tactic.NormNum.Prime
/-!
# GF(2^16) modulo 0x1002D: ring laws of the product, and `x` is a primitive element

`basis16` (16 basis identities, evaluated) gives the ring laws through `BF.Basis`; `prim16` gives the order
of `x`: `x^65535 = 1` and `x^(65535/q) ≠ 1` for the prime divisors `q ∈ {3, 5, 17, 257}` of 65535 (five square-and-multiply evaluations).
-/
namespace RSV.Proofs.Leo16
open RSV.BF

/-- the reduction polynomial `x^16 + x^5 + x^3 + x^2 + 1` of Leopard's GF(2^16) -/
abbrev poly16 : Nat := 0x1002D

def xt (a : Nat) : Nat := xtime 16 poly16 a

theorem xt_zero : xt 0 = 0 := by decide

theorem pmulAux_zero_right (n a : Nat) : pmulAux 16 poly16 n a 0 = 0 :=
  RSV.BF.pmulAux_zero_right 16 poly16 n a

theorem basis16 : Basis 16 poly16 where
  hk := by decide
  hp := by decide
  hp2 := by decide
  top := by decide +kernel

theorem prim16 : Primitive 16 poly16 :=
  Primitive.of_factors basis16 [3, 5, 17, 257]
    (by intro q hq
        simp only [List.mem_cons, List.not_mem_nil, or_false] at hq
        rcases hq with rfl | rfl | rfl | rfl <;> norm_num)
    (by decide) (by decide +kernel) (by decide +kernel)

end RSV.Proofs.Leo16
