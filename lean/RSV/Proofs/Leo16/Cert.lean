import RSV.Proofs.Leo16.Iso
import RSV.Proofs.CeilPow2
import RSV.Model.LeoCert16
import RSV.Proofs.LeoField.Image
/-!
# The MDS certificate for Leopard GF(2^16) generators

The 16-bit counterpart of `leo8Cert_sound` (`RSV/Proofs/LeoField.lean`).  A parity equation computed in
Leopard's arithmetic (`leoMul C16`, xor) is the `GF65536` equation of the images under `toGF16`, and the
evaluation points are pairwise distinct because the Cantor map is injective on `[0,65536)`; so a generator
accepted by the executable certificate `Leo.leo16Cert` is MDS.  The certificate runs on the core carrier of
`RSV/Model/GF65536.lean`, whose operations are definitionally those of the `Field` instance.
-/
namespace RSV.Proofs.Leo16
open RSV.Model RSV.Proofs.LeoField

/-- the entry map of `Leo.mapMatrix16`, `Leo.leoX16`, `Leo.leoY16` is `toGF16` -/
theorem ofNat_cm16 (a : Nat) : GF65536.ofNat (Leo.cantorMap Leo.P16 a) = toGF16 a :=
  GF65536.ext (Nat.mod_eq_of_lt (cm16_lt a))

/-- xor-sum of Leopard GF(2^16) products over a list of positions -/
def leoDot16 {ι : Type} (l : List ι) (g t : ι → Nat) : Nat :=
  l.foldl (fun acc c => acc ^^^ Leo.leoMul C16 (g c) (t c)) 0

theorem toGF16_leoDot {d : ℕ} (g t : Fin d → Nat) (hg : ∀ c, g c < 65536)
    (ht : ∀ c, t c < 65536) :
    toGF16 (leoDot16 (List.finRange d) g t) = ∑ c, toGF16 (g c) * toGF16 (t c) :=
  map_xorDot_fin toGF16 65536 (Leo.leoMul C16) toGF16_xor (fun _ _ => toGF16_leoMul) toGF16_zero g t hg ht

theorem ofNat_cm16_inj (a b : Nat) (ha : a < 65536) (hb : b < 65536)
    (h : GF65536.ofNat (Leo.cantorMap Leo.P16 a) = GF65536.ofNat (Leo.cantorMap Leo.P16 b)) : a = b :=
  toGF16_inj ha hb (by rw [← ofNat_cm16, ← ofNat_cm16]; exact h)

theorem leoY16_inj {d m : ℕ} (h : d + m ≤ 65536) : Function.Injective (Leo.leoY16 d m) :=
  injective_shift _ 65536 ofNat_cm16_inj h

theorem leoX16_inj {p : ℕ} (h : p ≤ 65536) : Function.Injective (Leo.leoX16 p) :=
  injective_some _ 65536 ofNat_cm16_inj h

theorem leoX16_ne_leoY16 {d p m : ℕ} (hpm : p ≤ m) (h : d + m ≤ 65536) (r : Fin p) (c : Fin d) :
    Leo.leoX16 p r ≠ some (Leo.leoY16 d m c) :=
  some_ne_shift _ 65536 ofNat_cm16_inj hpm h r c

/-- an accepted generator passes `certGC` at the points `leoX16`, `leoY16`, for the scalars read off it -/
theorem leo16Cert_certGC {d p : ℕ} {G : Array (Array ℕ)} (hc : Leo.leo16Cert d p G = true) :
    ∃ u v,
      certGC (Leo.mapMatrix16 (p := p) (d := d) G) (Leo.leoX16 p) (Leo.leoY16 d (Leo.ceilPow2 p)) u v = true := by
  unfold Leo.leo16Cert at hc
  split at hc
  · cases hc
  split at hc
  · cases hc
  exact ⟨_, _, hc⟩

theorem leo16Cert_sound (d p : ℕ) (G : Array (Array ℕ)) (h : d + Leo.ceilPow2 p ≤ 65536)
    (hc : Leo.leo16Cert d p G = true) :
    RSV.CodeTheory.MDS
      (fun (r : Fin p) (c : Fin d) => (Leo.mapMatrix16 (p := p) (d := d) G).get r c) := by
  have hpm : p ≤ Leo.ceilPow2 p := LeoSched.le_ceilPow2_of_lt (by omega)
  obtain ⟨u, v, hc⟩ := leo16Cert_certGC hc
  exact RSV.CodeTheory.certGC_sound' _ _ _ u v hc (leoY16_inj h) (leoX16_inj (by omega))
    (leoX16_ne_leoY16 hpm h)

theorem leo16Cert_entries_ne_zero (d p : ℕ) (G : Array (Array ℕ))
    (hc : Leo.leo16Cert d p G = true) (r : Fin p) (c : Fin d) :
    (Leo.mapMatrix16 (p := p) (d := d) G).get r c ≠ 0 :=
  let ⟨u, v, hc⟩ := leo16Cert_certGC hc
  RSV.CodeTheory.certGC_entries_ne_zero _ _ _ u v hc r c

end RSV.Proofs.Leo16
