import RSV.Proofs.Leo16.Arith
import RSV.Model.GF65536
import Mathlib.Algebra.CharP.Two
/-!
# `GF65536`: GF(2)[x]/(0x1002D) is a field (Mathlib `Field`), of characteristic 2

The carrier and its operations are the core ones of `RSV/Model/GF65536.lean` (naturals below 65536;
`+ = - = xor`, `neg = id`, `* = gmul16 = BF.pmul 16 0x1002D`, `a⁻¹ = ginv16 a`, i.e. `a^65534` by
square-and-multiply); the operations of the `Field` instance are definitionally those.  The ring axioms are
those of `basis16` (`Leo16/Arith.lean`).  The inverse law is not checked by enumeration: every non-zero element is
a power of `x` (`prim16`) and `x^65535 = 1`, so `a^65535 = 1`.
-/
namespace RSV.GF65536
open RSV.BF RSV.Proofs.Leo16

theorem add_self (a : GF65536) : a + a = 0 := GF65536.ext (Nat.xor_self _)

theorem sub_eq_add (a b : GF65536) : a - b = a + b := rfl

theorem neg_eq (a : GF65536) : -a = a := rfl

instance instCommRing : CommRing GF65536 where
  add := (· + ·)
  add_assoc a b c := GF65536.ext (Nat.xor_assoc _ _ _)
  zero := 0
  zero_add a := GF65536.ext (Nat.zero_xor _)
  add_zero a := GF65536.ext (Nat.xor_zero _)
  nsmul := nsmulRec
  neg := Neg.neg
  sub := (· - ·)
  sub_eq_add_neg _ _ := rfl
  zsmul := zsmulRec
  neg_add_cancel a := add_self a
  add_comm a b := GF65536.ext (Nat.xor_comm _ _)
  mul := (· * ·)
  left_distrib a b c := GF65536.ext (pmul_xor_right 16 poly16 _ _ _)
  right_distrib a b c := GF65536.ext (pmul_xor_left 16 poly16 _ _ _)
  zero_mul a := GF65536.ext (pmul_zero_left 16 poly16 _)
  mul_zero a := GF65536.ext (pmul_zero_right 16 poly16 _)
  mul_assoc a b c := GF65536.ext (basis16.pmul_assoc a.isLt b.isLt c.isLt)
  one := 1
  one_mul a := GF65536.ext (basis16.pmul_one_left a.isLt)
  mul_one a := GF65536.ext (pmul_one_right (by decide) _)
  npow n a := GF65536.pow a n
  npow_zero _ := rfl
  npow_succ _ _ := rfl
  mul_comm a b := GF65536.ext (pmul_comm a.isLt b.isLt)

theorem pow_eq (a : GF65536) (n : ℕ) : GF65536.pow a n = a ^ n := rfl

theorem pow_val (a : GF65536) (n : ℕ) : (a ^ n).val = ppow 16 poly16 a.val n := by
  induction n with
  | zero => rfl
  | succ n ih => rw [pow_succ, mul_val, ih]; rfl

theorem gpowSq16_eq (a : GF65536) (f : ℕ) : ∀ n, n < 2 ^ f → gpowSq16 a.val f n = (a ^ n).val := by
  induction f with
  | zero => intro n hn; have : n = 0 := by simpa using hn
            subst this; rfl
  | succ f ih =>
    intro n hn
    have h2 := ih (n / 2) (by rw [Nat.pow_succ] at hn; omega)
    simp only [gpowSq16, h2]
    split
    · have : n = n / 2 + n / 2 + 1 := by omega
      conv => rhs; rw [this, pow_succ, pow_add]
      rfl
    · have : n = n / 2 + n / 2 := by omega
      conv => rhs; rw [this, pow_add]
      rfl

theorem inv_eq_pow (a : GF65536) : a⁻¹ = a ^ 65534 :=
  GF65536.ext (by rw [inv_val, ginv16, gpowSq16_eq a 16 65534 (by decide)])

/-- the class of `x` -/
def X : GF65536 := ⟨2, by decide⟩

theorem X_pow_val (k : ℕ) : (X ^ k).val = xpow 16 poly16 k := by
  rw [pow_val]; exact (basis16.xpow_eq_ppow k).symm

theorem X_pow_65535 : X ^ 65535 = 1 := GF65536.ext (by rw [X_pow_val]; exact prim16.per)

theorem inv_zero' : (0 : GF65536)⁻¹ = 0 := by
  rw [inv_eq_pow]; exact zero_pow (by decide)

theorem mul_inv_cancel' {a : GF65536} (h : a ≠ 0) : a * a⁻¹ = 1 :=
  GF65536.ext (by
    rw [inv_eq_pow, mul_val, pow_val]; exact prim16.pmul_ppow_inv (fun h' => h (GF65536.ext h')) a.isLt)

instance instField : Field GF65536 where
  __ := instCommRing
  inv := Inv.inv
  div := (· / ·)
  div_eq_mul_inv _ _ := rfl
  exists_pair_ne := ⟨0, 1, by decide⟩
  mul_inv_cancel a ha := mul_inv_cancel' ha
  inv_zero := inv_zero'
  nnqsmul := _
  nnqsmul_def := fun _ _ => rfl
  qsmul := _
  qsmul_def := fun _ _ => rfl

/-! the operations of the `Field` instance are the core ones, by `rfl` -/
example (a b : GF65536) :
    (HAdd.hAdd (self := @instHAdd _ instField.toAdd) a b).val = a.val ^^^ b.val := rfl
example (a b : GF65536) :
    (HSub.hSub (self := @instHSub _ instField.toSub) a b).val = a.val ^^^ b.val := rfl
example (a b : GF65536) :
    (HMul.hMul (self := @instHMul _ instField.toMul) a b).val = pmul 16 0x1002D a.val b.val := rfl
example (a : GF65536) : (@Inv.inv _ instField.toInv a).val = ginv16 a.val := rfl
example (a b : GF65536) : (HDiv.hDiv (self := @instHDiv _ instField.toDiv) a b).val
    = gmul16 a.val (ginv16 b.val) := rfl
example (a : GF65536) : (@Neg.neg _ instField.toNeg a) = a := rfl
example : (@Zero.zero _ instField.toZero : GF65536).val = 0 := rfl
example : (@One.one _ instField.toOne : GF65536).val = 1 := rfl

instance instCharP : CharP GF65536 2 :=
  CharTwo.of_one_ne_zero_of_two_eq_zero (by decide) (by
    show ((2 : ℕ) : GF65536) = 0
    rw [Nat.cast_ofNat, ← one_add_one_eq_two]; exact add_self 1)

end RSV.GF65536

#print axioms RSV.GF65536.instField
#print axioms RSV.GF65536.instCharP
