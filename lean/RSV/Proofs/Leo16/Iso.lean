import RSV.Proofs.Leo16.Mul
import RSV.Proofs.Leo16.Field
/-!
# Leopard's GF(2^16) is `GF65536` through the Cantor map

`toGF16`, the Cantor map into `GF65536`, is an injective ring homomorphism from Leopard's symbols (xor, log/exp
product); `log` is the discrete logarithm to base `GF65536.X` of the image.
-/
namespace RSV.Proofs.Leo16
open RSV.Model RSV.BF RSV.Proofs.LeoField

theorem log16_spec {a : Nat} (h0 : a ≠ 0) (ha : a < 65536) : xpow 16 poly16 (T16.log[a]!) = cm16 a :=
  pres16.log_spec h0 ha

theorem log16_lt {a : Nat} (h0 : a ≠ 0) (ha : a < 65536) : T16.log[a]! < 65535 := pres16.log_lt h0 ha

theorem log16_zero : T16.log[0]! = 65535 := pres16.log_zero

/-- Leopard GF(2^16) symbol ↦ `GF65536` element -/
def toGF16 (a : Nat) : GF65536 := ⟨cm16 a, cm16_lt a⟩

theorem toGF16_val (a : Nat) : (toGF16 a).val = cm16 a := rfl

theorem toGF16_inj {a b : Nat} (ha : a < 65536) (hb : b < 65536) (h : toGF16 a = toGF16 b) : a = b :=
  cantor16.cm_inj ha hb (congrArg GF65536.val h)

theorem toGF16_surj (y : GF65536) : ∃ a, a < 65536 ∧ toGF16 a = y :=
  ⟨cmi16 y.val, cantor16.cmi_lt _, GF65536.ext (cantor16.cm_cmi y.isLt)⟩

theorem toGF16_xor (a b : Nat) : toGF16 (a ^^^ b) = toGF16 a + toGF16 b :=
  GF65536.ext (cantorMap_xor Leo.P16 a b)

theorem toGF16_zero : toGF16 0 = 0 := GF65536.ext (cantorMap_zero Leo.P16)

theorem toGF16_one : toGF16 1 = 1 := GF65536.ext cantor16.one

theorem toGF16_leoMul {a b : Nat} (ha : a < 65536) (hb : b < 65536) :
    toGF16 (Leo.leoMul C16 a b) = toGF16 a * toGF16 b :=
  GF65536.ext (pres16.cm_leoMul ha hb)

theorem toGF16_mulSym {a m : Nat} (ha : a < 65536) (hm : m < 65536) :
    toGF16 (Leo.mulSym C16 a m) = toGF16 a * GF65536.X ^ m :=
  GF65536.ext (by
    rw [GF65536.mul_val, GF65536.X_pow_val, toGF16_val, toGF16_val]; exact pres16.cm_mulLog ha hm)

end RSV.Proofs.Leo16
