import RSV.Model.Matrix
import Mathlib.LinearAlgebra.Matrix.NonsingularInverse

/-!
`RSV.Model.Matrix` is an executable, core-Lean model of `matrix.go`'s Gauss-Jordan inversion,
generic over a carrier with the core operation classes.  Here the carrier is any `Field F`
(the class arguments of the model are instantiated from the field structure) and the model is
related to Mathlib's `Matrix` through the abstraction `Mat.toMatrix`.

Every model row operation commutes with `toMatrix` to a row operation on
function matrices (`mSwap`, `mScale`, `mElim`); one column of the first sweep is the composite
`pivotOp`, one column of the second sweep is `elimUp`.  Invariants:

* `Lin L R M  : ∀ i, L i = R i ᵥ* M`   (soundness, no elementary matrices needed),
* `Inv1 k L` / `Inv2 k L`               (shape after `k` columns of sweep 1 / sweep 2),
* `Ker L M`                             (every vector killed by all rows of `L` is killed by `M`);
  at a pivot-less column the shape `Inv1` yields a non-zero kernel vector, contradicting
  left-invertibility of `M`.
-/

open Matrix

namespace RSV.Model

theorem findFirst_some : ∀ {n : Nat} {p : Fin n → Bool} {i : Fin n},
    findFirst p = some i → p i = true
  | 0, _, i, _ => i.elim0
  | n+1, p, i, h => by
    cases hq : findFirst (fun i : Fin n => p i.castSucc) with
    | some j =>
      simp only [findFirst, hq, Option.some.injEq] at h
      subst h
      exact findFirst_some (p := fun i : Fin n => p i.castSucc) hq
    | none =>
      simp only [findFirst, hq] at h
      split at h
      next hl => simp only [Option.some.injEq] at h; subst h; exact hl
      next => cases h

theorem findFirst_none : ∀ {n : Nat} {p : Fin n → Bool},
    findFirst p = none → ∀ i, p i = false
  | 0, _, _, i => i.elim0
  | n+1, p, h, i => by
    cases hq : findFirst (fun i : Fin n => p i.castSucc) with
    | some j => simp [findFirst, hq] at h
    | none =>
      simp only [findFirst, hq] at h
      split at h
      next => cases h
      next hl =>
        refine Fin.lastCases ?_ (fun j => ?_) i
        · simpa using hl
        · exact findFirst_none (p := fun i : Fin n => p i.castSucc) hq j

theorem findFirst_min : ∀ {n : Nat} {p : Fin n → Bool} {i : Fin n},
    findFirst p = some i → ∀ j, j < i → p j = false
  | 0, _, i, _ => i.elim0
  | n+1, p, i, h => by
    intro j hj
    cases hq : findFirst (fun i : Fin n => p i.castSucc) with
    | some k =>
      simp only [findFirst, hq, Option.some.injEq] at h
      subst h
      have := findFirst_min (p := fun i : Fin n => p i.castSucc) hq
        ⟨j.val, lt_trans (Fin.lt_def.mp hj) k.isLt⟩ (by simpa [Fin.lt_def] using hj)
      simpa using this
    | none =>
      simp only [findFirst, hq] at h
      split at h
      next hl =>
        simp only [Option.some.injEq] at h; subst h
        have := findFirst_none (p := fun i : Fin n => p i.castSucc) hq
          ⟨j.val, by simpa [Fin.lt_def] using hj⟩
        simpa using this
      next => cases h

theorem findFirst_eq_some_iff {n : Nat} {p : Fin n → Bool} {i : Fin n} :
    findFirst p = some i ↔ p i = true ∧ ∀ j, j < i → p j = false := by
  refine ⟨fun h => ⟨findFirst_some h, findFirst_min h⟩, fun ⟨hi, hmin⟩ => ?_⟩
  cases hq : findFirst p with
  | none => rw [findFirst_none hq i] at hi; cases hi
  | some k =>
    rcases lt_trichotomy k i with hlt | heq | hgt
    · have := findFirst_some hq; rw [hmin k hlt] at this; cases this
    · rw [heq]
    · rw [findFirst_min hq i hgt] at hi; cases hi

theorem findFirst_isSome_iff {n : Nat} {p : Fin n → Bool} :
    (findFirst p).isSome ↔ ∃ i, p i = true := by
  constructor
  · intro h
    obtain ⟨i, hi⟩ := Option.isSome_iff_exists.mp h
    exact ⟨i, findFirst_some hi⟩
  · rintro ⟨i, hi⟩
    cases hq : findFirst p with
    | some j => rfl
    | none => rw [findFirst_none hq i] at hi; cases hi

section swapIdx
variable {n : Nat}

@[simp] theorem swapIdx_left (a b : Fin n) : swapIdx a b a = b := by simp [swapIdx]

@[simp] theorem swapIdx_right (a b : Fin n) : swapIdx a b b = a := by
  unfold swapIdx; split
  next h => exact h
  next => simp

theorem swapIdx_of_ne {a b r : Fin n} (h1 : r ≠ a) (h2 : r ≠ b) : swapIdx a b r = r := by
  simp [swapIdx, h1, h2]

@[simp] theorem swapIdx_swapIdx (a b r : Fin n) : swapIdx a b (swapIdx a b r) = r := by
  by_cases h1 : r = a
  · subst h1; simp
  · by_cases h2 : r = b
    · subst h2; simp
    · rw [swapIdx_of_ne h1 h2, swapIdx_of_ne h1 h2]

theorem swapIdx_eq_swap (a b r : Fin n) : swapIdx a b r = Equiv.swap a b r := by
  by_cases h1 : r = a
  · subst h1; simp
  · by_cases h2 : r = b
    · subst h2; simp
    · rw [swapIdx_of_ne h1 h2, Equiv.swap_apply_of_ne_of_ne h1 h2]

end swapIdx

variable {F : Type} [Field F] {n m k : ℕ}

def Mat.toMatrix {F : Type} {n m : ℕ} (A : Mat F n m) : Matrix (Fin n) (Fin m) F :=
  Matrix.of fun i j => A.get i j

@[simp] theorem Mat.toMatrix_apply {F : Type} {n m : ℕ} (A : Mat F n m) (i : Fin n) (j : Fin m) :
    A.toMatrix i j = A.get i j := rfl

@[simp] theorem Mat.toMatrix_ofFn {F : Type} {n m : ℕ} (f : Fin n → Fin m → F) :
    (Mat.ofFn f).toMatrix = Matrix.of f := by
  ext i j; simp

theorem Mat.toMatrix_injective {F : Type} {n m : ℕ} :
    Function.Injective (Mat.toMatrix : Mat F n m → Matrix (Fin n) (Fin m) F) := by
  intro A B h
  apply Mat.ext_get
  intro i j
  exact congrFun (congrFun h i) j

@[simp] theorem Mat.toMatrix_inj {F : Type} {n m : ℕ} {A B : Mat F n m} :
    A.toMatrix = B.toMatrix ↔ A = B := Mat.toMatrix_injective.eq_iff

@[simp] theorem toMatrix_identity : (identity n : Mat F n n).toMatrix = 1 := by
  ext i j; simp [identity, Matrix.one_apply]

theorem finSum_eq_sum {G : Type} [AddCommMonoid G] : ∀ {n : ℕ} (f : Fin n → G),
    finSum f = ∑ i, f i
  | 0, _ => by simp [finSum]
  | n+1, f => by rw [finSum, finSum_eq_sum, Fin.sum_univ_castSucc]

@[simp] theorem toMatrix_mulMat (A : Mat F n k) (B : Mat F k m) :
    (mulMat A B).toMatrix = A.toMatrix * B.toMatrix := by
  ext i j; simp [mulMat, Matrix.mul_apply, finSum_eq_sum]

def mSwap (A : Matrix (Fin n) (Fin m) F) (a b : Fin n) : Matrix (Fin n) (Fin m) F :=
  fun r => A (swapIdx a b r)
def mScale (A : Matrix (Fin n) (Fin m) F) (i : Fin n) (c : F) : Matrix (Fin n) (Fin m) F :=
  fun r => if r = i then c • A i else A r
def mElim (A : Matrix (Fin n) (Fin m) F) (r : Fin n) (coef : Fin n → F) :
    Matrix (Fin n) (Fin m) F :=
  fun i => A i - coef i • A r

omit [Field F] in
theorem toMatrix_rowSwap (A : Mat F n m) (a b : Fin n) :
    (rowSwap A a b).toMatrix = mSwap A.toMatrix a b := by
  ext r j; simp [rowSwap, mSwap]

theorem toMatrix_rowScale (A : Mat F n m) (i : Fin n) (c : F) :
    (rowScale A i c).toMatrix = mScale A.toMatrix i c := by
  ext r j
  by_cases h : r = i <;> simp [rowScale, mScale, h]

theorem toMatrix_rowElim (A : Mat F n m) (r : Fin n) (coef : Fin n → F) :
    (rowElim A r coef).toMatrix = mElim A.toMatrix r coef := by
  ext i j; simp [rowElim, mElim]

/-- one column of the first sweep applied to `A`, pivot and coefficients read from the left
half `L` -/
def pivotOp (A L : Matrix (Fin n) (Fin n) F) (r p : Fin n) : Matrix (Fin n) (Fin n) F :=
  let c := (mSwap L r p r r)⁻¹
  mElim (mScale (mSwap A r p) r c) r (fun i => if r < i then mScale (mSwap L r p) r c i r else 0)

/-- one column of the second sweep applied to `A`, coefficients read from `L` -/
def elimUp (A L : Matrix (Fin n) (Fin n) F) (d : Fin n) : Matrix (Fin n) (Fin n) F :=
  mElim A d (fun i => if i < d then L i d else 0)

theorem pivotOp_apply_self (A L : Matrix (Fin n) (Fin n) F) (r p j : Fin n) :
    pivotOp A L r p r j = (L p r)⁻¹ * A p j := by
  simp [pivotOp, mElim, mScale, mSwap]

theorem pivotOp_apply_of_ne (A L : Matrix (Fin n) (Fin n) F) {r i : Fin n} (h : i ≠ r)
    (p j : Fin n) :
    pivotOp A L r p i j = A (swapIdx r p i) j
      - (if r < i then L (swapIdx r p i) r else 0) * ((L p r)⁻¹ * A p j) := by
  by_cases hri : r < i <;> simp [pivotOp, mElim, mScale, mSwap, h, hri]

theorem elimUp_apply (A L : Matrix (Fin n) (Fin n) F) (d i j : Fin n) :
    elimUp A L d i j = A i j - (if i < d then L i d else 0) * A d j := rfl

theorem step1_eq_some [DecidableEq F] {r : Fin n} {s s' : GState F n} (hs : step1 r s = some s') :
    ∃ p : Fin n, r ≤ p ∧ s.L.toMatrix p r ≠ 0 ∧
      s'.L.toMatrix = pivotOp s.L.toMatrix s.L.toMatrix r p ∧
      s'.R.toMatrix = pivotOp s.R.toMatrix s.L.toMatrix r p := by
  unfold step1 at hs
  split at hs
  · cases hs
  next p hp =>
    have h1 := findFirst_some hp
    simp only [Bool.and_eq_true, decide_eq_true_eq] at h1
    simp only [Option.some.injEq] at hs
    subst hs
    refine ⟨p, h1.1, h1.2, ?_, ?_⟩
    · simp only [toMatrix_rowElim, toMatrix_rowScale, toMatrix_rowSwap, pivotOp,
        ← Mat.toMatrix_apply]
    · simp only [toMatrix_rowElim, toMatrix_rowScale, toMatrix_rowSwap, pivotOp,
        ← Mat.toMatrix_apply]

theorem step1_eq_none [DecidableEq F] {r : Fin n} {s : GState F n} (hs : step1 r s = none) :
    ∀ i, r ≤ i → s.L.toMatrix i r = 0 := by
  unfold step1 at hs
  split at hs
  next hnone =>
    intro i hri
    have := findFirst_none hnone i
    simpa [hri] using this
  · cases hs

theorem step2_L (d : Fin n) (s : GState F n) :
    (step2 d s).L.toMatrix = elimUp s.L.toMatrix s.L.toMatrix d := by
  simp only [step2, toMatrix_rowElim, elimUp, ← Mat.toMatrix_apply]

theorem step2_R (d : Fin n) (s : GState F n) :
    (step2 d s).R.toMatrix = elimUp s.R.toMatrix s.L.toMatrix d := by
  simp only [step2, toMatrix_rowElim, elimUp, ← Mat.toMatrix_apply]

def Lin (L R M : Matrix (Fin n) (Fin n) F) : Prop := ∀ i, L i = (R i) ᵥ* M

theorem lin_swap {L R M : Matrix (Fin n) (Fin n) F} (h : Lin L R M) (i j : Fin n) :
    Lin (mSwap L i j) (mSwap R i j) M := fun _ => h _

theorem lin_scale {L R M : Matrix (Fin n) (Fin n) F} (h : Lin L R M) (i : Fin n) (c : F) :
    Lin (mScale L i c) (mScale R i c) M := by
  intro r; simp only [mScale]; split
  · rw [h i, smul_vecMul]
  · exact h r

theorem lin_elim {L R M : Matrix (Fin n) (Fin n) F} (h : Lin L R M) (r : Fin n)
    (coef : Fin n → F) : Lin (mElim L r coef) (mElim R r coef) M := by
  intro i; simp only [mElim]; rw [h i, h r, sub_vecMul, smul_vecMul]

theorem lin_pivotOp {L R M : Matrix (Fin n) (Fin n) F} (h : Lin L R M) (r p : Fin n) :
    Lin (pivotOp L L r p) (pivotOp R L r p) M :=
  lin_elim (lin_scale (lin_swap h _ _) _ _) _ _

theorem lin_elimUp {L R M : Matrix (Fin n) (Fin n) F} (h : Lin L R M) (d : Fin n) :
    Lin (elimUp L L d) (elimUp R L d) M :=
  lin_elim h _ _

def Inv1 (k : ℕ) (L : Matrix (Fin n) (Fin n) F) : Prop :=
  ∀ j : Fin n, j.val < k → L j j = 1 ∧ ∀ i, j < i → L i j = 0

theorem inv1_pivotOp {L : Matrix (Fin n) (Fin n) F} {r p : Fin n} (h : Inv1 r.val L)
    (hrp : r ≤ p) (hpne : L p r ≠ 0) : Inv1 (r.val + 1) (pivotOp L L r p) := by
  -- the swap exchanges two rows `≥ r`, and those vanish in the columns `j < r`
  have hlow : ∀ j : Fin n, j < r → ∀ i, j < i → L (swapIdx r p i) j = 0 := by
    intro j hj i hji; apply (h j hj).2
    by_cases h1 : i = r
    · subst h1; rw [swapIdx_left]; exact lt_of_lt_of_le hj hrp
    · by_cases h2 : i = p
      · subst h2; rw [swapIdx_right]; exact hj
      · rw [swapIdx_of_ne h1 h2]; exact hji
  intro j hj
  rcases Nat.lt_succ_iff_lt_or_eq.mp hj with hjr | hjr
  · have hjr' : j < r := hjr
    have hjp : j < p := lt_of_lt_of_le hjr' hrp
    have hpj : L p j = 0 := (h j hjr).2 p hjp
    constructor
    · rw [pivotOp_apply_of_ne _ _ (ne_of_lt hjr'), hpj, swapIdx_of_ne (ne_of_lt hjr') (ne_of_lt hjp),
        (h j hjr).1, mul_zero, mul_zero, sub_zero]
    · intro i hji
      by_cases hir : i = r
      · subst hir; rw [pivotOp_apply_self, hpj, mul_zero]
      · rw [pivotOp_apply_of_ne _ _ hir, hpj, hlow j hjr' i hji, mul_zero, mul_zero, sub_zero]
  · obtain rfl : j = r := Fin.ext hjr
    constructor
    · rw [pivotOp_apply_self, inv_mul_cancel₀ hpne]
    · intro i hji
      rw [pivotOp_apply_of_ne _ _ (ne_of_gt hji), if_pos hji, inv_mul_cancel₀ hpne, mul_one, sub_self]

def Inv2 (k : ℕ) (L : Matrix (Fin n) (Fin n) F) : Prop :=
  (∀ j : Fin n, L j j = 1 ∧ ∀ i, j < i → L i j = 0) ∧
  ∀ j : Fin n, j.val < k → ∀ i, i < j → L i j = 0

theorem inv2_elimUp {L : Matrix (Fin n) (Fin n) F} {d : Fin n} (h : Inv2 d.val L) :
    Inv2 (d.val + 1) (elimUp L L d) := by
  obtain ⟨htri, hup⟩ := h
  refine ⟨fun j => ⟨?_, fun i hji => ?_⟩, fun j hj i hij => ?_⟩
  · rw [elimUp_apply]
    by_cases hjd : j < d
    · simp [hjd, (htri j).2 d hjd, (htri j).1]
    · simp [hjd, (htri j).1]
  · rw [elimUp_apply]
    by_cases hid : i < d
    · simp [hid, (htri j).2 i hji, (htri j).2 d (lt_trans hji hid)]
    · simp [hid, (htri j).2 i hji]
  · rw [elimUp_apply]
    rcases Nat.lt_succ_iff_lt_or_eq.mp hj with hjd | hjd
    · have hjd' : j < d := hjd
      have hid : i < d := lt_trans hij hjd'
      simp [hid, hup j hjd i hij, (htri j).2 d hjd']
    · have : j = d := Fin.ext hjd
      subst this
      simp [hij, (htri j).1]

def Ker (L M : Matrix (Fin n) (Fin n) F) : Prop :=
  ∀ v : Fin n → F, (∀ i, L i ⬝ᵥ v = 0) → ∀ i, M i ⬝ᵥ v = 0

theorem ker_swap {L M : Matrix (Fin n) (Fin n) F} (h : Ker L M) (i j : Fin n) :
    Ker (mSwap L i j) M := by
  intro v hv; apply h v; intro k
  have := hv (swapIdx i j k); simpa [mSwap] using this

theorem ker_scale {L M : Matrix (Fin n) (Fin n) F} (h : Ker L M) (i : Fin n) {c : F}
    (hc : c ≠ 0) : Ker (mScale L i c) M := by
  intro v hv; apply h v; intro k
  have := hv k; simp only [mScale] at this
  split at this
  next hk =>
    subst hk; rw [smul_dotProduct, smul_eq_mul] at this
    exact (mul_eq_zero.mp this).resolve_left hc
  · exact this

theorem ker_elim {L M : Matrix (Fin n) (Fin n) F} (h : Ker L M) (r : Fin n) (coef : Fin n → F)
    (hr : coef r = 0) : Ker (mElim L r coef) M := by
  intro v hv; apply h v
  have hrow : L r ⬝ᵥ v = 0 := by have := hv r; simpa [mElim, hr] using this
  intro k; have := hv k
  simp only [mElim, sub_dotProduct, smul_dotProduct, smul_eq_mul, hrow, mul_zero, sub_zero] at this
  exact this

theorem ker_pivotOp {L M : Matrix (Fin n) (Fin n) F} (h : Ker L M) {r p : Fin n}
    (hpne : L p r ≠ 0) : Ker (pivotOp L L r p) M := by
  unfold pivotOp
  apply ker_elim
  · apply ker_scale (ker_swap h _ _); apply inv_ne_zero
    simp only [mSwap, swapIdx_left]; exact hpne
  · simp

/-- at a column with no pivot, back-substitution through the unit columns `< r` gives a kernel
vector -/
theorem exists_kernel_of_no_pivot {L : Matrix (Fin n) (Fin n) F} {r : Fin n}
    (hinv : Inv1 r.val L) (hcol : ∀ i, r ≤ i → L i r = 0) :
    ∃ v : Fin n → F, v r = 1 ∧ ∀ i, L i ⬝ᵥ v = 0 := by
  have key : ∀ t : ℕ, t ≤ r.val → ∃ v : Fin n → F, v r = 1 ∧
      ∀ i : Fin n, r.val - t ≤ i.val → L i ⬝ᵥ v = 0 := by
    intro t
    induction t with
    | zero =>
      intro _
      refine ⟨Pi.single r 1, by simp, fun i hi => ?_⟩
      rw [dotProduct_single, mul_one]; exact hcol i (by simpa using hi)
    | succ t ih =>
      intro ht
      obtain ⟨v, hv1, hv⟩ := ih (Nat.le_of_succ_le ht)
      have hklt : r.val - (t+1) < n := lt_of_le_of_lt (Nat.sub_le _ _) r.isLt
      let k : Fin n := ⟨r.val - (t+1), hklt⟩
      have hkr : k < r := by show r.val - (t+1) < r.val; omega
      have hkk : L k k = 1 := (hinv k hkr).1
      have hbelow : ∀ i, k < i → L i k = 0 := (hinv k hkr).2
      refine ⟨v - (L k ⬝ᵥ v) • Pi.single k 1, ?_, fun i hi => ?_⟩
      · simp [hv1, Pi.single_eq_of_ne (ne_of_gt hkr)]
      · rw [dotProduct_sub, dotProduct_smul, dotProduct_single, mul_one, smul_eq_mul]
        by_cases hik : i = k
        · subst hik; rw [hkk, mul_one, sub_self]
        · have hki : k < i := by
            have h1 : k.val ≤ i.val := hi
            exact lt_of_le_of_ne h1 (fun h => hik (h ▸ rfl))
          rw [hbelow i hki, mul_zero, sub_zero]
          apply hv
          have : k.val < i.val := hki
          show r.val - t ≤ i.val
          simp only [k] at this; omega
  obtain ⟨v, hv1, hv⟩ := key r.val le_rfl
  exact ⟨v, hv1, fun i => hv i (by simp)⟩

theorem phase1_spec [DecidableEq F] (M : Mat F n n) : ∀ (k : ℕ) (hk : k ≤ n) (s : GState F n),
    phase1 (⟨M, identity n⟩ : GState F n) k hk = some s →
      Lin s.L.toMatrix s.R.toMatrix M.toMatrix ∧ Inv1 k s.L.toMatrix ∧
      Ker s.L.toMatrix M.toMatrix := by
  intro k
  induction k with
  | zero =>
    intro hk s hs
    simp only [phase1, Option.some.injEq] at hs; subst hs
    refine ⟨fun i => ?_, fun j hj => absurd hj (Nat.not_lt_zero _), fun v hv => hv⟩
    show M.toMatrix i = (identity n : Mat F n n).toMatrix i ᵥ* M.toMatrix
    rw [toMatrix_identity]
    ext j; simp [vecMul, dotProduct, Matrix.one_apply]
  | succ k ih =>
    intro hk s hs
    simp only [phase1] at hs
    cases hprev : phase1 (⟨M, identity n⟩ : GState F n) k (Nat.le_of_succ_le hk) with
    | none => rw [hprev] at hs; cases hs
    | some s0 =>
      rw [hprev] at hs; simp only [Option.bind_some] at hs
      obtain ⟨hl, hi, hker⟩ := ih _ s0 hprev
      obtain ⟨p, hrp, hpne, hL, hR⟩ := step1_eq_some hs
      rw [hL, hR]
      exact ⟨lin_pivotOp hl _ _, inv1_pivotOp (r := ⟨k, hk⟩) hi hrp hpne, ker_pivotOp hker hpne⟩

theorem phase2_spec {M : Matrix (Fin n) (Fin n) F} {s : GState F n}
    (hl : Lin s.L.toMatrix s.R.toMatrix M) (hi : Inv1 n s.L.toMatrix) :
    ∀ (k : ℕ) (hk : k ≤ n),
      Lin (phase2 s k hk).L.toMatrix (phase2 s k hk).R.toMatrix M ∧
      Inv2 k (phase2 s k hk).L.toMatrix := by
  intro k
  induction k with
  | zero => intro hk; exact ⟨hl, fun j => hi j j.isLt, fun j hj => absurd hj (Nat.not_lt_zero _)⟩
  | succ k ih =>
    intro hk
    obtain ⟨h1, h2⟩ := ih (Nat.le_of_succ_le hk)
    simp only [phase2, step2_L, step2_R]
    exact ⟨lin_elimUp h1 _, inv2_elimUp (d := ⟨k, hk⟩) h2⟩

theorem eq_one_of_inv2 {L : Matrix (Fin n) (Fin n) F} (h : Inv2 n L) : L = 1 := by
  obtain ⟨htri, hup⟩ := h
  ext i j; rw [Matrix.one_apply]
  rcases lt_trichotomy i j with hij | hij | hij
  · rw [hup j j.isLt i hij, if_neg (ne_of_lt hij)]
  · subst hij; rw [(htri i).1, if_pos rfl]
  · rw [(htri j).2 i hij, if_neg (ne_of_gt hij)]

theorem invert_sound [DecidableEq F] (M N : Mat F n n) (h : invert M = some N) :
    N.toMatrix * M.toMatrix = 1 := by
  unfold invert at h
  cases h1 : phase1 (⟨M, identity n⟩ : GState F n) n (Nat.le_refl n) with
  | none => rw [h1] at h; cases h
  | some s =>
    rw [h1] at h
    simp only [Option.map_some, Option.some.injEq] at h
    obtain ⟨hl, hi, -⟩ := phase1_spec M n (Nat.le_refl n) s h1
    obtain ⟨hl2, hinv2⟩ := phase2_spec hl hi n (Nat.le_refl n)
    subst h
    have hL := eq_one_of_inv2 hinv2
    ext i j
    have := congrFun (hl2 i) j
    rw [hL] at this
    rw [this]; rfl

theorem invert_sound' [DecidableEq F] (M N : Mat F n n) (h : invert M = some N) :
    M.toMatrix * N.toMatrix = 1 :=
  mul_eq_one_comm.mp (invert_sound M N h)

theorem phase1_complete [DecidableEq F] (M : Mat F n n) (N' : Matrix (Fin n) (Fin n) F)
    (hN : N' * M.toMatrix = 1) : ∀ (k : ℕ) (hk : k ≤ n),
    (phase1 (⟨M, identity n⟩ : GState F n) k hk).isSome := by
  intro k
  induction k with
  | zero => intro _; simp [phase1]
  | succ k ih =>
    intro hk
    have hprev := ih (Nat.le_of_succ_le hk)
    obtain ⟨s0, hs0⟩ := Option.isSome_iff_exists.mp hprev
    simp only [phase1, hs0, Option.bind_some]
    obtain ⟨_, hi, hker⟩ := phase1_spec M k _ s0 hs0
    cases hstep : step1 (⟨k, hk⟩ : Fin n) s0 with
    | some s1 => rfl
    | none =>
      exfalso
      obtain ⟨v, hv1, hv⟩ := exists_kernel_of_no_pivot (r := ⟨k, hk⟩) hi (step1_eq_none hstep)
      have hMv : M.toMatrix *ᵥ v = 0 := by ext i; exact hker v hv i
      have : v = 0 := by
        have := congrArg (fun w => N' *ᵥ w) hMv
        simpa [Matrix.mulVec_mulVec, hN] using this
      rw [this] at hv1; simp at hv1

/-- on a left-invertible matrix the elimination never reports `errSingular` -/
theorem invert_complete [DecidableEq F] (M : Mat F n n) (N' : Matrix (Fin n) (Fin n) F)
    (hN : N' * M.toMatrix = 1) : (invert M).isSome := by
  unfold invert; simpa using phase1_complete M N' hN n (Nat.le_refl n)

theorem invert_isSome_iff [DecidableEq F] (M : Mat F n n) : (invert M).isSome ↔ IsUnit M.toMatrix := by
  constructor
  · intro h
    obtain ⟨N, hN⟩ := Option.isSome_iff_exists.mp h
    exact ⟨⟨M.toMatrix, N.toMatrix, invert_sound' M N hN, invert_sound M N hN⟩, rfl⟩
  · intro h
    obtain ⟨N', hN'⟩ := h.exists_left_inv
    exact invert_complete M N' hN'

theorem invert_isSome_iff_det [DecidableEq F] (M : Mat F n n) : (invert M).isSome ↔ IsUnit M.toMatrix.det := by
  rw [invert_isSome_iff, Matrix.isUnit_iff_isUnit_det]

theorem invert_eq_none_iff [DecidableEq F] (M : Mat F n n) : invert M = none ↔ ¬ IsUnit M.toMatrix := by
  rw [← invert_isSome_iff, Option.not_isSome_iff_eq_none]

theorem invert_eq_none_iff_det [DecidableEq F] (M : Mat F n n) : invert M = none ↔ M.toMatrix.det = 0 := by
  rw [invert_eq_none_iff, Matrix.isUnit_iff_isUnit_det, isUnit_iff_ne_zero, not_not]

theorem invert_eq_some_iff [DecidableEq F] (M N : Mat F n n) :
    invert M = some N ↔ N.toMatrix * M.toMatrix = 1 := by
  constructor
  · exact invert_sound M N
  · intro h
    obtain ⟨N₂, hN₂⟩ := Option.isSome_iff_exists.mp (invert_complete M _ h)
    have h2 := invert_sound' M N₂ hN₂
    have : N.toMatrix = N₂.toMatrix := by
      calc N.toMatrix = N.toMatrix * (M.toMatrix * N₂.toMatrix) := by rw [h2, mul_one]
        _ = N₂.toMatrix := by rw [← mul_assoc, h, one_mul]
    rw [hN₂, Mat.toMatrix_injective this]

theorem invert_identity [DecidableEq F] : invert (identity n : Mat F n n) = some (identity n) := by
  rw [invert_eq_some_iff, toMatrix_identity, mul_one]

end RSV.Model

#print axioms RSV.Model.invert_sound
#print axioms RSV.Model.invert_sound'
#print axioms RSV.Model.invert_complete
#print axioms RSV.Model.invert_isSome_iff
#print axioms RSV.Model.invert_eq_some_iff
