import RSV.Spec.BinField
import RSV.Proofs.ArrayBasics
import RSV.Proofs.CeilPow2
/-!
Structural facts about the schedule interpreter `RSV.Model.Leo.run` on an arbitrary list of steps, so
they apply to `encodeSched` and `reconSched` for every configuration: row invariants are preserved
(`run_rows`), unary and binary row homomorphisms commute with `run` (`run_map`, `run_zipWith_on`:
locality, chunking, linearity), rows written before they are read do not depend on the initial work
area (`run_scratch`); then the same for the wrappers `encode` / `reconstruct`.
-/
namespace RSV.Proofs.LeoSched
open RSV.Model.Leo

-- the array lemmas of `RSV/Proofs/ArrayBasics.lean`, so that `open RSV.Proofs.LeoSched` brings them along
export RSV.Proofs.Arr (get!_lt get!_ge ext! size_set! get!_set! get!_set!_self get!_set!_ne get!_zipWith zipWith_set!
  get!_extract get!_append get!_replicate)

variable (C : Ctx)

@[simp] theorem size_zeroVec (len : Nat) : (zeroVec len).size = len := by simp [zeroVec]
@[simp] theorem size_xorVec (x y : Vec) : (xorVec x y).size = x.size := by simp [xorVec]
@[simp] theorem size_mulVec (x : Vec) (m : Nat) : (mulVec C x m).size = x.size := by simp [mulVec]

theorem get!_zeroVec (len k : Nat) : (zeroVec len)[k]! = 0 := by
  by_cases h : k < len
  · rw [get!_lt _ k (by simpa using h)]; simp [zeroVec]
  · rw [get!_ge _ k (by simpa using Nat.le_of_not_lt h)]; rfl

theorem get!_xorVec (x y : Vec) (k : Nat) (h : k < x.size) :
    (xorVec x y)[k]! = x[k]! ^^^ y[k]! := by
  rw [get!_lt _ k (by simpa using h), get!_lt x k h]; simp [xorVec]

theorem get!_mulVec (x : Vec) (m k : Nat) (h : k < x.size) :
    (mulVec C x m)[k]! = mulSym C x[k]! m := by
  rw [get!_lt _ k (by simpa using h), get!_lt x k h]; simp [mulVec]

/-- by the `a = 0` guard of `mulLog` -/
theorem mulSym_zero (m : Nat) : mulSym C 0 m = 0 := by simp [mulSym, mulLog]

theorem mulVec_zeroVec (len m : Nat) : mulVec C (zeroVec len) m = zeroVec len := by
  apply ext! (by simp)
  intro i hi
  rw [get!_mulVec C _ m i (by simpa using hi), get!_zeroVec, mulSym_zero]

theorem xorVec_zeroVec (len : Nat) : xorVec (zeroVec len) (zeroVec len) = zeroVec len := by
  apply ext! (by simp)
  intro i hi
  rw [get!_xorVec _ _ i (by simpa using hi), get!_zeroVec]; rfl

/-- the two algebraic facts about the symbol multiplication used by linearity -/
structure MulLinear (C : Ctx) : Prop where
  zero : ∀ m, mulSym C 0 m = 0
  xor : ∀ a b m, mulSym C (a ^^^ b) m = mulSym C a m ^^^ mulSym C b m

/-- the step addresses rows inside the work area and shards inside the shard set -/
def InRange (nrows nshards : Nat) : Step → Prop
  | .load dst sh => dst < nrows ∧ sh < nshards
  | .loadMul dst sh _ => dst < nrows ∧ sh < nshards
  | .clear dst => dst < nrows
  | .mulAdd dst src _ => dst < nrows ∧ src < nrows
  | .xor dst src => dst < nrows ∧ src < nrows

/-- more rows / more shards stay in range -/
theorem InRange_mono {n n' k k' : Nat} (hn : n ≤ n') (hk : k ≤ k') {s : Step} (h : InRange n k s) :
    InRange n' k' s := by
  cases s with
  | load dst sh => exact ⟨Nat.lt_of_lt_of_le h.1 hn, Nat.lt_of_lt_of_le h.2 hk⟩
  | loadMul dst sh m => exact ⟨Nat.lt_of_lt_of_le h.1 hn, Nat.lt_of_lt_of_le h.2 hk⟩
  | clear dst => exact Nat.lt_of_lt_of_le h hn
  | mulAdd dst src m => exact ⟨Nat.lt_of_lt_of_le h.1 hn, Nat.lt_of_lt_of_le h.2 hn⟩
  | xor dst src => exact ⟨Nat.lt_of_lt_of_le h.1 hn, Nat.lt_of_lt_of_le h.2 hn⟩

instance (nrows nshards : Nat) (s : Step) : Decidable (InRange nrows nshards s) := by
  cases s <;> unfold InRange <;> infer_instance

/-- executable form of `∀ s ∈ steps, InRange nrows nshards s` -/
def allInRange (nrows nshards : Nat) (steps : List Step) : Bool :=
  steps.all fun s => decide (InRange nrows nshards s)

theorem allInRange_iff (nrows nshards : Nat) (steps : List Step) :
    allInRange nrows nshards steps = true ↔ ∀ s ∈ steps, InRange nrows nshards s := by
  simp [allInRange]

/-- the multiplier of a `loadMul` / `mulAdd` step satisfies `M` -/
def MulOK (M : Nat → Prop) : Step → Prop
  | .loadMul _ _ m => M m
  | .mulAdd _ _ m => M m
  | _ => True

theorem mulOK_true (s : Step) : MulOK (fun _ => True) s := by cases s <;> trivial

@[simp] theorem run_nil (shards : Array Vec) (len : Nat) (w : Array Vec) :
    run C shards len w [] = w := rfl

@[simp] theorem run_cons (shards : Array Vec) (len : Nat) (w : Array Vec) (s : Step) (ss : List Step) :
    run C shards len w (s :: ss) = run C shards len (step C shards len w s) ss := rfl

theorem run_append (shards : Array Vec) (len : Nat) (w : Array Vec) (s₁ s₂ : List Step) :
    run C shards len w (s₁ ++ s₂) = run C shards len (run C shards len w s₁) s₂ := by
  simp [run, List.foldl_append]

@[simp] theorem size_step (shards : Array Vec) (len : Nat) (w : Array Vec) (s : Step) :
    (step C shards len w s).size = w.size := by
  cases s <;> simp [step]

@[simp] theorem size_run (shards : Array Vec) (len : Nat) (w : Array Vec) (steps : List Step) :
    (run C shards len w steps).size = w.size := by
  induction steps generalizing w with
  | nil => rfl
  | cons s ss ih => rw [run_cons, ih, size_step]

theorem inRange_tail {shards : Array Vec} {len k : Nat} {w : Array Vec} {s : Step} {ss : List Step}
    (hr : ∀ t ∈ s :: ss, InRange w.size k t) : ∀ t ∈ ss, InRange (step C shards len w s).size k t :=
  fun t ht => by rw [size_step]; exact hr t (List.mem_cons_of_mem _ ht)

/-- every row has `len` symbols -/
def WF (len : Nat) (w : Array Vec) : Prop := ∀ i, i < w.size → w[i]!.size = len

/-- every row satisfies `R`; `WF len` is `AllRows (·.size = len)` -/
def AllRows (R : Vec → Prop) (w : Array Vec) : Prop := ∀ i, i < w.size → R w[i]!

theorem wf_iff_allRows {len : Nat} {w : Array Vec} : WF len w ↔ AllRows (·.size = len) w := Iff.rfl

/-- a read at `i` returns a row satisfying `R` when `i` is in range, or when the empty row (the value
of an out-of-range `w[i]!`) satisfies `R` -/
theorem AllRows.get {R : Vec → Prop} {w : Array Vec} (h : AllRows R w) {i : Nat}
    (hi : i < w.size ∨ R #[]) : R w[i]! := by
  by_cases h' : i < w.size
  · exact h i h'
  · rw [get!_ge w i (Nat.le_of_not_lt h')]; exact hi.resolve_left h'

theorem AllRows.set! {R : Vec → Prop} {w : Array Vec} (h : AllRows R w) (d : Nat) {v : Vec}
    (hv : R v) : AllRows R (w.set! d v) := by
  intro i hi
  rw [get!_set!]
  split
  · exact hv
  · exact h i (by simpa using hi)

theorem allRows_replicate {R : Vec → Prop} (n : Nat) {v : Vec} (hv : R v) :
    AllRows R (Array.replicate n v) := by
  intro i hi
  rw [get!_lt _ i hi, Array.getElem_replicate]; exact hv

theorem AllRows.zipWith {R₁ R₂ R : Vec → Prop} {a b : Array Vec} (ha : AllRows R₁ a) (hb : AllRows R₂ b)
    {g : Vec → Vec → Vec} (hg : ∀ x y, R₁ x → R₂ y → R (g x y)) : AllRows R (Array.zipWith g a b) := by
  intro i hi
  have hi' : i < a.size ∧ i < b.size := by simp only [Array.size_zipWith] at hi; omega
  rw [get!_zipWith g a b i hi'.1 hi'.2]
  exact hg _ _ (ha i hi'.1) (hb i hi'.2)

theorem AllRows.extract {R : Vec → Prop} {w : Array Vec} (h : AllRows R w) (a b : Nat) :
    AllRows R (w.extract a b) := by
  intro i hi
  have hi' : a + i < w.size := by simp only [Array.size_extract] at hi; omega
  rw [get!_lt _ i hi, Array.getElem_extract, ← get!_lt w (a + i) hi']
  exact h _ hi'

theorem WF_replicate (n len : Nat) : WF len (Array.replicate n (zeroVec len)) :=
  wf_iff_allRows.mpr (allRows_replicate n (size_zeroVec len))

structure RowInv (C : Ctx) (R : Vec → Prop) (M : Nat → Prop) (len : Nat) : Prop where
  zero : R (zeroVec len)
  mul : ∀ x m, R x → M m → R (mulVec C x m)
  xor : ∀ x y, R x → R y → R (xorVec x y)

theorem rowInv_size (M : Nat → Prop) (len : Nat) : RowInv C (fun x => x.size = len) M len where
  zero := size_zeroVec len
  mul := fun x m hx _ => by rw [size_mulVec]; exact hx
  xor := fun x y hx _ => by rw [size_xorVec]; exact hx

theorem RowInv.and {C : Ctx} {R R' : Vec → Prop} {M : Nat → Prop} {len : Nat}
    (h : RowInv C R M len) (h' : RowInv C R' M len) : RowInv C (fun x => R x ∧ R' x) M len where
  zero := ⟨h.zero, h'.zero⟩
  mul := fun x m hx hm => ⟨h.mul x m hx.1 hm, h'.mul x m hx.2 hm⟩
  xor := fun x y hx hy => ⟨h.xor x y hx.1 hy.1, h'.xor x y hx.2 hy.2⟩

/-- the reads of the step are either in range or harmless for `R` (see `AllRows.get`) -/
theorem step_rows {R : Vec → Prop} {M : Nat → Prop} {len : Nat} (hR : RowInv C R M len)
    {shards w : Array Vec} (hw : AllRows R w) (hs : AllRows R shards) {s : Step}
    (hr : InRange w.size shards.size s ∨ R #[]) (hm : MulOK M s) :
    AllRows R (step C shards len w s) := by
  cases s with
  | load d sh => exact hw.set! d (hs.get (hr.imp_left And.right))
  | loadMul d sh m => exact hw.set! d (hR.mul _ _ (hs.get (hr.imp_left And.right)) hm)
  | clear d => exact hw.set! d hR.zero
  | mulAdd d src m =>
    exact hw.set! d (hR.xor _ _ (hw.get (hr.imp_left And.left))
      (hR.mul _ _ (hw.get (hr.imp_left And.right)) hm))
  | xor d src =>
    exact hw.set! d (hR.xor _ _ (hw.get (hr.imp_left And.left)) (hw.get (hr.imp_left And.right)))

theorem run_rows {R : Vec → Prop} {M : Nat → Prop} {len : Nat} (hR : RowInv C R M len)
    {shards w : Array Vec} (hw : AllRows R w) (hs : AllRows R shards) {steps : List Step}
    (hr : (∀ s ∈ steps, InRange w.size shards.size s) ∨ R #[]) (hm : ∀ s ∈ steps, MulOK M s) :
    AllRows R (run C shards len w steps) := by
  induction steps generalizing w with
  | nil => exact hw
  | cons s ss ih =>
    rw [run_cons]
    exact ih (step_rows C hR hw hs (hr.imp_left (· s List.mem_cons_self)) (hm s List.mem_cons_self))
      (hr.imp_left (inRange_tail C)) (fun t ht => hm t (List.mem_cons_of_mem _ ht))

theorem run_wf {len : Nat} {shards w : Array Vec} (hw : WF len w) (hs : WF len shards)
    {steps : List Step} (hr : ∀ s ∈ steps, InRange w.size shards.size s) :
    WF len (run C shards len w steps) ∧ (run C shards len w steps).size = w.size :=
  ⟨run_rows C (rowInv_size C _ len) hw hs (.inl hr) (fun s _ => mulOK_true s),
    size_run C shards len w steps⟩

/-- `g` need only commute with the row operations on rows satisfying the invariants `R₁`, `R₂` and for
multipliers satisfying `M` -/
structure RowHom2On (C : Ctx) (R₁ R₂ : Vec → Prop) (M : Nat → Prop) (l₁ l₂ l : Nat)
    (g : Vec → Vec → Vec) : Prop where
  inv₁ : RowInv C R₁ M l₁
  inv₂ : RowInv C R₂ M l₂
  zero : g (zeroVec l₁) (zeroVec l₂) = zeroVec l
  mul : ∀ x y m, R₁ x → R₂ y → M m → g (mulVec C x m) (mulVec C y m) = mulVec C (g x y) m
  xor : ∀ x x' y y', R₁ x → R₁ x' → R₂ y → R₂ y' →
    g (xorVec x x') (xorVec y y') = xorVec (g x y) (g x' y')

/-- the case of all rows of `l₁` resp. `l₂` symbols and all multipliers -/
abbrev RowHom2 (C : Ctx) (l₁ l₂ l : Nat) (g : Vec → Vec → Vec) : Prop :=
  RowHom2On C (fun x => x.size = l₁) (fun y => y.size = l₂) (fun _ => True) l₁ l₂ l g

variable {R₁ R₂ : Vec → Prop} {M : Nat → Prop} {l₁ l₂ l : Nat} {g : Vec → Vec → Vec}

theorem step_zipWith_on (hg : RowHom2On C R₁ R₂ M l₁ l₂ l g) {s₁ s₂ w₁ w₂ : Array Vec}
    (hw₁ : AllRows R₁ w₁) (hw₂ : AllRows R₂ w₂) (hs₁ : AllRows R₁ s₁) (hs₂ : AllRows R₂ s₂)
    (hws : w₁.size = w₂.size) (hss : s₁.size = s₂.size) {s : Step}
    (hr : InRange w₁.size s₁.size s) (hm : MulOK M s) :
    step C (Array.zipWith g s₁ s₂) l (Array.zipWith g w₁ w₂) s =
      Array.zipWith g (step C s₁ l₁ w₁ s) (step C s₂ l₂ w₂ s) := by
  -- an in-range read of the combined state is `g` of the two reads, which satisfy `R₁`, `R₂`
  have rdw : ∀ i, i < w₁.size →
      (Array.zipWith g w₁ w₂)[i]! = g w₁[i]! w₂[i]! ∧ R₁ w₁[i]! ∧ R₂ w₂[i]! :=
    fun i hi => ⟨get!_zipWith g w₁ w₂ i hi (hws ▸ hi), hw₁ i hi, hw₂ i (hws ▸ hi)⟩
  have rds : ∀ i, i < s₁.size →
      (Array.zipWith g s₁ s₂)[i]! = g s₁[i]! s₂[i]! ∧ R₁ s₁[i]! ∧ R₂ s₂[i]! :=
    fun i hi => ⟨get!_zipWith g s₁ s₂ i hi (hss ▸ hi), hs₁ i hi, hs₂ i (hss ▸ hi)⟩
  cases s with
  | load d sh =>
    simp only [step]
    rw [zipWith_set! g _ _ _ _ _ hws, (rds sh hr.2).1]
  | loadMul d sh m =>
    obtain ⟨e, r₁, r₂⟩ := rds sh hr.2
    simp only [step]
    rw [zipWith_set! g _ _ _ _ _ hws, e, hg.mul _ _ _ r₁ r₂ hm]
  | clear d =>
    simp only [step]
    rw [zipWith_set! g _ _ _ _ _ hws, hg.zero]
  | mulAdd d src m =>
    obtain ⟨ed, d₁, d₂⟩ := rdw d hr.1
    obtain ⟨es, r₁, r₂⟩ := rdw src hr.2
    simp only [step]
    rw [zipWith_set! g _ _ _ _ _ hws, ed, es,
      hg.xor _ _ _ _ d₁ (hg.inv₁.mul _ _ r₁ hm) d₂ (hg.inv₂.mul _ _ r₂ hm), hg.mul _ _ _ r₁ r₂ hm]
  | xor d src =>
    obtain ⟨ed, d₁, d₂⟩ := rdw d hr.1
    obtain ⟨es, r₁, r₂⟩ := rdw src hr.2
    simp only [step]
    rw [zipWith_set! g _ _ _ _ _ hws, ed, es, hg.xor _ _ _ _ d₁ r₁ d₂ r₂]

/-- the invariants travel along with the two runs, so that `g` need only be a homomorphism on rows
that satisfy them -/
theorem run_zipWith_on (hg : RowHom2On C R₁ R₂ M l₁ l₂ l g) {s₁ s₂ w₁ w₂ : Array Vec}
    (hw₁ : AllRows R₁ w₁) (hw₂ : AllRows R₂ w₂) (hs₁ : AllRows R₁ s₁) (hs₂ : AllRows R₂ s₂)
    (hws : w₁.size = w₂.size) (hss : s₁.size = s₂.size) {steps : List Step}
    (hr : ∀ s ∈ steps, InRange w₁.size s₁.size s) (hm : ∀ s ∈ steps, MulOK M s) :
    run C (Array.zipWith g s₁ s₂) l (Array.zipWith g w₁ w₂) steps =
      Array.zipWith g (run C s₁ l₁ w₁ steps) (run C s₂ l₂ w₂ steps) := by
  induction steps generalizing w₁ w₂ with
  | nil => rfl
  | cons s ss ih =>
    have hr₁ : InRange w₁.size s₁.size s := hr s List.mem_cons_self
    have hr₂ : InRange w₂.size s₂.size s := by rw [← hws, ← hss]; exact hr₁
    have hm₁ := hm s List.mem_cons_self
    rw [run_cons, run_cons, run_cons, step_zipWith_on C hg hw₁ hw₂ hs₁ hs₂ hws hss hr₁ hm₁]
    exact ih (step_rows C hg.inv₁ hw₁ hs₁ (.inl hr₁) hm₁) (step_rows C hg.inv₂ hw₂ hs₂ (.inl hr₂) hm₁)
      (by simp [hws]) (inRange_tail C hr) (fun t ht => hm t (List.mem_cons_of_mem _ ht))

theorem run_zipWith (hg : RowHom2 C l₁ l₂ l g) {s₁ s₂ w₁ w₂ : Array Vec}
    (hw₁ : WF l₁ w₁) (hw₂ : WF l₂ w₂) (hs₁ : WF l₁ s₁) (hs₂ : WF l₂ s₂)
    (hws : w₁.size = w₂.size) (hss : s₁.size = s₂.size) {steps : List Step}
    (hr : ∀ s ∈ steps, InRange w₁.size s₁.size s) :
    run C (Array.zipWith g s₁ s₂) l (Array.zipWith g w₁ w₂) steps =
      Array.zipWith g (run C s₁ l₁ w₁ steps) (run C s₂ l₂ w₂ steps) :=
  run_zipWith_on C hg hw₁ hw₂ hs₁ hs₂ hws hss hr (fun s _ => mulOK_true s)

/-- xor-additivity of `mulSym` is asked only on the symbols of rows satisfying `R` -/
theorem rowHom2On_xor {R : Vec → Prop} {len : Nat} (hR : RowInv C R M len)
    (hsz : ∀ x, R x → x.size = len)
    (hmul : ∀ x y m, R x → R y → M m → ∀ k, k < len →
      mulSym C (x[k]! ^^^ y[k]!) m = mulSym C x[k]! m ^^^ mulSym C y[k]! m) :
    RowHom2On C R R M len len len xorVec where
  inv₁ := hR
  inv₂ := hR
  zero := xorVec_zeroVec len
  mul := by
    intro x y m hx hy hm
    have sx := hsz x hx
    have sy := hsz y hy
    apply ext! (by rw [size_xorVec, size_mulVec, size_mulVec, size_xorVec])
    intro i hi
    rw [size_xorVec, size_mulVec] at hi
    rw [get!_xorVec _ _ i (by rw [size_mulVec]; exact hi), get!_mulVec C x m i hi,
      get!_mulVec C y m i (by rw [sy, ← sx]; exact hi),
      get!_mulVec C _ m i (by rw [size_xorVec]; exact hi), get!_xorVec x y i hi,
      hmul x y m hx hy hm i (sx ▸ hi)]
  xor := by
    intro x x' y y' hx hx' hy hy'
    have sx := hsz x hx
    have sx' := hsz x' hx'
    have sy := hsz y hy
    apply ext! (by rw [size_xorVec, size_xorVec, size_xorVec, size_xorVec])
    intro i hi
    rw [size_xorVec, size_xorVec] at hi
    rw [get!_xorVec _ _ i (by rw [size_xorVec]; exact hi), get!_xorVec x x' i hi,
      get!_xorVec y y' i (by rw [sy, ← sx]; exact hi),
      get!_xorVec _ _ i (by rw [size_xorVec]; exact hi), get!_xorVec x y i hi,
      get!_xorVec x' y' i (by rw [sx', ← sx]; exact hi), BF.xor_xor_xor_comm]

theorem rowHom2_xor (hC : MulLinear C) (len : Nat) : RowHom2 C len len len xorVec :=
  rowHom2On_xor C (rowInv_size C _ len) (fun _ h => h) fun _ _ _ _ _ _ _ _ => hC.xor _ _ _

theorem rowHom2_append (l₁ l₂ : Nat) : RowHom2 C l₁ l₂ (l₁ + l₂) (· ++ ·) where
  inv₁ := rowInv_size C _ l₁
  inv₂ := rowInv_size C _ l₂
  zero := Array.replicate_append_replicate
  mul := fun _ _ _ _ _ _ => Array.map_append.symm
  xor := by
    intro x x' y y' hx hx' _ _
    show xorVec x x' ++ xorVec y y' = xorVec (x ++ y) (x' ++ y')
    apply ext! (by rw [Array.size_append, size_xorVec, size_xorVec, size_xorVec, Array.size_append])
    intro i hi
    rw [Array.size_append, size_xorVec, size_xorVec] at hi
    rw [get!_xorVec (x ++ y) (x' ++ y') i (by rw [Array.size_append]; exact hi), get!_append,
      get!_append, get!_append, size_xorVec, hx', ← hx]
    by_cases h1 : i < x.size
    · rw [if_pos h1, if_pos h1, if_pos h1, get!_xorVec x x' i h1]
    · rw [if_neg h1, if_neg h1, if_neg h1,
        get!_xorVec y y' _ (Nat.sub_lt_left_of_lt_add (Nat.le_of_not_lt h1) hi)]

structure RowHom (C : Ctx) (len len' : Nat) (f : Vec → Vec) : Prop where
  zero : f (zeroVec len) = zeroVec len'
  mul : ∀ x m, x.size = len → f (mulVec C x m) = mulVec C (f x) m
  xor : ∀ x y, x.size = len → y.size = len → f (xorVec x y) = xorVec (f x) (f y)

/-- a unary homomorphism is a binary one that ignores its second argument, and
`Array.zipWith (fun x _ => f x) a a = a.map f` -/
theorem RowHom.hom2 {C : Ctx} {len len' : Nat} {f : Vec → Vec} (hf : RowHom C len len' f) :
    RowHom2 C len len len' (fun x _ => f x) where
  inv₁ := rowInv_size C _ len
  inv₂ := rowInv_size C _ len
  zero := hf.zero
  mul := fun x _ m hx _ _ => hf.mul x m hx
  xor := fun x x' _ _ hx hx' _ _ => hf.xor x x' hx hx'

theorem run_map {len len' : Nat} {f : Vec → Vec} (hf : RowHom C len len' f)
    {shards w : Array Vec} (hw : WF len w) (hs : WF len shards) {steps : List Step}
    (hr : ∀ s ∈ steps, InRange w.size shards.size s) :
    (run C shards len w steps).map f = run C (shards.map f) len' (w.map f) steps := by
  have h := run_zipWith C hf.hom2 hw hw hs hs rfl rfl hr
  simp only [Array.zipWith_self] at h
  exact h.symm

theorem rowHom_reindex {len len' : Nat} {f : Vec → Vec} (σ : Nat → Nat)
    (hσ : ∀ i, i < len' → σ i < len) (hsz : ∀ x, x.size = len → (f x).size = len')
    (hget : ∀ x, x.size = len → ∀ i, i < len' → (f x)[i]! = x[σ i]!) : RowHom C len len' f where
  zero := by
    have hz := size_zeroVec len
    apply ext! (by rw [hsz _ hz, size_zeroVec])
    intro i hi
    rw [hsz _ hz] at hi
    rw [hget _ hz i hi, get!_zeroVec, get!_zeroVec]
  mul := by
    intro x m hx
    have hmx : (mulVec C x m).size = len := by rw [size_mulVec, hx]
    apply ext! (by rw [hsz _ hmx, size_mulVec, hsz x hx])
    intro i hi
    rw [hsz _ hmx] at hi
    rw [hget _ hmx i hi, get!_mulVec C x m _ (hx ▸ hσ i hi),
      get!_mulVec C (f x) m i (by rw [hsz x hx]; exact hi), hget x hx i hi]
  xor := by
    intro x y hx hy
    have hxy : (xorVec x y).size = len := by rw [size_xorVec, hx]
    apply ext! (by rw [hsz _ hxy, size_xorVec, hsz x hx])
    intro i hi
    rw [hsz _ hxy] at hi
    rw [hget _ hxy i hi, get!_xorVec x y _ (hx ▸ hσ i hi),
      get!_xorVec (f x) (f y) i (by rw [hsz x hx]; exact hi), hget x hx i hi, hget y hy i hi]

/-- each row reduced to its `k`-th symbol -/
def proj (k : Nat) (v : Array Vec) : Array Vec := v.map fun row => #[row[k]!]

theorem rowHom_proj {len k : Nat} (hk : k < len) : RowHom C len 1 (fun row => #[row[k]!]) :=
  rowHom_reindex C (fun _ => k) (fun _ _ => hk) (fun _ _ => rfl) fun _ _ i hi => by
    obtain rfl : i = 0 := Nat.lt_one_iff.mp hi
    rfl

theorem rowHom_window {len a b : Nat} (hb : b ≤ len) :
    RowHom C len (b - a) (fun row => row.extract a b) :=
  rowHom_reindex C (a + ·) (fun _ _ => by omega)
    (fun x hx => by rw [Array.size_extract, hx, Nat.min_eq_left hb])
    fun x hx i hi => get!_extract x a b i hi (hx ▸ hb)

theorem rowHom_drop (n m : Nat) : RowHom C (n + m) m (fun row => row.extract n row.size) :=
  rowHom_reindex C (n + ·) (fun _ _ => by omega)
    (fun x hx => by rw [Array.size_extract, Nat.min_self, hx, Nat.add_sub_cancel_left])
    fun x hx i hi => get!_extract x n x.size i (by omega) (Nat.le_refl _)

/-- `n` rows of `len` zero symbols -/
def zeroRows (n len : Nat) : Array Vec := Array.replicate n (zeroVec len)

@[simp] theorem size_zeroRows (n len : Nat) : (zeroRows n len).size = n := by simp [zeroRows]

theorem get!_zeroRows (n len i : Nat) (h : i < n) : (zeroRows n len)[i]! = zeroVec len := by
  rw [get!_lt _ i (by simpa using h)]; simp [zeroRows]

theorem zeroRows_set! (n len d : Nat) : (zeroRows n len).set! d (zeroVec len) = zeroRows n len := by
  apply ext! (by simp)
  intro i hi
  have hi' : i < n := by simpa using hi
  rw [get!_set!, get!_zeroRows n len i hi']
  split <;> rfl

theorem step_zeroRows {n nsh len : Nat} {s : Step} (hr : InRange n nsh s) :
    step C (zeroRows nsh len) len (zeroRows n len) s = zeroRows n len := by
  cases s with
  | load d sh => simp only [step]; rw [get!_zeroRows nsh len sh hr.2, zeroRows_set!]
  | loadMul d sh m =>
    simp only [step]; rw [get!_zeroRows nsh len sh hr.2, mulVec_zeroVec, zeroRows_set!]
  | clear d => simp only [step]; rw [zeroRows_set!]
  | mulAdd d src m =>
    simp only [step]
    rw [get!_zeroRows n len d hr.1, get!_zeroRows n len src hr.2, mulVec_zeroVec,
      xorVec_zeroVec, zeroRows_set!]
  | xor d src =>
    simp only [step]
    rw [get!_zeroRows n len d hr.1, get!_zeroRows n len src hr.2, xorVec_zeroVec, zeroRows_set!]

/-- no algebra is involved: `mulSym C 0 m = 0` by definition -/
theorem run_zeroRows {n nsh len : Nat} {steps : List Step} (hr : ∀ s ∈ steps, InRange n nsh s) :
    run C (zeroRows nsh len) len (zeroRows n len) steps = zeroRows n len := by
  induction steps with
  | nil => rfl
  | cons s ss ih =>
    rw [run_cons, step_zeroRows C (hr s List.mem_cons_self)]
    exact ih fun t ht => hr t (List.mem_cons_of_mem _ ht)

/-- row-wise xor of two work areas / shard sets of equal shape -/
def xorRows (a b : Array Vec) : Array Vec := Array.zipWith xorVec a b

theorem size_xorRows (a b : Array Vec) (h : a.size = b.size) : (xorRows a b).size = a.size := by
  simp [xorRows, Array.size_zipWith, h]

theorem WF_xorRows {len : Nat} {a b : Array Vec} (ha : WF len a) :
    WF len (xorRows a b) :=
  wf_iff_allRows.mpr <| (wf_iff_allRows.mp ha).zipWith (R₂ := fun _ => True) (fun _ _ => trivial)
    fun x y hx _ => (size_xorVec x y).trans hx

theorem run_xorRows (hC : MulLinear C) {len : Nat} {s₁ s₂ w₁ w₂ : Array Vec}
    (hw₁ : WF len w₁) (hw₂ : WF len w₂) (hs₁ : WF len s₁) (hs₂ : WF len s₂)
    (hws : w₁.size = w₂.size) (hss : s₁.size = s₂.size) {steps : List Step}
    (hr : ∀ s ∈ steps, InRange w₁.size s₁.size s) :
    run C (xorRows s₁ s₂) len (xorRows w₁ w₂) steps =
      xorRows (run C s₁ len w₁ steps) (run C s₂ len w₂ steps) :=
  run_zipWith C (rowHom2_xor C hC len) hw₁ hw₂ hs₁ hs₂ hws hss hr

/-- xor of a finite family of states of shape `n × len` -/
def xorSum (n len : Nat) (l : List (Array Vec)) : Array Vec := l.foldr xorRows (zeroRows n len)

theorem xorSum_wf {n len : Nat} {l : List (Array Vec)} (h : ∀ a ∈ l, WF len a ∧ a.size = n) :
    WF len (xorSum n len l) ∧ (xorSum n len l).size = n := by
  induction l with
  | nil => exact ⟨WF_replicate n len, size_zeroRows n len⟩
  | cons a l ih =>
    have ih' := ih fun b hb => h b (List.mem_cons_of_mem _ hb)
    have ha := h a List.mem_cons_self
    refine ⟨WF_xorRows ha.1, ?_⟩
    show (xorRows a (xorSum n len l)).size = n
    rw [size_xorRows _ _ (by rw [ha.2, ih'.2]), ha.2]

theorem run_xorSum (hC : MulLinear C) {nrows nsh len : Nat} {steps : List Step}
    (hr : ∀ s ∈ steps, InRange nrows nsh s) (L : List (Array Vec × Array Vec))
    (hL : ∀ q ∈ L, (WF len q.1 ∧ q.1.size = nsh) ∧ (WF len q.2 ∧ q.2.size = nrows)) :
    run C (xorSum nsh len (L.map (·.1))) len (xorSum nrows len (L.map (·.2))) steps =
      xorSum nrows len (L.map fun q => run C q.1 len q.2 steps) := by
  induction L with
  | nil => exact run_zeroRows C hr
  | cons q L ih =>
    have hq := hL q List.mem_cons_self
    have hL' : ∀ q ∈ L, (WF len q.1 ∧ q.1.size = nsh) ∧ (WF len q.2 ∧ q.2.size = nrows) :=
      fun r hr' => hL r (List.mem_cons_of_mem _ hr')
    have h1 := xorSum_wf (n := nsh) (len := len) (l := L.map (·.1))
      (by intro a ha; simp only [List.mem_map] at ha; obtain ⟨r, hr', rfl⟩ := ha; exact (hL' r hr').1)
    have h2 := xorSum_wf (n := nrows) (len := len) (l := L.map (·.2))
      (by intro a ha; simp only [List.mem_map] at ha; obtain ⟨r, hr', rfl⟩ := ha; exact (hL' r hr').2)
    show run C (xorRows q.1 (xorSum nsh len (L.map (·.1)))) len
        (xorRows q.2 (xorSum nrows len (L.map (·.2)))) steps =
      xorRows (run C q.1 len q.2 steps) (xorSum nrows len (L.map fun q => run C q.1 len q.2 steps))
    rw [run_xorRows C hC hq.2.1 h2.1 hq.1.1 h1.1 (by rw [hq.2.2, h2.2]) (by rw [hq.1.2, h1.2])
      (by rw [hq.2.2, hq.1.2]; exact hr), ih hL']

/-- rows defined after step `s`, given the rows `D` defined before -/
def defStep (D : Array Bool) : Step → Array Bool
  | .load d _ => D.set! d true
  | .loadMul d _ _ => D.set! d true
  | .clear d => D.set! d true
  | .mulAdd _ _ _ => D
  | .xor _ _ => D

/-- step `s` reads only rows of `D` -/
def readsOK (D : Array Bool) : Step → Bool
  | .mulAdd d src _ => D[d]! && D[src]!
  | .xor d src => D[d]! && D[src]!
  | _ => true

def initOKFrom (D : Array Bool) : List Step → Bool
  | [] => true
  | s :: ss => readsOK D s && initOKFrom (defStep D s) ss

def definedFrom (D : Array Bool) (steps : List Step) : Array Bool := steps.foldl defStep D

/-- no step reads a work row before a `load` / `loadMul` / `clear` has written it
(`nrows` work rows, none defined initially) -/
def initOK (nrows : Nat) (steps : List Step) : Bool :=
  initOKFrom (Array.replicate nrows false) steps

/-- the rows written by `load` / `loadMul` / `clear` somewhere in `steps` -/
def definedAfter (nrows : Nat) (steps : List Step) : Array Bool :=
  definedFrom (Array.replicate nrows false) steps

/-- two work areas agree on the rows marked in `D` -/
def Agree (D : Array Bool) (w w' : Array Vec) : Prop :=
  w.size = w'.size ∧ ∀ i : Nat, D[i]! = true → w[i]! = w'[i]!

theorem agree_set! {D : Array Bool} {w w' : Array Vec} (h : Agree D w w') (d : Nat) (v : Vec) :
    Agree (D.set! d true) (w.set! d v) (w'.set! d v) := by
  refine ⟨by simp [h.1], ?_⟩
  intro i hi
  by_cases hdi : d = i
  · subst hdi
    by_cases hd : d < w.size
    · rw [get!_set!_self w d v hd, get!_set!_self w' d v (h.1 ▸ hd)]
    · have hd' : w.size ≤ d := Nat.le_of_not_lt hd
      rw [get!_ge _ d (by simpa using hd'), get!_ge _ d (by simpa using h.1 ▸ hd')]
  · rw [get!_set!_ne _ _ _ _ hdi, get!_set!_ne _ _ _ _ hdi]
    apply h.2
    rwa [get!_set!_ne _ _ _ _ hdi] at hi

theorem agree_set!_same {D : Array Bool} {w w' : Array Vec} (h : Agree D w w') (d : Nat) (v : Vec) :
    Agree D (w.set! d v) (w'.set! d v) := by
  refine ⟨by simp [h.1], ?_⟩
  intro i hi
  rw [get!_set!, get!_set!, ← h.1]
  split
  · rfl
  · exact h.2 i hi

theorem step_agree {shards : Array Vec} {len : Nat} {D : Array Bool} {w w' : Array Vec} {s : Step}
    (hok : readsOK D s = true) (h : Agree D w w') :
    Agree (defStep D s) (step C shards len w s) (step C shards len w' s) := by
  cases s with
  | load d sh => exact agree_set! h d _
  | loadMul d sh m => exact agree_set! h d _
  | clear d => exact agree_set! h d _
  | mulAdd d src m =>
    simp only [readsOK, Bool.and_eq_true] at hok
    simp only [step, defStep]
    rw [← h.2 d hok.1, ← h.2 src hok.2]
    exact agree_set!_same h d _
  | xor d src =>
    simp only [readsOK, Bool.and_eq_true] at hok
    simp only [step, defStep]
    rw [← h.2 d hok.1, ← h.2 src hok.2]
    exact agree_set!_same h d _

theorem run_agree {shards : Array Vec} {len : Nat} {steps : List Step} {D : Array Bool}
    {w w' : Array Vec} (hok : initOKFrom D steps = true) (h : Agree D w w') :
    Agree (definedFrom D steps) (run C shards len w steps) (run C shards len w' steps) := by
  induction steps generalizing D w w' with
  | nil => exact h
  | cons s ss ih =>
    simp only [initOKFrom, Bool.and_eq_true] at hok
    exact ih hok.2 (step_agree C hok.1 h)

theorem run_scratch {shards : Array Vec} {len nrows : Nat} {steps : List Step}
    (hok : initOK nrows steps = true) {w w' : Array Vec} (hsz : w.size = w'.size) :
    ∀ i : Nat, (definedAfter nrows steps)[i]! = true →
      (run C shards len w steps)[i]! = (run C shards len w' steps)[i]! := by
  have h0 : Agree (Array.replicate nrows false) w w' := by
    refine ⟨hsz, ?_⟩
    intro i hi
    by_cases h : i < nrows
    · rw [get!_lt _ i (by simpa using h)] at hi; simp at hi
    · rw [get!_ge _ i (by simpa using Nat.le_of_not_lt h)] at hi; exact absurd hi (by decide)
  exact (run_agree C hok h0).2

theorem size_encode (d p len : Nat) (data : Array Vec) (hp : p ≤ 2 * ceilPow2 p) :
    (encode C d p len data).size = p := by
  simp only [encode, Array.size_extract, size_run, Array.size_replicate]
  omega

theorem encode_zeroRows {len nsh : Nat} (d p : Nat)
    (hr : ∀ s ∈ (encodeSched C d p).toList, InRange (2 * ceilPow2 p) nsh s) :
    encode C d p len (zeroRows nsh len) = (zeroRows (2 * ceilPow2 p) len).extract 0 p :=
  congrArg (·.extract 0 p) (run_zeroRows C hr)

theorem encode_zipWith_on (hg : RowHom2On C R₁ R₂ M l₁ l₂ l g) (d p : Nat) {s₁ s₂ : Array Vec}
    (hs₁ : AllRows R₁ s₁) (hs₂ : AllRows R₂ s₂) (hss : s₁.size = s₂.size)
    (hr : ∀ s ∈ (encodeSched C d p).toList, InRange (2 * ceilPow2 p) s₁.size s)
    (hm : ∀ s ∈ (encodeSched C d p).toList, MulOK M s) :
    encode C d p l (Array.zipWith g s₁ s₂) =
      Array.zipWith g (encode C d p l₁ s₁) (encode C d p l₂ s₂) := by
  simp only [encode]
  rw [← Array.extract_zipWith,
    ← run_zipWith_on C hg (allRows_replicate _ hg.inv₁.zero) (allRows_replicate _ hg.inv₂.zero)
      hs₁ hs₂ (by simp) hss (by simpa using hr) hm,
    Array.zipWith_replicate, hg.zero, Nat.min_self]

theorem encode_zipWith (hg : RowHom2 C l₁ l₂ l g) (d p : Nat)
    {s₁ s₂ : Array Vec} (hs₁ : WF l₁ s₁) (hs₂ : WF l₂ s₂) (hss : s₁.size = s₂.size)
    (hr : ∀ s ∈ (encodeSched C d p).toList, InRange (2 * ceilPow2 p) s₁.size s) :
    encode C d p l (Array.zipWith g s₁ s₂) =
      Array.zipWith g (encode C d p l₁ s₁) (encode C d p l₂ s₂) :=
  encode_zipWith_on C hg d p hs₁ hs₂ hss hr (fun s _ => mulOK_true s)

theorem encode_map {len len' : Nat} {f : Vec → Vec} (hf : RowHom C len len' f) (d p : Nat)
    {data : Array Vec} (hs : WF len data)
    (hr : ∀ s ∈ (encodeSched C d p).toList, InRange (2 * ceilPow2 p) data.size s) :
    (encode C d p len data).map f = encode C d p len' (data.map f) := by
  have h := encode_zipWith C hf.hom2 d p hs hs rfl hr
  simp only [Array.zipWith_self] at h
  exact h.symm

/-- entry `i` of the output of `reconstruct`, read off the final work area `w` -/
def reconRow (d p : Nat) (missing : Nat → Bool) (recoverAll : Bool) (el : Array Nat) (w : Array Vec)
    (i : Nat) : Option Vec :=
  if !missing i then none
  else if i < d then some (mulVec C w[ceilPow2 p + i]! (C.P.modulus - el[ceilPow2 p + i]!))
  else if recoverAll then some (mulVec C w[i - d]! (C.P.modulus - el[i - d]!))
  else none

theorem size_reconstruct (d p len : Nat) (shards : Array Vec) (missing : Nat → Bool) (ra : Bool) :
    (reconstruct C d p len shards missing ra).size = d + p := by
  simp [reconstruct]

theorem get!_reconstruct (d p len : Nat) (shards : Array Vec) (missing : Nat → Bool) (ra : Bool)
    (i : Nat) (hi : i < d + p) :
    (reconstruct C d p len shards missing ra)[i]! =
      reconRow C d p missing ra (errLocs C d p missing)
        (run C shards len (Array.replicate (ceilPow2 (ceilPow2 p + d)) (zeroVec len))
          (reconSched C d p missing (errLocs C d p missing)).toList) i := by
  rw [get!_lt _ i (by rw [size_reconstruct]; exact hi)]
  exact Array.getElem_ofFn ..

theorem reconstruct_present (d p len : Nat) (shards : Array Vec) (missing : Nat → Bool) (ra : Bool)
    (i : Nat) (h : missing i = false) : (reconstruct C d p len shards missing ra)[i]! = none := by
  by_cases hi : i < d + p
  · rw [get!_reconstruct C d p len shards missing ra i hi, reconRow, h]; rfl
  · rw [get!_ge _ i (by rw [size_reconstruct]; omega)]; rfl

theorem reconstruct_dataOnly (d p len : Nat) (shards : Array Vec) (missing : Nat → Bool)
    (i : Nat) (h : d ≤ i) : (reconstruct C d p len shards missing false)[i]! = none := by
  by_cases hi : i < d + p
  · rw [get!_reconstruct C d p len shards missing false i hi, reconRow, if_neg (Nat.not_lt.mpr h)]
    split <;> rfl
  · rw [get!_ge _ i (by rw [size_reconstruct]; omega)]; rfl

/-- pointwise combination of two optional rows -/
def optZip (g : Vec → Vec → Vec) : Option Vec → Option Vec → Option Vec
  | some x, some y => some (g x y)
  | _, _ => none

theorem optZip_self (f : Vec → Vec) (o : Option Vec) : optZip (fun x _ => f x) o o = o.map f := by
  cases o <;> rfl

/-- the rows read by the output stage are `ceilPow2 p + i` (`i < d`) and `i - d` (`i < d + p`), all
below `ceilPow2 p + d` when `p ≤ ceilPow2 p` -/
theorem reconRow_zipWith (hg : RowHom2On C R₁ R₂ M l₁ l₂ l g) (d p : Nat) (missing : Nat → Bool)
    (ra : Bool) (el : Array Nat) {w₁ w₂ : Array Vec} (hw₁ : AllRows R₁ w₁) (hw₂ : AllRows R₂ w₂)
    (hws : w₁.size = w₂.size) (hmod : ∀ x, M (C.P.modulus - x))
    (hp : p ≤ ceilPow2 p) (hn : ceilPow2 p + d ≤ w₁.size) {i : Nat} (hi : i < d + p) :
    reconRow C d p missing ra el (Array.zipWith g w₁ w₂) i =
      optZip g (reconRow C d p missing ra el w₁ i) (reconRow C d p missing ra el w₂ i) := by
  have key : ∀ j x, j < w₁.size → mulVec C (Array.zipWith g w₁ w₂)[j]! (C.P.modulus - x) =
      g (mulVec C w₁[j]! (C.P.modulus - x)) (mulVec C w₂[j]! (C.P.modulus - x)) := fun j x hj => by
    rw [get!_zipWith g w₁ w₂ j hj (hws ▸ hj), hg.mul _ _ _ (hw₁ j hj) (hw₂ j (hws ▸ hj)) (hmod x)]
  unfold reconRow
  by_cases hm : (!missing i) = true
  · simp only [if_pos hm]; rfl
  · simp only [if_neg hm]
    by_cases hd : i < d
    · simp only [if_pos hd]; exact congrArg some (key _ _ (by omega))
    · simp only [if_neg hd]
      cases ra
      · rfl
      · exact congrArg some (key _ _ (by omega))

theorem reconstruct_zipWith_on (hg : RowHom2On C R₁ R₂ M l₁ l₂ l g) (d p : Nat)
    {s₁ s₂ : Array Vec} (missing : Nat → Bool) (ra : Bool)
    (hs₁ : AllRows R₁ s₁) (hs₂ : AllRows R₂ s₂) (hss : s₁.size = s₂.size)
    (hmod : ∀ x, M (C.P.modulus - x))
    (hp : p ≤ ceilPow2 p) (hn : ceilPow2 p + d ≤ ceilPow2 (ceilPow2 p + d))
    (hr : ∀ s ∈ (reconSched C d p missing (errLocs C d p missing)).toList,
      InRange (ceilPow2 (ceilPow2 p + d)) s₁.size s)
    (hm : ∀ s ∈ (reconSched C d p missing (errLocs C d p missing)).toList, MulOK M s) :
    reconstruct C d p l (Array.zipWith g s₁ s₂) missing ra =
      Array.zipWith (optZip g) (reconstruct C d p l₁ s₁ missing ra)
        (reconstruct C d p l₂ s₂ missing ra) := by
  apply ext! (by rw [Array.size_zipWith, size_reconstruct, size_reconstruct, size_reconstruct,
    Nat.min_self])
  intro i hi
  rw [size_reconstruct] at hi
  rw [get!_zipWith _ _ _ i (by rw [size_reconstruct]; exact hi) (by rw [size_reconstruct]; exact hi),
    get!_reconstruct C d p _ _ missing ra i hi, get!_reconstruct C d p _ _ missing ra i hi,
    get!_reconstruct C d p _ _ missing ra i hi]
  generalize (reconSched C d p missing (errLocs C d p missing)).toList = steps at hr hm
  have z₁ : AllRows R₁ (Array.replicate (ceilPow2 (ceilPow2 p + d)) (zeroVec l₁)) :=
    allRows_replicate _ hg.inv₁.zero
  have z₂ : AllRows R₂ (Array.replicate (ceilPow2 (ceilPow2 p + d)) (zeroVec l₂)) :=
    allRows_replicate _ hg.inv₂.zero
  have hr₁ : ∀ s ∈ steps, InRange (Array.replicate (ceilPow2 (ceilPow2 p + d)) (zeroVec l₁)).size
      s₁.size s := by rw [Array.size_replicate]; exact hr
  have hr₂ : ∀ s ∈ steps, InRange (Array.replicate (ceilPow2 (ceilPow2 p + d)) (zeroVec l₂)).size
      s₂.size s := by rw [Array.size_replicate, ← hss]; exact hr
  rw [← reconRow_zipWith C hg d p missing ra _ (run_rows C hg.inv₁ z₁ hs₁ (.inl hr₁) hm)
      (run_rows C hg.inv₂ z₂ hs₂ (.inl hr₂) hm) (by simp)
      hmod hp (by rw [size_run, Array.size_replicate]; exact hn) hi,
    ← run_zipWith_on C hg z₁ z₂ hs₁ hs₂ (by rw [Array.size_replicate, Array.size_replicate]) hss hr₁ hm,
    Array.zipWith_replicate, hg.zero, Nat.min_self]

theorem reconstruct_zipWith (hg : RowHom2 C l₁ l₂ l g)
    (d p : Nat) {s₁ s₂ : Array Vec} (missing : Nat → Bool) (ra : Bool)
    (hs₁ : WF l₁ s₁) (hs₂ : WF l₂ s₂) (hss : s₁.size = s₂.size)
    (hp : p ≤ ceilPow2 p) (hn : ceilPow2 p + d ≤ ceilPow2 (ceilPow2 p + d))
    (hr : ∀ s ∈ (reconSched C d p missing (errLocs C d p missing)).toList,
      InRange (ceilPow2 (ceilPow2 p + d)) s₁.size s) :
    reconstruct C d p l (Array.zipWith g s₁ s₂) missing ra =
      Array.zipWith (optZip g) (reconstruct C d p l₁ s₁ missing ra)
        (reconstruct C d p l₂ s₂ missing ra) :=
  reconstruct_zipWith_on C hg d p missing ra hs₁ hs₂ hss (fun _ => trivial) hp hn hr
    (fun s _ => mulOK_true s)

theorem reconstruct_map {len len' : Nat} {f : Vec → Vec} (hf : RowHom C len len' f) (d p : Nat)
    {shards : Array Vec} (missing : Nat → Bool) (ra : Bool) (hs : WF len shards)
    (hp : p ≤ ceilPow2 p) (hn : ceilPow2 p + d ≤ ceilPow2 (ceilPow2 p + d))
    (hr : ∀ s ∈ (reconSched C d p missing (errLocs C d p missing)).toList,
      InRange (ceilPow2 (ceilPow2 p + d)) shards.size s) :
    (reconstruct C d p len shards missing ra).map (Option.map f) =
      reconstruct C d p len' (shards.map f) missing ra := by
  have h := reconstruct_zipWith C hf.hom2 d p missing ra hs hs rfl hp hn hr
  simp only [Array.zipWith_self, optZip_self] at h
  exact h.symm

/-! `errLocs_congr` (`he`) and `reconSched_congr` (`h1`, `h3`) restate loop bodies of `Model.Leo.errLocs` and
`Model.Leo.reconSched` verbatim: these terms must track the model text. -/

theorem errLocs_congr (d p : Nat) (missing missing' : Nat → Bool)
    (h : ∀ i, i < d + p → missing i = missing' i) :
    errLocs C d p missing = errLocs C d p missing' := by
  have he : (Array.ofFn fun i : Fin C.P.order =>
        if i.val < p then (if missing (d + i.val) then 1 else 0)
        else if i.val < ceilPow2 p then 1
        else if i.val < ceilPow2 p + d then (if missing (i.val - ceilPow2 p) then 1 else 0)
        else 0) =
      (Array.ofFn fun i : Fin C.P.order =>
        if i.val < p then (if missing' (d + i.val) then 1 else 0)
        else if i.val < ceilPow2 p then 1
        else if i.val < ceilPow2 p + d then (if missing' (i.val - ceilPow2 p) then 1 else 0)
        else 0) := by
    congr 1
    funext i
    by_cases h1 : i.val < p
    · rw [if_pos h1, if_pos h1, h (d + i.val) (by omega)]
    · rw [if_neg h1, if_neg h1]
      by_cases h2 : i.val < ceilPow2 p
      · rw [if_pos h2, if_pos h2]
      · rw [if_neg h2, if_neg h2]
        by_cases h3 : i.val < ceilPow2 p + d
        · rw [if_pos h3, if_pos h3, h (i.val - ceilPow2 p) (by omega)]
        · rw [if_neg h3, if_neg h3]
  simp only [errLocs, he]

theorem forIn_congr_mem {m : Type → Type} [Monad m] {α β : Type} (l : List α)
    (f g : α → β → m (ForInStep β)) (h : ∀ a ∈ l, ∀ s, f a s = g a s) (init : β) :
    forIn l init f = forIn l init g := by
  induction l generalizing init with
  | nil => rfl
  | cons a l ih =>
    simp only [List.forIn_cons]
    rw [h a (by simp)]
    congr 1
    funext r
    cases r with
    | done b => rfl
    | yield b => exact ih (fun a ha s => h a (by simp [ha]) s) b

theorem reconSched_congr (C : Ctx) (d p : Nat) (missing missing' : Nat → Bool) (el : Array Nat)
    (h : ∀ i, i < d + p → missing i = missing' i) :
    reconSched C d p missing el = reconSched C d p missing' el := by
  unfold reconSched
  simp only [Std.Legacy.Range.forIn_eq_forIn_range', Std.Legacy.Range.size, Nat.sub_zero,
    Nat.add_sub_cancel, Nat.div_one]
  have h1 : ∀ a ∈ List.range' 0 p, ∀ s : Array Step,
      (pure (ForInStep.yield (s.push (if missing (d + a) = true then Step.clear a
          else Step.loadMul a (d + a) el[a]!))) : Id (ForInStep (Array Step))) =
        pure (ForInStep.yield (s.push (if missing' (d + a) = true then Step.clear a
          else Step.loadMul a (d + a) el[a]!))) := by
    intro a ha s
    have : a < p := by simpa [List.mem_range'_1] using ha
    rw [h (d + a) (by omega)]
  have h3 : ∀ a ∈ List.range' 0 d, ∀ s : Array Step,
      (pure (ForInStep.yield (s.push (if missing a = true then Step.clear (ceilPow2 p + a)
          else Step.loadMul (ceilPow2 p + a) a el[ceilPow2 p + a]!))) : Id (ForInStep (Array Step))) =
        pure (ForInStep.yield (s.push (if missing' a = true then Step.clear (ceilPow2 p + a)
          else Step.loadMul (ceilPow2 p + a) a el[ceilPow2 p + a]!))) := by
    intro a ha s
    have : a < d := by simpa [List.mem_range'_1] using ha
    rw [h a (by omega)]
  rw [forIn_congr_mem _ _ _ h1]
  simp only [forIn_congr_mem _ _ _ h3]

theorem reconstruct_congr (C : Ctx) (d p len : Nat) (shards : Array Vec) (missing missing' : Nat → Bool)
    (ra : Bool) (h : ∀ i, i < d + p → missing i = missing' i) :
    reconstruct C d p len shards missing ra = reconstruct C d p len shards missing' ra := by
  simp only [reconstruct]
  rw [errLocs_congr C d p missing missing' h,
    reconSched_congr C d p missing missing' (errLocs C d p missing') h]
  congr 1
  funext i
  rw [h i.val i.isLt]

end RSV.Proofs.LeoSched
