import RSV.Proofs.AsmRun
import RSV.Proofs.AsmMachine
/-!
The simulation relation shared by the two assembly checkers: a machine state is an instance of a
symbolic state (register by register, through the checker's own reading of its symbolic values),
and memory is the initial memory except that the written rows hold the specified bytes on the part
processed so far.
-/
namespace RSV.Asm

/-- the rows a kernel works on and what it has to leave in them -/
structure Rows where
  /-- region of row `k` -/
  reg : Nat → Region
  /-- `k` is a row of this call -/
  dom : Nat → Prop
  /-- row `k` is written -/
  wr : Nat → Prop
  /-- first processed position -/
  lo : Nat
  /-- bytes per iteration / per store -/
  B : Nat
  w : Nat
  /-- admissible block offsets of a store -/
  okOff : Nat → Prop
  spec : Nat → Nat → Nat
  m0 : Region → Nat → Nat

namespace Rows
variable (R : Rows)

def cur (it : Nat) : Nat := R.lo + R.B * it

theorem cur_zero : R.cur 0 = R.lo := Nat.add_zero _

theorem lo_le_cur (it : Nat) : R.lo ≤ R.cur it := Nat.le_add_right _ _

theorem cur_succ (it : Nat) : R.cur (it + 1) = R.cur it + R.B := by
  unfold cur; rw [Nat.mul_add, Nat.mul_one, Nat.add_assoc]

theorem cur_bound {N it : Nat} (h : it < N / R.B) : R.cur it + R.B ≤ R.lo + N := by
  have : R.B * it + R.B ≤ N := Nat.le_trans (Nat.mul_le_mul_left R.B h) (Nat.mul_div_le N R.B)
  unfold cur; omega

/-- position `p` of row `k` already holds its final value: it lies in a finished iteration, or in
a chunk stored in the current iteration -/
def Done (it : Nat) (stores : List (Nat × Nat)) (k p : Nat) : Prop :=
  (R.wr k ∧ R.lo ≤ p ∧ p < R.cur it) ∨
  ∃ o, (k, o) ∈ stores ∧ R.cur it + o ≤ p ∧ p < R.cur it + o + R.w

/-- memory during iteration `it`: only rows differ from the initial memory, exactly at the `Done`
positions, where they hold the specified byte -/
def MemInv (it : Nat) (stores : List (Nat × Nat)) (mem : Region → Nat → Nat) : Prop :=
  (∀ r p, (∀ k, R.dom k → r ≠ R.reg k) → mem r p = R.m0 r p) ∧
  (∀ k p, R.dom k → R.Done it stores k p → mem (R.reg k) p = R.spec k p) ∧
  (∀ k p, R.dom k → ¬ R.Done it stores k p → mem (R.reg k) p = R.m0 (R.reg k) p)

def StoresOK (stores : List (Nat × Nat)) : Prop :=
  ∀ k o, (k, o) ∈ stores → R.dom k ∧ R.wr k ∧ o + R.w ≤ R.B ∧ R.okOff o

theorem memInv_init : R.MemInv 0 [] R.m0 := by
  refine ⟨fun _ _ _ => rfl, fun k p _ hd => ?_, fun _ _ _ _ => rfl⟩
  -- nothing is done before the first iteration
  rcases hd with ⟨_, h1, h2⟩ | ⟨o, ho, _⟩
  · rw [R.cur_zero] at h2; omega
  · cases ho

theorem done_final (n k p : Nat) : R.Done n [] k p ↔ (R.wr k ∧ R.lo ≤ p ∧ p < R.cur n) :=
  ⟨fun h => h.elim id (fun ⟨_, ho, _⟩ => nomatch ho), Or.inl⟩

variable {R}

theorem MemInv.store {it : Nat} {stores : List (Nat × Nat)} {s : State} (h : R.MemInv it stores s.mem)
    {k o v : Nat} (hk : R.dom k) (hinj : ∀ k', R.dom k' → R.reg k' = R.reg k → k' = k)
    (hval : ∀ q, q < R.w → s.vec v q = R.spec k (R.cur it + o + q)) :
    R.MemInv it ((k, o) :: stores) (storeVec s (R.reg k) (R.cur it + o) R.w v).mem := by
  have hwin : ∀ k' p, R.dom k' → (R.reg k' = R.reg k ∧ R.cur it + o ≤ p ∧ p < R.cur it + o + R.w) →
      k' = k ∧ R.Done it ((k, o) :: stores) k p := fun k' p hk' hin =>
    ⟨hinj k' hk' hin.1, Or.inr ⟨o, by simp, hin.2⟩⟩
  refine ⟨fun r p hr => ?_, fun k' p hk' hd => ?_, fun k' p hk' hd => ?_⟩
  · show (if r = R.reg k ∧ _ then _ else s.mem r p) = _
    rw [if_neg (fun hh => hr k hk hh.1)]
    exact h.1 r p hr
  · show (if R.reg k' = R.reg k ∧ R.cur it + o ≤ p ∧ p < R.cur it + o + R.w then _ else _) = _
    by_cases hin : R.reg k' = R.reg k ∧ R.cur it + o ≤ p ∧ p < R.cur it + o + R.w
    · obtain ⟨rfl, _⟩ := hwin k' p hk' hin
      rw [if_pos hin, hval _ (by omega)]
      congr 1
      omega
    · rw [if_neg hin]
      apply h.2.1 k' p hk'
      rcases hd with hd | ⟨o', ho', h1, h2⟩
      · exact Or.inl hd
      · rcases List.mem_cons.mp ho' with heq | ho''
        · cases heq
          exact absurd ⟨rfl, h1, h2⟩ hin
        · exact Or.inr ⟨o', ho'', h1, h2⟩
  · have hin : ¬ (R.reg k' = R.reg k ∧ R.cur it + o ≤ p ∧ p < R.cur it + o + R.w) := fun hin => by
      obtain ⟨rfl, hd'⟩ := hwin k' p hk' hin
      exact hd hd'
    show (if R.reg k' = R.reg k ∧ R.cur it + o ≤ p ∧ p < R.cur it + o + R.w then _ else _) = _
    rw [if_neg hin]
    apply h.2.2 k' p hk'
    rintro (hd' | ⟨o', ho', h1, h2⟩)
    · exact hd (Or.inl hd')
    · exact hd (Or.inr ⟨o', List.mem_cons_of_mem _ ho', h1, h2⟩)

theorem StoresOK.cons {stores : List (Nat × Nat)} (h : R.StoresOK stores) {k o : Nat}
    (hk : R.dom k ∧ R.wr k ∧ o + R.w ≤ R.B ∧ R.okOff o) : R.StoresOK ((k, o) :: stores) := by
  intro k' o' ho
  rcases List.mem_cons.mp ho with heq | ho'
  · cases heq; exact hk
  · exact h k' o' ho'

theorem storesOK_nil : R.StoresOK [] := fun _ _ h => nomatch h

theorem MemInv.next {it : Nat} {stores : List (Nat × Nat)} {mem : Region → Nat → Nat}
    (hwB : R.w * (R.B / R.w) = R.B) (hw : 0 < R.w)
    (hall : ∀ k, R.dom k → R.wr k → ∀ b, b < R.B / R.w → (k, b * R.w) ∈ stores)
    (hok : R.StoresOK stores) (h : R.MemInv it stores mem) : R.MemInv (it + 1) [] mem := by
  have key : ∀ k p, R.dom k → (R.Done (it + 1) [] k p ↔ R.Done it stores k p) := by
    intro k p hk
    rw [R.done_final, R.cur_succ]
    constructor
    · rintro ⟨hwr, h1, h2⟩
      by_cases hp : p < R.cur it
      · exact Or.inl ⟨hwr, h1, hp⟩
      · right
        have hq : (p - R.cur it) / R.w < R.B / R.w := by
          rw [Nat.div_lt_iff_lt_mul hw, Nat.mul_comm, hwB]; omega
        refine ⟨_, hall k hk hwr _ hq, ?_, ?_⟩
        · have := Nat.div_mul_le_self (p - R.cur it) R.w
          omega
        · have := Nat.lt_div_mul_add (a := p - R.cur it) hw
          omega
    · rintro (⟨hwr, h1, h2⟩ | ⟨o, ho, h1, h2⟩)
      · exact ⟨hwr, h1, by omega⟩
      · obtain ⟨_, hwr, hle, _⟩ := hok k o ho
        have := R.lo_le_cur it
        exact ⟨hwr, by omega, by omega⟩
  exact ⟨h.1, fun k p hk hd => h.2.1 k p hk ((key k p hk).mp hd),
    fun k p hk hd => h.2.2 k p hk (fun hd' => hd ((key k p hk).mpr hd'))⟩

end Rows

/-- the machine state is an instance of the symbolic state `(gp, vec, stores)` at iteration `it`;
`gR`/`vR` say what a symbolic register value means -/
structure SimG {G V : Type} (gR : G → Val → Prop) (vR : V → (Nat → Nat) → Prop) (R : Rows) (it : Nat)
    (gp : Reg → G) (vec : Nat → V) (stores : List (Nat × Nat)) (s : State) : Prop where
  gp : ∀ r, gR (gp r) (s.gp r)
  vec : ∀ v, vR (vec v) (s.vec v)
  mem : R.MemInv it stores s.mem
  stores_ok : R.StoresOK stores

/-- instruction `i` executes from `s` without a fault into a state satisfying `P` (the conclusion of
every per-instruction simulation lemma) -/
def StepTo (env : Env) (i : Instr) (s : State) (P : State → Prop) : Prop :=
  ∃ s', stepInstr env i s = some s' ∧ P s'

namespace SimG
variable {G V : Type} {gR : G → Val → Prop} {vR : V → (Nat → Nat) → Prop} {R : Rows} {it : Nat}
  {gp : Reg → G} {vec : Nat → V} {stores : List (Nat × Nat)} {s : State}

theorem gpAt (h : SimG gR vR R it gp vec stores s) {r : Reg} {g : G} (heq : gp r = g) : gR g (s.gp r) :=
  heq ▸ h.gp r

theorem vecAt (h : SimG gR vR R it gp vec stores s) {v : Nat} {x : V} (heq : vec v = x) : vR x (s.vec v) :=
  heq ▸ h.vec v

theorem mem_other (h : SimG gR vR R it gp vec stores s) (r : Region) (hr : ∀ k, R.dom k → r ≠ R.reg k)
    (p : Nat) : s.mem r p = R.m0 r p := h.mem.1 r p hr

theorem mem_old (h : SimG gR vR R it gp vec stores s) {k p : Nat} (hk : R.dom k) (hp : R.cur it ≤ p)
    (hst : ∀ o, (k, o) ∈ stores → R.cur it + o ≤ p → p < R.cur it + o + R.w → False) :
    s.mem (R.reg k) p = R.m0 (R.reg k) p := by
  refine h.mem.2.2 k p hk ?_
  rintro (⟨_, _, hlt⟩ | ⟨o, ho, h1, h2⟩)
  · omega
  · exact hst o ho h1 h2

theorem setGp (h : SimG gR vR R it gp vec stores s) (d : Reg) {g : G} {v : Val} (hg : gR g v) :
    SimG gR vR R it (fun k => if k = d then g else gp k) vec stores (setGp s d v) := by
  refine ⟨fun r => ?_, h.vec, h.mem, h.stores_ok⟩
  show gR (if r = d then g else gp r) (if r = d then v else s.gp r)
  by_cases hr : r = d
  · simp only [hr, if_true]; exact hg
  · simp only [hr, if_false]; exact h.gp r

theorem setVecTo (h : SimG gR vR R it gp vec stores s) (d : Nat) {x : V} {s' : State} {reg' : Nat → Nat}
    (hs' : s' = { s with vec := fun r k => if r = d then reg' k else s.vec r k }) (hx : vR x reg') :
    SimG gR vR R it gp (fun k => if k = d then x else vec k) stores s' := by
  subst hs'
  refine ⟨h.gp, fun v => ?_, h.mem, h.stores_ok⟩
  show vR (if v = d then x else vec v) (fun k => if v = d then reg' k else s.vec v k)
  by_cases hv : v = d
  · simp only [hv, if_true]; exact hx
  · simp only [hv, if_false]; exact h.vec v

/-- VEX/EVEX write -/
theorem setVec (h : SimG gR vR R it gp vec stores s) (d : VReg) (f : Nat → Nat) {x : V}
    (hx : vR x (fun k => if k < d.w.bytes then f k else 0)) :
    SimG gR vR R it gp (fun k => if k = d.idx then x else vec k) stores (Asm.setVec s d f) :=
  h.setVecTo d.idx rfl hx

/-- legacy-SSE write: 16 bytes, the rest of the register is kept -/
theorem setXmm (h : SimG gR vR R it gp vec stores s) (x : Nat) (f : Nat → Nat) {y : V}
    (hy : vR y (fun k => if k < 16 then f k else s.vec x k)) :
    SimG gR vR R it gp (fun k => if k = x then y else vec k) stores (Asm.setXmm s x f) := by
  refine h.setVecTo x ?_ hy
  show Asm.setXmm s x f = _
  unfold Asm.setXmm
  congr 1
  funext r k
  by_cases hr : r = x
  · subst hr; simp only [if_true]
  · simp only [hr, if_false]

theorem movqX (h : SimG gR vR R it gp vec stores s) (x k : Nat) {y : V}
    (hy : ∀ reg : Nat → Nat, reg 0 = k → vR y reg) (hk : k < 256) :
    SimG gR vR R it gp (fun v => if v = x then y else vec v) stores (Asm.movqX s x k) := by
  refine h.setVecTo x (reg' := fun k' =>
    if k' < 8 then (k >>> (8 * k')) &&& 255 else (if k' < 16 then 0 else s.vec x k')) ?_ (hy _ ?_)
  · unfold Asm.movqX
    congr 1
    funext r k'
    by_cases hr : r = x
    · subst hr; simp only [if_true]
    · simp only [hr, if_false]
  · show (k >>> (8 * 0)) &&& 255 = k
    rw [and255_eq_mod, Nat.mul_zero, Nat.shiftRight_zero, Nat.mod_eq_of_lt hk]

theorem setFlags (h : SimG gR vR R it gp vec stores s) (z cf : Option Bool) :
    SimG gR vR R it gp vec stores (Asm.setFlags s z cf) :=
  ⟨h.gp, h.vec, h.mem, h.stores_ok⟩

theorem addqImm (h : SimG gR vR R it gp vec stores s) (env : Env) {d : Reg} {imm n : Nat} {b : Option Region}
    {g : G} (hd : s.gp d = linV b n) (hg : gR g (linV b ((n + imm) % M64))) :
    StepTo env (.addqImm imm d) s (SimG gR vR R it (fun k => if k = d then g else gp k) vec stores) := by
  obtain ⟨z, f, hst⟩ := stepInstr_addqImm (env := env) (imm := imm) hd
  exact ⟨_, hst, (h.setGp d hg).setFlags z f⟩

theorem addqReg (h : SimG gR vR R it gp vec stores s) (env : Env) {src d : Reg} {a n : Nat} {b : Option Region}
    {g : G} (hd : (s.gp src = .num a ∧ s.gp d = linV b n) ∨ (s.gp src = linV b n ∧ s.gp d = .num a))
    (hg : gR g (linV b ((n + a) % M64))) :
    StepTo env (.addqReg src d) s (SimG gR vR R it (fun k => if k = d then g else gp k) vec stores) := by
  obtain ⟨z, f, hst⟩ := stepInstr_addqReg (env := env) hd
  exact ⟨_, hst, (h.setGp d hg).setFlags z f⟩

theorem withPc (h : SimG gR vR R it gp vec stores s) (p : Nat) : SimG gR vR R it gp vec stores (s.setPc p) :=
  ⟨h.gp, h.vec, h.mem, h.stores_ok⟩

theorem store (h : SimG gR vR R it gp vec stores s) {k o v : Nat}
    (hk : R.dom k ∧ R.wr k ∧ o + R.w ≤ R.B ∧ R.okOff o)
    (hinj : ∀ k', R.dom k' → R.reg k' = R.reg k → k' = k)
    (hval : ∀ q, q < R.w → s.vec v q = R.spec k (R.cur it + o + q)) :
    SimG gR vR R it gp vec ((k, o) :: stores) (storeVec s (R.reg k) (R.cur it + o) R.w v) :=
  ⟨h.gp, h.vec, h.mem.store hk.1 hinj hval, h.stores_ok.cons hk⟩

end SimG

theorem all_range {n : Nat} {f : Nat → Bool} (h : (List.range n).all f = true) (k : Nat) (hk : k < n) :
    f k = true := List.all_eq_true.mp h k (List.mem_range.mpr hk)

/-- the loop-head checks of both checkers: registers `r < n` of the head state `H` are related to
the current symbolic state by a decidable test `rel`, the others are unknown -/
theorem head_of_all {α β : Type} {P P' : α → β → Prop} {unk : α} {n : Nat} {cur H : Nat → α} {val : Nat → β}
    (rel : α → α → Bool) (hall : (List.range n).all (fun r => rel (cur r) (H r)) = true)
    (hrel : ∀ g h v, rel g h = true → P g v → P' h v)
    (hH : ∀ r, n ≤ r → H r = unk) (hunk : ∀ v, P' unk v) (h : ∀ r, P (cur r) (val r)) :
    ∀ r, P' (H r) (val r) := by
  intro r
  by_cases hr : r < n
  · exact hrel _ _ _ (all_range hall r hr) (h r)
  · rw [hH r (Nat.le_of_not_lt hr)]; exact hunk _

/-- `k` steps outside the loop and `cnt` trips of `b` steps fit into `cnt + 1` passes over the program -/
theorem steps_bound {L cnt b k : Nat} (hb : b ≤ L) (hk : k ≤ L) : k + cnt * b ≤ L * (cnt + 1) := by
  have := Nat.mul_le_mul_left cnt hb
  rw [Nat.mul_succ, Nat.mul_comm L cnt]
  omega

end RSV.Asm
