import RSV.Proofs.BinFieldRing
import Mathlib.Dynamics.PeriodicPts.Defs
import Mathlib.Data.Nat.Prime.Basic
import Mathlib.Data.Fintype.EquivFin
/-!
# `x` is a primitive element of GF(2)[x]/(poly): the discrete logarithm

`Primitive k poly`: `x^(2^k-1) = 1` and the powers `x^0 … x^(2^k-2)` are pairwise distinct.  It is established
from `x^(2^k-1) = 1` and `x^((2^k-1)/q) ≠ 1` for the prime divisors `q` of `2^k-1` (`Primitive.of_factors`: a few
square-and-multiply evaluations).  The powers are then non-zero and (pigeonhole) exhaust the non-zero `k`-bit
values, which gives the discrete logarithm `dlog`.
-/
namespace RSV.BF
open Function

theorem prime_mem_of_dvd_prod {q : ℕ} (hq : q.Prime) :
    ∀ l : List ℕ, (∀ r ∈ l, r.Prime) → q ∣ l.prod → q ∈ l := by
  intro l
  induction l with
  | nil => intro _ h; exact absurd (Nat.dvd_one.mp (by simpa using h)) hq.ne_one
  | cons r l ih =>
    intro hl h
    rw [List.prod_cons] at h
    rcases (Nat.Prime.dvd_mul hq).mp h with h | h
    · rw [(Nat.prime_dvd_prime_iff_eq hq (hl r List.mem_cons_self)).mp h]; exact List.mem_cons_self
    · exact List.mem_cons_of_mem _ (ih (fun s hs => hl s (List.mem_cons_of_mem _ hs)) h)

theorem minimalPeriod_eq_prod {α : Type} (f : α → α) (x : α) (l : List ℕ) (hl : ∀ q ∈ l, q.Prime)
    (hper : IsPeriodicPt f l.prod x) (hne : ∀ q ∈ l, ¬ IsPeriodicPt f (l.prod / q) x) :
    minimalPeriod f x = l.prod := by
  by_contra hm
  obtain ⟨c, hc⟩ := hper.minimalPeriod_dvd
  have hc1 : c ≠ 1 := by rintro rfl; exact hm (by rw [hc, Nat.mul_one])
  obtain ⟨q, hq, e, he⟩ := Nat.exists_prime_and_dvd hc1
  have hql : q ∈ l := prime_mem_of_dvd_prod hq l hl ⟨minimalPeriod f x * e, by rw [hc, he, Nat.mul_left_comm]⟩
  refine hne q hql ((isPeriodicPt_minimalPeriod f x).trans_dvd ⟨e, ?_⟩)
  rw [hc, he, Nat.mul_left_comm]
  exact Nat.mul_div_cancel_left _ hq.pos

/-- `x` generates the multiplicative group of GF(2)[x]/(poly) -/
structure Primitive (k poly : Nat) : Prop extends Basis k poly where
  per : xpow k poly (2^k - 1) = 1
  inj : ∀ i j, i < 2^k - 1 → j < 2^k - 1 → xpow k poly i = xpow k poly j → i = j

/-- the discrete logarithm to base `x` (`2^k-1` where there is none: at `0` and above `2^k`) -/
noncomputable def dlog (k poly v : Nat) : Nat :=
  if h : ∃ n, n < 2^k - 1 ∧ xpow k poly n = v then Classical.choose h else 2^k - 1

variable {k poly : Nat}

theorem Primitive.of_factors (h : Basis k poly) (l : List ℕ) (hl : ∀ q ∈ l, q.Prime) (hN : l.prod = 2^k - 1)
    (hper : xpf k poly k (2^k - 1) = 1) (hne : ∀ q ∈ l, xpf k poly k ((2^k - 1) / q) ≠ 1) :
    Primitive k poly := by
  have hlt : ∀ n, n ≤ 2^k - 1 → n < 2^k := fun n hn => by have := Nat.two_pow_pos k; omega
  rw [h.xpf_eq k _ (hlt _ (Nat.le_refl _))] at hper
  have hmin : minimalPeriod (xtime k poly) 1 = 2^k - 1 := by
    rw [← hN]
    refine minimalPeriod_eq_prod _ _ l hl (by rw [hN]; exact hper) fun q hq hp => ?_
    rw [hN] at hp
    exact hne q hq ((h.xpf_eq k _ (hlt _ (Nat.div_le_self _ _))).trans hp)
  exact ⟨h, hper, fun i j hi hj hij =>
    (iterate_eq_iterate_iff_of_lt_minimalPeriod (by rw [hmin]; exact hi) (by rw [hmin]; exact hj)).mp hij⟩

namespace Primitive
variable (h : Primitive k poly)
include h

theorem xpow_mod (n : Nat) : xpow k poly (n % (2^k - 1)) = xpow k poly n :=
  IsPeriodicPt.iterate_mod_apply h.per n

theorem xpow_add_modulus (n : Nat) : xpow k poly (n + (2^k - 1)) = xpow k poly n := by
  rw [← h.xpow_mod (n + (2^k - 1)), Nat.add_mod_right, h.xpow_mod]

/-- `x 0 = 0`, so a vanishing power would make all later powers vanish, among them `x^(n·(2^k-1)) = 1` -/
theorem xpow_ne_zero (n : Nat) : xpow k poly n ≠ 0 := by
  intro h0
  have h1 : xpow k poly (n * (2^k - 1)) = 1 := by
    rw [← h.xpow_mod, Nat.mul_mod_left]; rfl
  have hk := Nat.one_lt_two_pow (Nat.ne_of_gt h.toBasis.pos)
  have hle : n ≤ n * (2^k - 1) := Nat.le_mul_of_pos_right n (by omega)
  rw [← Nat.sub_add_cancel hle, xpow, iterate_add_apply, ← xpow, h0,
    iterate_fixed (xtime_zero k poly)] at h1
  exact absurd h1 (by decide)

/-- pigeonhole: `n ↦ x^n - 1` is an injection of `Fin (2^k-1)` into itself -/
theorem xpow_surj {v : Nat} (h0 : v ≠ 0) (hv : v < 2^k) : ∃ n, n < 2^k - 1 ∧ xpow k poly n = v := by
  let f : Fin (2^k - 1) → Fin (2^k - 1) := fun n =>
    ⟨xpow k poly n.val - 1, by have := h.toBasis.xpow_lt n.val; have := h.xpow_ne_zero n.val; omega⟩
  have hf : Injective f := by
    intro a b hab
    have h1 : xpow k poly a.val - 1 = xpow k poly b.val - 1 := congrArg Fin.val hab
    have := h.xpow_ne_zero a.val; have := h.xpow_ne_zero b.val
    exact Fin.ext (h.inj _ _ a.isLt b.isLt (by omega))
  obtain ⟨n, hn⟩ := (Finite.injective_iff_surjective.mp hf) ⟨v - 1, by omega⟩
  refine ⟨n.val, n.isLt, ?_⟩
  have h1 : xpow k poly n.val - 1 = v - 1 := congrArg Fin.val hn
  have := h.xpow_ne_zero n.val
  omega

/-- `a · a^(2^k-2) = 1` for `a ≠ 0`: `a = x^n`, and `x^(n·(2^k-1)) = 1` -/
theorem pmul_ppow_inv {a : Nat} (h0 : a ≠ 0) (ha : a < 2^k) :
    pmul k poly a (ppow k poly a (2^k - 2)) = 1 := by
  obtain ⟨n, _, rfl⟩ := h.xpow_surj h0 ha
  have hk : 2^k - 1 = 2^k - 2 + 1 := by have := Nat.one_lt_two_pow (Nat.ne_of_gt h.toBasis.pos); omega
  rw [h.toBasis.ppow_xpow, ← h.toBasis.xpow_add, Nat.add_comm, ← Nat.mul_add_one, ← hk, ← h.xpow_mod, Nat.mul_mod_left]
  rfl

theorem dlog_lt {v : Nat} (h0 : v ≠ 0) (hv : v < 2^k) : dlog k poly v < 2^k - 1 := by
  unfold dlog; rw [dif_pos (h.xpow_surj h0 hv)]; exact (Classical.choose_spec (h.xpow_surj h0 hv)).1

theorem xpow_dlog {v : Nat} (h0 : v ≠ 0) (hv : v < 2^k) : xpow k poly (dlog k poly v) = v := by
  unfold dlog; rw [dif_pos (h.xpow_surj h0 hv)]; exact (Classical.choose_spec (h.xpow_surj h0 hv)).2

theorem dlog_xpow {n : Nat} (hn : n < 2^k - 1) : dlog k poly (xpow k poly n) = n :=
  h.inj _ _ (h.dlog_lt (h.xpow_ne_zero n) (h.toBasis.xpow_lt n)) hn
    (h.xpow_dlog (h.xpow_ne_zero n) (h.toBasis.xpow_lt n))

theorem dlog_zero : dlog k poly 0 = 2^k - 1 := by
  unfold dlog; rw [dif_neg]; rintro ⟨n, _, hn⟩; exact h.xpow_ne_zero n hn

theorem dlog_inj {u v : Nat} (hu0 : u ≠ 0) (hu : u < 2^k) (hv0 : v ≠ 0) (hv : v < 2^k)
    (he : dlog k poly u = dlog k poly v) : u = v := by
  rw [← h.xpow_dlog hu0 hu, ← h.xpow_dlog hv0 hv, he]

end Primitive
end RSV.BF
