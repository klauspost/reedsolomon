import RSV.Model.Asm
import RSV.Proofs.Basics
/-!
Facts about single instructions of the machine of `RSV.Model.Asm`, independent of any checker:
byte arithmetic of `PSHUFB`, `PSRLQ`, `GF2P8AFFINEQB`; what a register *describes* (`Desc`: its low
`w` bytes are a given function) and how the vector instructions act on descriptions; numbers and
pointers as one kind of value (`linV`) under `ADDQ`, and effective addresses.
-/
namespace RSV.Asm

def xorl : List Nat → Nat
  | [] => 0
  | x :: xs => x ^^^ xorl xs

theorem xorl_append (a b : List Nat) : xorl (a ++ b) = xorl a ^^^ xorl b := by
  induction a with
  | nil => simp [xorl]
  | cons x xs ih => simp [xorl, ih, Nat.xor_assoc]

theorem xorl_perm {a b : List Nat} (h : a.Perm b) : xorl a = xorl b := by
  induction h with
  | nil => rfl
  | cons x _ ih => simp [xorl, ih]
  | swap x y l => simp only [xorl]; rw [← Nat.xor_assoc, ← Nat.xor_assoc, Nat.xor_comm y x]
  | trans _ _ ih1 ih2 => exact ih1.trans ih2

theorem nib_facts : ∀ n, n < 16 → n &&& 128 = 0 ∧ n &&& 15 = n := by decide

theorem and15_eq_mod (x : Nat) : x &&& 15 = x % 16 := Nat.and_two_pow_sub_one_eq_mod x 4

theorem and255_eq_mod (x : Nat) : x &&& 255 = x % 256 := Nat.and_two_pow_sub_one_eq_mod x 8

theorem bytes_mod8 (w : VW) : w.bytes % 8 = 0 := by cases w <;> rfl

theorem bytes_mod16 (w : VW) : w.bytes % 16 = 0 := by cases w <;> rfl

def packN : Nat → (Nat → Nat) → Nat
  | 0, _ => 0
  | n + 1, f => f 0 + 256 * packN n (fun t => f (t + 1))

theorem packN_div (f : Nat → Nat) (hf : ∀ t, f t < 256) (j : Nat) :
    ∀ n g, (∀ t, g t = f t) → packN (n + j) g / 256 ^ j = packN n (fun t => f (t + j)) := by
  induction j generalizing f with
  | zero => intro n g hg; simp only [Nat.add_zero, Nat.pow_zero, Nat.div_one]; congr 1; funext t; exact hg t
  | succ j ih =>
    intro n g hg
    have h0 := hf 0
    show packN (n + j + 1) g / 256 ^ (j + 1) = _
    rw [packN, Nat.pow_succ, Nat.mul_comm (256 ^ j) 256, ← Nat.div_div_eq_div_mul, hg 0,
      Nat.add_mul_div_left _ _ (by decide : 0 < 256), Nat.div_eq_of_lt h0, Nat.zero_add,
      ih (fun t => f (t + 1)) (fun t => hf _) n _ (fun t => hg (t + 1))]
    rfl

theorem srlq4_byte (f : Nat → Nat) (hf : ∀ t, t < 8 → f t < 256) (j : Nat) (hj : j < 8) :
    (((pack8 f >>> 4) >>> (8 * j)) &&& 255) % 16 = f j / 16 := by
  -- only bytes 0..7 matter: replace `f` by a function that is a byte everywhere
  have hg : ∀ t, (fun t => if t < 8 then f t else 0) t < 256 := by
    intro t; dsimp only; split
    · exact hf t ‹_›
    · decide
  have hp : pack8 f = packN ((7 - j) + 1 + j) (fun t => if t < 8 then f t else 0) := by
    have : 7 - j + 1 + j = 8 := by omega
    rw [this]; simp [pack8, packN]
  rw [and255_eq_mod, Nat.shiftRight_eq_div_pow, Nat.shiftRight_eq_div_pow, Nat.div_div_eq_div_mul,
    Nat.mul_comm, ← Nat.div_div_eq_div_mul, Nat.pow_mul, hp,
    packN_div _ hg j _ _ (fun _ => rfl), packN]
  have hb := hf j hj
  simp only [Nat.zero_add, if_pos hj]
  omega

theorem affineB_congr (m m' : Nat → Nat) (x : Nat) (h : ∀ t, t < 8 → m t = m' t) :
    affineB m x = affineB m' x := by
  unfold affineB
  rw [h 0 (by decide), h 1 (by decide), h 2 (by decide), h 3 (by decide), h 4 (by decide),
    h 5 (by decide), h 6 (by decide), h 7 (by decide)]

theorem affineB_byteAt (W x : Nat) : affineB (fun t => byteAt W t) x = affineByte W x := rfl

theorem parity8_le (v : Nat) : parity8 v ≤ 1 := Nat.and_le_right

theorem affineB_lt (mb : Nat → Nat) (x : Nat) : affineB mb x < 256 := by
  have hb : ∀ (v k : Nat), k < 8 → parity8 v <<< k < 2 ^ 8 := by
    intro v k hk
    rw [Nat.shiftLeft_eq]
    calc parity8 v * 2 ^ k ≤ 1 * 2 ^ 7 :=
          Nat.mul_le_mul (parity8_le v) (Nat.pow_le_pow_right (by decide) (by omega))
      _ < 2 ^ 8 := by decide
  have h0 : parity8 (mb 7 &&& x) < 2 ^ 8 := Nat.lt_of_le_of_lt (parity8_le _) (by decide)
  exact Nat.or_lt_two_pow (Nat.or_lt_two_pow (Nat.or_lt_two_pow (Nat.or_lt_two_pow (Nat.or_lt_two_pow
    (Nat.or_lt_two_pow (Nat.or_lt_two_pow h0 (hb _ 1 (by decide))) (hb _ 2 (by decide))) (hb _ 3 (by decide)))
    (hb _ 4 (by decide))) (hb _ 5 (by decide))) (hb _ 6 (by decide))) (hb _ 7 (by decide))

def Desc (w : Nat) (f reg : Nat → Nat) : Prop := ∀ k, k < w → reg k = f k

/-- the low nibbles of the low `w` bytes of `reg` are the high nibbles of `f` (a `PSRLQ $4` before
the mask is applied) -/
def DescHi (w : Nat) (f reg : Nat → Nat) : Prop := ∀ k, k < w → reg k % 16 = f k / 16

theorem Desc.congr {w : Nat} {f r r' : Nat → Nat} (h : Desc w f r) (hr : ∀ k, k < w → r' k = r k) :
    Desc w f r' := fun k hk => (hr k hk).trans (h k hk)

theorem Desc.of_eq {w : Nat} {f g r : Nat → Nat} (h : Desc w f r) (hfg : ∀ k, k < w → f k = g k) :
    Desc w g r := fun k hk => (h k hk).trans (hfg k hk)

theorem DescHi.congr {w : Nat} {f r r' : Nat → Nat} (h : DescHi w f r) (hr : ∀ k, k < w → r' k = r k) :
    DescHi w f r' := fun k hk => by rw [hr k hk]; exact h k hk

/-- operands in the order of `vxor a b d = b ^^^ a` -/
theorem Desc.xor {w : Nat} {f g ra rb : Nat → Nat} (ha : Desc w f ra) (hb : Desc w g rb) :
    Desc w (fun k => g k ^^^ f k) (fun k => rb k ^^^ ra k) := fun k hk => by
  show rb k ^^^ ra k = g k ^^^ f k
  rw [ha k hk, hb k hk]

theorem Desc.and15 {w : Nat} {f rm rx : Nat → Nat} (hm : Desc w (fun _ => 15) rm) (hx : Desc w f rx) :
    Desc w (fun k => f k &&& 15) (fun k => rx k &&& rm k) := fun k hk => by
  show rx k &&& rm k = f k &&& 15
  rw [hm k hk, hx k hk]

theorem DescHi.and15 {w : Nat} {f rm rx : Nat → Nat} (hm : Desc w (fun _ => 15) rm) (hx : DescHi w f rx) :
    Desc w (fun k => f k >>> 4) (fun k => rx k &&& rm k) := fun k hk => by
  show rx k &&& rm k = f k >>> 4
  rw [hm k hk, and15_eq_mod, hx k hk, Nat.shiftRight_eq_div_pow]

theorem Desc.srlq4 {w : Nat} {f r : Nat → Nat} (hw : w % 8 = 0) (hb : ∀ k, f k < 256) (h : Desc w f r) :
    DescHi w f (srlqByte 4 r) := by
  intro k hk
  simp only [srlqByte]
  rw [srlq4_byte _ (fun t ht => by rw [h _ (by omega)]; exact hb _) (k % 8) (Nat.mod_lt _ (by decide))]
  have : 8 * (k / 8) + k % 8 = k := by omega
  rw [this, h k hk]

theorem shufByte_nib {rt ri : Nat → Nat} {k n : Nat} (hn : n < 16) (hi : ri k = n) :
    shufByte rt ri k = rt (16 * (k / 16) + n) := by
  obtain ⟨h1, h2⟩ := nib_facts n hn
  simp [shufByte, hi, h1, h2]

theorem Desc.shuf {w : Nat} {T n rt ri : Nat → Nat} (hn : ∀ k, k < w → n k < 16) (hw : w % 16 = 0)
    (ht : Desc w T rt) (hi : Desc w n ri) :
    Desc w (fun k => T (16 * (k / 16) + n k)) (shufByte rt ri) := by
  intro k hk
  have := hn k hk
  rw [shufByte_nib this (hi k hk), ht _ (by omega)]

/-- `GF2P8AFFINEQB` with a matrix register that repeats the 8 bytes `M` in every 64-bit lane; the `^^^ 0` is
the instruction's immediate (`stepInstr` xors `imm` onto every byte), which both checkers require to be 0 -/
theorem Desc.affine {w : Nat} {M f rm rx : Nat → Nat} (hw : w % 8 = 0)
    (hm : Desc w (fun k => M (k % 8)) rm) (hx : Desc w f rx) :
    Desc w (fun k => affineB M (f k)) (fun k => affineB (fun t => rm (8 * (k / 8) + t)) (rx k) ^^^ 0) := by
  intro k hk
  simp only [Nat.xor_zero, hx k hk]
  apply affineB_congr
  intro t ht
  rw [hm _ (by omega)]
  show M ((8 * (k / 8) + t) % 8) = M t
  congr 1
  omega

/-- a VEX/EVEX write zeroes the bytes above the operand -/
theorem Desc.vex {w n : Nat} {f g : Nat → Nat} (hw : w ≤ n) (h : Desc w f g) :
    Desc w f (fun k => if k < n then g k else 0) :=
  h.congr fun _ hk => if_pos (Nat.lt_of_lt_of_le hk hw)

theorem DescHi.vex {w n : Nat} {f g : Nat → Nat} (hw : w ≤ n) (h : DescHi w f g) :
    DescHi w f (fun k => if k < n then g k else 0) :=
  h.congr fun _ hk => if_pos (Nat.lt_of_lt_of_le hk hw)

def linV : Option Region → Nat → Val
  | none, n => .num n
  | some r, n => .ptr r n

theorem stepInstr_addqImm {env : Env} {s : State} {d : Reg} {imm : Nat} {b : Option Region} {n : Nat}
    (h : s.gp d = linV b n) :
    ∃ z c, stepInstr env (.addqImm imm d) s = some (setFlags (setGp s d (linV b ((n + imm) % M64))) z c) := by
  cases b <;> simp only [linV] at h <;> exact ⟨_, _, by simp only [stepInstr, h]; rfl⟩

theorem stepInstr_addqReg {env : Env} {s : State} {src d : Reg} {b : Option Region} {a n : Nat}
    (h : (s.gp src = .num a ∧ s.gp d = linV b n) ∨ (s.gp src = linV b n ∧ s.gp d = .num a)) :
    ∃ z c, stepInstr env (.addqReg src d) s = some (setFlags (setGp s d (linV b ((n + a) % M64))) z c) := by
  rcases h with ⟨h1, h2⟩ | ⟨h1, h2⟩ <;> cases b <;> simp only [linV] at h1 h2 ⊢
  · exact ⟨_, _, by simp only [stepInstr, h1, h2]; rfl⟩
  · exact ⟨_, _, by simp only [stepInstr, h1, h2]; rfl⟩
  · exact ⟨_, _, by simp only [stepInstr, h1, h2, Nat.add_comm a n]; rfl⟩
  · exact ⟨_, _, by simp only [stepInstr, h1, h2]; rfl⟩

/-- `DECQ r` (`d = 0`, `e = 1`) or `SUBQ $d, r` (`e = d`) on a counter `v + e < 2^64`: the counter becomes `v`,
`ZF` says whether `v = 0`, and `SUBQ` clears `CF` -/
theorem stepInstr_dec {env : Env} {s : State} {r : Reg} {d e v : Nat} (he : e = if d = 0 then 1 else d)
    (hg : s.gp r = .num (v + e)) (hlt : v + e < M64) :
    ∃ cf, stepInstr env (if d = 0 then .decq r else .subqImm d r) s =
        some (setFlags (setGp s r (.num v)) (some (v == 0)) cf) ∧ (d ≠ 0 → cf = some false) := by
  have hdec : (v + e + M64 - e) % M64 = v := by
    rw [show v + e + M64 - e = v + M64 by omega, Nat.add_mod_right, Nat.mod_eq_of_lt (by omega)]
  by_cases hd : d = 0
  · rw [if_pos hd] at he ⊢
    subst he
    exact ⟨s.cf, by simp only [stepInstr, hg, hdec], fun h => absurd hd h⟩
  · rw [if_neg hd] at he ⊢
    subst he
    have hcf : decide (v + e < e) = false := decide_eq_false (by omega)
    exact ⟨_, by simp only [stepInstr, hg, if_pos (show e < M64 by omega), hdec, hcf], fun _ => rfl⟩

theorem addr_bd {s : State} {base disp : Nat} {r : Region} {n : Nat} (h : s.gp base = .ptr r n) :
    addr s (.bd disp base) = some (r, (n + disp) % M64) := by simp only [addr, h]

theorem addr_bi {s : State} {base idx : Nat} {r : Region} {n k : Nat} (h : s.gp base = .ptr r n)
    (h' : s.gp idx = .num k) : addr s (.bi base idx) = some (r, (n + k) % M64) := by simp only [addr, h, h']

theorem dataAddr_of_addr {env : Env} {s : State} {m : Mem} {w : Nat} {r : Region} {off : Nat}
    (ha : addr s m = some (r, off)) (hd : env.isData r = true) (hs : off + w ≤ env.size r) :
    dataAddr env s m w = some (r, off) := by
  simp only [dataAddr, ha, hd, Bool.true_and, decide_eq_true hs, if_true]

/-- `(a·X + t·(B·it) + k) mod 2^64`, the payload of an affine register value in iteration `it`: `a` times the
argument `X` (`start` for the matrix kernels, the row stride `24·dist` for the others), `t` times the advance
`B·it` of the block, and a constant -/
def linVal (X B it a t k : Nat) : Nat := (a * X + t * (B * it) + k) % M64

theorem linVal_add (X B it a t k d : Nat) : (linVal X B it a t k + d) % M64 = linVal X B it a t (k + d) := by
  unfold linVal
  rw [Nat.mod_add_mod]
  congr 1
  omega

theorem linVal_add_lin (X B it a t k a' t' k' : Nat) :
    (linVal X B it a t k + linVal X B it a' t' k') % M64 = linVal X B it (a + a') (t + t') (k + k') := by
  unfold linVal
  rw [← Nat.add_mod, Nat.add_mul, Nat.add_mul]
  congr 1
  omega

theorem linVal_small (X B it a t k : Nat) (h : a * X + t * (B * it) + k < M64) :
    linVal X B it a t k = a * X + t * (B * it) + k := Nat.mod_eq_of_lt h

theorem linVal_imm (X B it k : Nat) : linVal X B it 0 0 k = k % M64 := by
  unfold linVal
  rw [Nat.zero_mul, Nat.zero_mul, Nat.zero_add]

theorem linVal_const (X B it k : Nat) (h : k < M64) : linVal X B it 0 0 k = k :=
  (linVal_imm X B it k).trans (Nat.mod_eq_of_lt h)

/-- before the first iteration the block has not advanced, whatever its coefficient -/
theorem linVal_zero (X B a t t' k : Nat) : linVal X B 0 a t k = linVal X B 0 a t' k := by
  unfold linVal
  rw [Nat.mul_zero, Nat.mul_zero, Nat.mul_zero]

theorem linVal_shift (X B it a t k : Nat) : linVal X B it a t (k + t * B) = linVal X B (it + 1) a t k := by
  unfold linVal
  rw [Nat.mul_add B, Nat.mul_one, Nat.mul_add t]
  congr 1
  omega

end RSV.Asm
