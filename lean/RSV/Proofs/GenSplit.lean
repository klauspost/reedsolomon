import RSV.Gen.ApiGo
import RSV.Model.SplitJoin
/-!
# The size computation of `Split`, as regenerated from the Go code (`RSV.Gen.ApiGo`), is the model's `perShard`

`reedSolomon_Split_sizes`, `leopardFF8_Split_sizes`, `leopardFF16_Split_sizes` are the translator's prefix mode on
the three `Split` methods: the statements up to the definition of `perShard` / `needTotal`, over the LENGTH of
`data` and the receiver fields `dataShards`, `totalShards` that the code reads; the result is `some none` when the
function returned before (empty input, the single-shard case) and `some (some (perShard, needTotal))` otherwise.
Core Lean only.
-/
namespace RSV.GenSplit
open RSV.Gen RSV.Model.SJ

theorem shI64_id {x : Int} (h1 : -9223372036854775808 ≤ x) (h2 : x < 9223372036854775808) : shI64 x = x := by
  unfold shI64; omega

theorem shIand64_63 (n : Nat) (h : n < 2 ^ 63) : shIand64 (Int.ofNat n) 63 = Int.ofNat (n % 64) := by
  unfold shIand64
  have e1 : Int.toNat (Int.ofNat n % 18446744073709551616) = n := by
    rw [Int.ofNat_eq_natCast]; omega
  have e2 : Int.toNat ((63 : Int) % 18446744073709551616) = 63 := by decide
  have e3 : n &&& 63 = n % 64 := Nat.and_two_pow_sub_one_eq_mod n 6
  rw [e1, e2, e3]
  have : n % 64 < 64 := Nat.mod_lt _ (by decide)
  rw [shI64_id (by simp only [Int.ofNat_eq_natCast]; omega) (by simp only [Int.ofNat_eq_natCast]; omega)]

/-- the model's `perShard` for the matrix codec (`q = 1`) -/
theorem perShard_one (d len : Nat) : perShard 1 d len = (len + d - 1) / d := by
  unfold perShard; simp

/-- the first assignment: `(len(data) + r.dataShards - 1) / r.dataShards` -/
theorem ceilDiv_eq (d len : Nat) (hd : 0 < d) (h63 : len + d < 2 ^ 63) :
    shI64 (Int.tdiv (shI64 (shI64 (Int.ofNat len + (d : Int)) - 1)) (d : Int)) = (((len + d - 1) / d : Nat) : Int) := by
  have e1 : shI64 (Int.ofNat len + (d : Int)) = ((len + d : Nat) : Int) := by
    rw [shI64_id (by simp only [Int.ofNat_eq_natCast]; omega) (by simp only [Int.ofNat_eq_natCast]; omega)]
    simp only [Int.ofNat_eq_natCast]; omega
  have e2 : shI64 (((len + d : Nat) : Int) - 1) = ((len + d - 1 : Nat) : Int) := by
    rw [shI64_id (by omega) (by omega)]; omega
  rw [e1, e2, Int.natCast_tdiv_eq_ediv]
  have hle : (len + d - 1) / d ≤ len + d - 1 := Nat.div_le_self _ _
  have : (((len + d - 1 : Nat) : Int) / (d : Int)) = (((len + d - 1) / d : Nat) : Int) := by
    exact (Int.natCast_ediv _ _).symm
  rw [this]
  generalize (len + d - 1) / d = q at hle
  rw [shI64_id (by omega) (by omega)]

theorem shI64_mul_nat (a b : Nat) (h : a * b < 2 ^ 63) :
    shI64 ((a : Int) * (b : Int)) = ((a * b : Nat) : Int) := by
  rw [← Int.natCast_mul, shI64_id (by omega) (by omega)]

theorem reedSolomon_Split_sizes_eq (d total len : Nat) (hd : 0 < d) (h63 : len + d < 2 ^ 63)
    (hn : total * perShard 1 d len < 2 ^ 63) :
    reedSolomon_Split_sizes (d : Int) (total : Int) len =
      some (if len = 0 ∨ total = 1 then none
            else some (((perShard 1 d len : Nat) : Int), ((total * perShard 1 d len : Nat) : Int))) := by
  unfold reedSolomon_Split_sizes
  rw [perShard_one] at hn ⊢
  by_cases h0 : len = 0
  · subst h0; simp
  · have a0 : ¬ (Int.ofNat len = 0) := by simp only [Int.ofNat_eq_natCast]; omega
    by_cases h1 : total = 1
    · subst h1; simp
    · have a1 : ¬ ((total : Int) = 1) := by omega
      have a2 : ¬ ¬ ((d : Int) ≠ 0) := by omega
      have a3 : ¬ (len = 0 ∨ total = 1) := by omega
      simp only [a0, a1, a2, a3, if_false]
      rw [ceilDiv_eq d len hd h63, shI64_mul_nat _ _ hn]
      rfl

/-- the two assignments of the Leopard codecs: `ceil(len/d)` rounded up to a multiple of 64 -/
theorem perShard64_eq (d len : Nat) (hp : perShard 64 d len < 2 ^ 63) :
    shI64 (shI64 (Int.tdiv (shI64 ((((len + d - 1) / d : Nat) : Int) + 63)) 64) * 64) = ((perShard 64 d len : Nat) : Int) := by
  unfold perShard at hp ⊢
  generalize (len + d - 1) / d = x at hp ⊢
  have hx : x + 63 < 2 ^ 63 + 64 := by omega
  have hx' : x + 63 < 2 ^ 63 := by omega
  rw [shI64_id (x := (x : Int) + 63) (by omega) (by omega)]
  have e : Int.tdiv ((x : Int) + 63) 64 = (((x + 64 - 1) / 64 : Nat) : Int) := by
    have : ((x : Int) + 63) = ((x + 63 : Nat) : Int) := by omega
    rw [this, Int.natCast_tdiv_eq_ediv]; omega
  rw [e, shI64_id (x := (((x + 64 - 1) / 64 : Nat) : Int)) (by omega) (by omega), shI64_id (by omega) (by omega)]
  omega

theorem leopardFF8_Split_sizes_eq (d total len : Nat) (hd : 0 < d) (h63 : len + d < 2 ^ 63) (ht : 0 < total)
    (hn : total * perShard 64 d len < 2 ^ 63) :
    leopardFF8_Split_sizes (d : Int) (total : Int) len =
      some (if len = 0 ∨ (total = 1 ∧ len % 64 = 0) then none
            else some (((perShard 64 d len : Nat) : Int), ((total * perShard 64 d len : Nat) : Int))) := by
  unfold leopardFF8_Split_sizes
  have hp : perShard 64 d len < 2 ^ 63 :=
    Nat.lt_of_le_of_lt (Nat.le_mul_of_pos_left _ ht) hn
  by_cases h0 : len = 0
  · subst h0; simp
  · have a0 : ¬ (Int.ofNat len = 0) := by simp only [Int.ofNat_eq_natCast]; omega
    have a2 : ¬ ¬ ((d : Int) ≠ 0) := by omega
    rw [shIand64_63 len (by omega)]
    have a4 : (Int.ofNat (len % 64) = 0) ↔ len % 64 = 0 := by simp only [Int.ofNat_eq_natCast]; omega
    have a5 : ((total : Int) = 1) ↔ total = 1 := by omega
    by_cases h1 : total = 1 ∧ len % 64 = 0
    · have : (total : Int) = 1 ∧ Int.ofNat (len % 64) = 0 := ⟨a5.mpr h1.1, a4.mpr h1.2⟩
      simp [h1]
    · have a1 : ¬ ((total : Int) = 1 ∧ Int.ofNat (len % 64) = 0) := fun h => h1 ⟨a5.mp h.1, a4.mp h.2⟩
      have a3 : ¬ (len = 0 ∨ (total = 1 ∧ len % 64 = 0)) := by
        intro h; rcases h with h | h
        · exact h0 h
        · exact h1 h
      simp only [a0, a1, a2, a3, if_false]
      rw [ceilDiv_eq d len hd h63, perShard64_eq d len hp, shI64_mul_nat _ _ hn]
      rfl

/-- `leopardFF16.Split` is, statement for statement, `leopardFF8.Split` -/
theorem leopardFF16_Split_sizes_eq (d total len : Nat) (hd : 0 < d) (h63 : len + d < 2 ^ 63) (ht : 0 < total)
    (hn : total * perShard 64 d len < 2 ^ 63) :
    leopardFF16_Split_sizes (d : Int) (total : Int) len =
      some (if len = 0 ∨ (total = 1 ∧ len % 64 = 0) then none
            else some (((perShard 64 d len : Nat) : Int), ((total * perShard 64 d len : Nat) : Int))) :=
  leopardFF8_Split_sizes_eq d total len hd h63 ht hn

end RSV.GenSplit
