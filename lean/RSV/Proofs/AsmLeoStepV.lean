import RSV.Proofs.AsmLeoStep
/-!
Checker for the remaining amd64 kernels: vector instructions (VEX/EVEX and legacy SSE), loads and
broadcasts.
-/
namespace RSV.Asm.Leo

variable {c : Ctx} {it : Nat} {σ σ' : SymState} {s : State} {loop : Bool}

theorem VRefines_congr {x : VSym} {r r' : Nat → Nat} (h : ∀ k, k < x.width → r' k = r k)
    (hx : VRefines c it x r) : VRefines c it x r' := by
  cases x with
  | unk => trivial
  | byte0 b => exact (h 0 Nat.one_pos).trans hx
  | srl w x => exact DescHi.congr hx h
  | _ => exact Desc.congr hx h

theorem Sim.vex (h : Sim c it σ s) (d : VReg) {f : Nat → Nat} {x : VSym} (hw : x.width ≤ d.w.bytes)
    (hx : VRefines c it x f) : Sim c it (σ.setVec d.idx x) (setVec s d f) :=
  h.setVec d f (VRefines_congr (fun _ hk => if_pos (Nat.lt_of_lt_of_le hk hw)) hx)

theorem Sim.sse (h : Sim c it σ s) (d : Nat) {f : Nat → Nat} {x : VSym} (hw : x.width ≤ 16)
    (hx : VRefines c it x f) : Sim c it (σ.setVec d x) (setXmm s d f) :=
  h.setXmm d f (VRefines_congr (fun _ hk => if_pos (Nat.lt_of_lt_of_le hk hw)) hx)

theorem low16_sound {a v : VSym} {r : Nat → Nat} (h : low16 a = some v) (ha : VRefines c it a r) :
    VRefines c it v r ∧ v.width ≤ 16 := by
  cases a <;> simp only [low16] at h
  case unk => cases h
  case mat => cases h
  case byte0 b => cases h; exact ⟨ha, Nat.le_of_ble_eq_true rfl⟩
  all_goals
    split at h
    · rename_i hw; subst hw; cases h; exact ⟨ha, Nat.le_refl _⟩
    · cases h

theorem symAnd_sound {a b v : VSym} {ra rb : Nat → Nat} (h : symAnd a b = some v)
    (ha : VRefines c it a ra) (hb : VRefines c it b rb) : VRefines c it v (fun k => rb k &&& ra k) := by
  unfold symAnd at h
  split at h
  · split at h
    · rename_i hw; subst hw; cases h
      exact Desc.and15 ha hb
    · cases h
  · split at h
    · rename_i hw; subst hw; cases h
      exact (Desc.and15 hb ha).congr fun _ _ => Nat.and_comm _ _
    · cases h
  · split at h
    · rename_i hw; subst hw; cases h
      exact DescHi.and15 ha hb
    · cases h
  · split at h
    · rename_i hw; subst hw; cases h
      exact (DescHi.and15 hb ha).congr fun _ _ => Nat.and_comm _ _
    · cases h
  · cases h

theorem symShuf_sound (hc : Contract c) {tab idx v : VSym} {rt ri : Nat → Nat} (h : symShuf tab idx = some v)
    (ht : VRefines c it tab rt) (hi : VRefines c it idx ri) (hw : v.width % 16 = 0) :
    VRefines c it v (shufByte rt ri) := by
  -- entry `16·(k/16) + n` of a table that repeats every 16 bytes is entry `n`
  have hlane : ∀ (t off k n : Nat), n < 16 →
      c.m0 (.tab t) (off + (16 * (k / 16) + n) % 16) = c.m0 (.tab t) (off + n) := fun t off k n hn => by
    rw [Nat.mul_add_mod, Nat.mod_eq_of_lt hn]
  unfold symShuf at h
  split at h
  · rename_i w t off w' x
    split at h
    · rename_i hww; subst hww; cases h
      exact (Desc.shuf (fun _ _ => and15_lt _) hw ht hi).of_eq fun k _ => hlane t off k _ (and15_lt _)
    · cases h
  · rename_i w t off w' x
    split at h
    · rename_i hww; subst hww; cases h
      exact (Desc.shuf (fun _ _ => shr4_lt (evalE_lt hc _ _ x)) hw ht hi).of_eq
        fun k _ => hlane t off k _ (shr4_lt (evalE_lt hc _ _ x))
    · cases h
  · -- `PSHUFB` of the constant 15 in byte 0 by a zero register: the 16-byte nibble mask
    rename_i b w
    split at h
    · rename_i hcond
      obtain ⟨rfl, rfl⟩ := hcond
      cases h
      intro k hk
      have h0 : ri k = 0 := hi k hk
      have hk0 : k / 16 = 0 := Nat.div_eq_of_lt hk
      rw [shufByte_nib (n := 0) (by decide) h0, hk0]
      exact ht
    · cases h
  · cases h

theorem Sim.mem_fresh (h : Sim c it σ s) {k o q : Nat} (hk : k < c.kd.rows) (hfresh : (k, o) ∉ σ.stores)
    (hmod : o % c.kd.w = 0) (hq : q < c.kd.w) :
    s.mem (c.rowReg k) (c.rows.cur it + o + q) = c.m0 (c.rowReg k) (c.rows.cur it + o + q) := by
  refine h.mem_old (k := k) hk (by omega) ?_
  intro o' ho' h1 h2
  -- two aligned chunks that share a byte are the same chunk
  obtain ⟨_, _, _, hmod'⟩ := h.stores_ok k o' ho'
  have hmod' : o' % c.kd.w = 0 := hmod'
  have h2 : c.rows.cur it + o + q < c.rows.cur it + o' + c.kd.w := h2
  have : o' = o := by
    have e1 := Nat.div_add_mod o c.kd.w
    have e2 := Nat.div_add_mod o' c.kd.w
    rw [hmod] at e1
    rw [hmod'] at e2
    rcases Nat.lt_trichotomy (o' / c.kd.w) (o / c.kd.w) with hlt | heq | hgt
    · have := Nat.mul_le_mul_left c.kd.w (Nat.succ_le_of_lt hlt)
      rw [Nat.mul_succ] at this
      omega
    · rw [heq] at e2; omega
    · have := Nat.mul_le_mul_left c.kd.w (Nat.succ_le_of_lt hgt)
      rw [Nat.mul_succ] at this
      omega
  subst this
  exact hfresh ho'

theorem step_vload (hc : Contract c) (h : Sim c it σ s) (hl : loop = true → it < c.cnt)
    {m : Mem} {d : VReg} (hs : symStep c.kd loop (.vload m d) σ = some σ') : StepOK c it (.vload m d) σ' s := by
  simp only [symStep] at hs
  split at hs
  · rename_i k o heq
    obtain ⟨ha, _, hk, hw, hmod⟩ := symData_row hc h hl heq
    split at hs
    · rename_i hfresh
      cases hs
      refine ⟨_, by simp only [stepInstr, ha]; rfl, h.vex d (x := .e _ _) (Nat.le_refl _) ?_⟩
      exact fun q hq => h.mem_fresh hk hfresh hmod (hw ▸ hq)
    · cases hs
  · cases hs

theorem aligned_off {base B it o : Nat} (hb : base % 16 = 0) (hB : B % 16 = 0) (ho : o % 16 = 0) :
    (base + (B * it + o)) % 16 = 0 := by
  have h1 : B = 16 * (B / 16) := by have := Nat.div_add_mod B 16; omega
  have h2 : B * it = 16 * (B / 16 * it) := by rw [← Nat.mul_assoc, ← h1]
  omega

theorem align_ok (hc : Contract c) {al : Bool} {k o : Nat} (hk : k < c.kd.rows) (hw : 16 = c.kd.w) (hmod : o % c.kd.w = 0)
    (hal : al = false ∨ (c.kd.aligned = true ∧ c.kd.B % 16 = 0)) :
    ¬ (al = true ∧ (c.env.base (c.rowReg k) + (c.rows.cur it + o)) % 16 ≠ 0) := by
  rintro ⟨ht, hne⟩
  rcases hal with hf | ⟨ha, hB⟩
  · rw [hf] at ht; cases ht
  · apply hne
    rw [← hw] at hmod
    rw [c.rows_cur]
    exact aligned_off (hc.aligned ha k hk) hB hmod

theorem step_sseLoad (hc : Contract c) (h : Sim c it σ s) (hl : loop = true → it < c.cnt)
    {al : Bool} {m : Mem} {x : Nat} (hs : symStep c.kd loop (.sseLoad al m x) σ = some σ') :
    StepOK c it (.sseLoad al m x) σ' s := by
  simp only [symStep] at hs
  split at hs
  · rename_i k o heq
    obtain ⟨ha, _, hk, hw, hmod⟩ := symData_row hc h hl heq
    split at hs
    · rename_i hcond
      obtain ⟨hal, hfresh⟩ := hcond
      cases hs
      refine ⟨_, by simp only [stepInstr, ha, if_neg (align_ok hc hk hw hmod hal)]; rfl,
        h.sse x (x := .e _ _) (Nat.le_refl _) ?_⟩
      exact fun q hq => h.mem_fresh hk hfresh hmod (hw ▸ hq)
    · cases hs
  · rename_i t o heq
    have ha := symData_tab hc h heq
    split at hs
    · rename_i hal
      subst hal
      cases hs
      refine ⟨_, by simp only [stepInstr, ha]; rfl, h.sse x (x := .tab _ _ _) (Nat.le_refl _) ?_⟩
      intro q hq
      show s.mem (.tab t) (o + q) = c.m0 (.tab t) (o + q % 16)
      have hq : q < 16 := hq
      rw [Nat.mod_eq_of_lt hq]
      exact h.mem_other (.tab t) (fun _ _ e => nomatch e) _
    · cases hs
  · cases hs

theorem step_vbcast16 (hc : Contract c) (h : Sim c it σ s)
    {m : Mem} {d : VReg} (hs : symStep c.kd loop (.vbcast16 m d) σ = some σ') : StepOK c it (.vbcast16 m d) σ' s := by
  simp only [symStep] at hs
  split at hs
  · rename_i t o heq
    have ha := symData_tab hc h heq
    cases hs
    refine ⟨_, by simp only [stepInstr, ha]; rfl, h.vex d (x := .tab _ _ _) (Nat.le_refl _) ?_⟩
    exact fun q _ => h.mem_other (.tab t) (fun _ _ e => nomatch e) _
  · cases hs

theorem step_vbcast8FP (hc : Contract c) (h : Sim c it σ s)
    {off : Nat} {d : VReg} (hs : symStep c.kd loop (.vbcast8FP off d) σ = some σ') :
    StepOK c it (.vbcast8FP off d) σ' s := by
  simp only [symStep] at hs
  split at hs
  · rename_i heq
    cases hs
    have hf := hc.frame_ok _ _ heq
    refine ⟨_, by simp only [stepInstr, hf, Ctx.argVal]; rfl, h.vex d (x := .mat _ _) (Nat.le_refl _) ?_⟩
    exact fun _ _ => rfl
  · cases hs

theorem step_vmovRR (h : Sim c it σ s) {src d : VReg}
    (hs : symStep c.kd loop (.vmovRR src d) σ = some σ') : StepOK c it (.vmovRR src d) σ' s := by
  simp only [symStep] at hs
  split at hs
  · rename_i hw
    cases hs
    exact ⟨_, rfl, h.vex d hw (h.vec src.idx)⟩
  · cases hs

theorem step_sseMov (h : Sim c it σ s) {src d : Nat}
    (hs : symStep c.kd loop (.sseMov src d) σ = some σ') : StepOK c it (.sseMov src d) σ' s := by
  simp only [symStep] at hs
  split at hs
  · rename_i v heq
    cases hs
    obtain ⟨hv, hw⟩ := low16_sound heq (h.vec src)
    exact ⟨_, rfl, h.sse d hw hv⟩
  · cases hs

theorem step_vxor (h : Sim c it σ s) {a b d : VReg}
    (hs : symStep c.kd loop (.vxor a b d) σ = some σ') : StepOK c it (.vxor a b d) σ' s := by
  simp only [symStep] at hs
  split at hs
  · rename_i w x w' y heq heq2
    split at hs
    · rename_i hcond
      obtain ⟨rfl, rfl⟩ := hcond
      cases hs
      exact ⟨_, rfl, h.vex d (x := .e _ _) (Nat.le_refl _) (Desc.xor (h.vecAt heq) (h.vecAt heq2))⟩
    · cases hs
  · cases hs

theorem step_ssePxor (h : Sim c it σ s) {src d : Nat}
    (hs : symStep c.kd loop (.ssePxor src d) σ = some σ') : StepOK c it (.ssePxor src d) σ' s := by
  simp only [symStep] at hs
  split at hs
  · rename_i hEq
    subst hEq
    cases hs
    exact ⟨_, rfl, h.sse src (x := .e 16 .zero) (Nat.le_refl _) fun _ _ => Nat.xor_self _⟩
  · split at hs
    · rename_i w x w' y heq heq2
      split at hs
      · rename_i hcond
        obtain ⟨rfl, rfl⟩ := hcond
        cases hs
        exact ⟨_, rfl, h.sse d (x := .e 16 _) (Nat.le_refl _) (Desc.xor (h.vecAt heq) (h.vecAt heq2))⟩
      · cases hs
    · cases hs

theorem step_vternlog (h : Sim c it σ s) {imm : Nat} {a b d : VReg}
    (hs : symStep c.kd loop (.vternlog imm a b d) σ = some σ') : StepOK c it (.vternlog imm a b d) σ' s := by
  simp only [symStep] at hs
  split at hs
  · rename_i w x w' y w'' z heq heq2 heq3
    split at hs
    · rename_i hcond
      obtain ⟨rfl, rfl, rfl, hw3⟩ := hcond
      cases hs
      refine ⟨_, by simp only [stepInstr, if_true]; rfl, h.vex d (x := .e _ _) (Nat.le_refl _) ?_⟩
      exact Desc.xor (h.vecAt heq) (Desc.xor (h.vecAt heq2) (hw3 ▸ h.vecAt heq3))
    · cases hs
  · cases hs

theorem step_vpand (h : Sim c it σ s) {a b d : VReg}
    (hs : symStep c.kd loop (.vpand a b d) σ = some σ') : StepOK c it (.vpand a b d) σ' s := by
  simp only [symStep] at hs
  split at hs
  · rename_i v heq
    split at hs
    · rename_i hw
      cases hs
      exact ⟨_, rfl, h.vex d (Nat.le_of_eq hw) (symAnd_sound heq (h.vec a.idx) (h.vec b.idx))⟩
    · cases hs
  · cases hs

theorem step_ssePand (h : Sim c it σ s) {src d : Nat}
    (hs : symStep c.kd loop (.ssePand src d) σ = some σ') : StepOK c it (.ssePand src d) σ' s := by
  simp only [symStep] at hs
  split at hs
  · rename_i v heq
    split at hs
    · rename_i hw
      cases hs
      exact ⟨_, rfl, h.sse d (Nat.le_of_eq hw) (symAnd_sound heq (h.vec src) (h.vec d))⟩
    · cases hs
  · cases hs

theorem step_vpshufb (hc : Contract c) (h : Sim c it σ s) {idx tab d : VReg}
    (hs : symStep c.kd loop (.vpshufb idx tab d) σ = some σ') : StepOK c it (.vpshufb idx tab d) σ' s := by
  simp only [symStep] at hs
  split at hs
  · rename_i v heq
    split at hs
    · rename_i hw
      cases hs
      exact ⟨_, rfl, h.vex d (Nat.le_of_eq hw)
        (symShuf_sound hc heq (h.vec tab.idx) (h.vec idx.idx) (hw ▸ bytes_mod16 _))⟩
    · cases hs
  · cases hs

theorem step_ssePshufb (hc : Contract c) (h : Sim c it σ s) {idx d : Nat}
    (hs : symStep c.kd loop (.ssePshufb idx d) σ = some σ') : StepOK c it (.ssePshufb idx d) σ' s := by
  simp only [symStep] at hs
  split at hs
  · rename_i v heq
    split at hs
    · rename_i hw
      cases hs
      exact ⟨_, rfl, h.sse d (Nat.le_of_eq hw) (symShuf_sound hc heq (h.vec d) (h.vec idx) (by rw [hw]))⟩
    · cases hs
  · cases hs

theorem step_vpsrlq (hc : Contract c) (h : Sim c it σ s) {imm : Nat} {src d : VReg}
    (hs : symStep c.kd loop (.vpsrlq imm src d) σ = some σ') : StepOK c it (.vpsrlq imm src d) σ' s := by
  simp only [symStep] at hs
  split at hs
  · rename_i w x heq
    split at hs
    · rename_i hcond
      obtain ⟨rfl, rfl⟩ := hcond
      cases hs
      exact ⟨_, rfl, h.vex d (x := .srl _ _) (Nat.le_refl _)
        (Desc.srlq4 (bytes_mod8 _) (fun _ => evalE_lt hc _ _ x) (h.vecAt heq))⟩
    · cases hs
  · cases hs

theorem step_ssePsrlq (hc : Contract c) (h : Sim c it σ s) {imm : Nat} {d : Nat}
    (hs : symStep c.kd loop (.ssePsrlq imm d) σ = some σ') : StepOK c it (.ssePsrlq imm d) σ' s := by
  simp only [symStep] at hs
  split at hs
  · rename_i w x heq
    split at hs
    · rename_i hcond
      obtain ⟨rfl, rfl⟩ := hcond
      cases hs
      exact ⟨_, rfl, h.sse d (x := .srl 16 _) (Nat.le_refl _)
        (Desc.srlq4 (by decide) (fun _ => evalE_lt hc _ _ x) (h.vecAt heq))⟩
    · cases hs
  · cases hs

theorem step_vpbroadcastb (h : Sim c it σ s) {src d : VReg}
    (hs : symStep c.kd loop (.vpbroadcastb src d) σ = some σ') : StepOK c it (.vpbroadcastb src d) σ' s := by
  simp only [symStep] at hs
  split at hs
  · rename_i b heq
    split at hs
    · rename_i hb
      subst hb
      cases hs
      have ha : s.vec src.idx 0 = 15 := h.vecAt heq
      exact ⟨_, rfl, h.vex d (x := .mask _) (Nat.le_refl _) fun _ _ => ha⟩
    · cases hs
  · cases hs

theorem step_vinserti128 (h : Sim c it σ s) {imm : Nat} {x y d : VReg}
    (hs : symStep c.kd loop (.vinserti128 imm x y d) σ = some σ') : StepOK c it (.vinserti128 imm x y d) σ' s := by
  simp only [symStep] at hs
  split at hs
  · rename_i w t off w' t' off' heq heq2
    split at hs
    · rename_i hcond
      obtain ⟨rfl, hdw, rfl, rfl, rfl, rfl⟩ := hcond
      cases hs
      have hx : Desc 16 _ (s.vec x.idx) := h.vecAt heq
      have hy : Desc 16 _ (s.vec y.idx) := h.vecAt heq2
      have hb : d.w.bytes = 32 := by rw [hdw]; rfl
      refine ⟨_, by simp only [stepInstr, hdw, and_self, if_true]; rfl,
        h.vex d (x := .tab 32 _ _) (Nat.le_of_eq hb.symm) ?_⟩
      intro k hk
      by_cases hk16 : k < 16
      · exact (if_pos hk16).trans (hy k hk16)
      · refine (if_neg hk16).trans ((hx (k - 16) (by change k < 32 at hk; omega)).trans ?_)
        show c.m0 (.tab t) (off + (k - 16) % 16) = c.m0 (.tab t) (off + k % 16)
        congr 2
        omega
    · cases hs
  · cases hs

theorem step_affine (h : Sim c it σ s) {imm : Nat} {mt src d : VReg}
    (hs : symStep c.kd loop (.affine imm mt src d) σ = some σ') : StepOK c it (.affine imm mt src d) σ' s := by
  simp only [symStep] at hs
  split at hs
  · rename_i w m w' x heq heq2
    split at hs
    · rename_i hcond
      obtain ⟨rfl, rfl, rfl⟩ := hcond
      cases hs
      exact ⟨_, rfl, h.vex d (x := .e _ (.aff m x)) (Nat.le_refl _)
        (Desc.affine (M := fun t => byteAt (c.immq m) t) (f := fun k => evalE c (c.rows.cur it) k x)
          (bytes_mod8 _) (h.vecAt heq) (h.vecAt heq2))⟩
    · cases hs
  · cases hs

end RSV.Asm.Leo
