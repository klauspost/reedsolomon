import RSV.Proofs.AsmLeoKindsSem
/-!
`specVal` of every kernel descriptor of the remaining amd64 kernels in byte-level terms (what the memory holds after the call, position by position).
-/
namespace RSV.Asm.Leo

/-- a GF(2^16) symbol of a row: the low byte in the first half of the 64-byte block, the high byte
32 bytes further -/
def sym16 (m0 : Region → Nat → Nat) (r : Region) (p : Nat) : Nat × Nat :=
  (m0 r (p / 64 * 64 + p % 32), m0 r (p / 64 * 64 + 32 + p % 32))

/-- the byte of a symbol that lives at position `p` -/
def half (p : Nat) (x : Nat × Nat) : Nat := if p % 64 < 32 then x.1 else x.2

variable {c : Ctx}

theorem evalE_old_at (hwf : c.kd.wf) (j p : Nat) :
    evalE c (p / c.kd.B * c.kd.B) (p % c.kd.w) (.old j (p % c.kd.B / c.kd.w * c.kd.w)) = c.m0 (c.rowReg j) p := by
  simp only [evalE]
  rw [pos_decomp hwf.1]

theorem specVal_xor (hwf : c.kd.wf) {isa : Isa} {num : Nat} (hkd : c.kd = kdXor isa num) (k p : Nat) :
    specVal c k p = c.m0 (c.rowReg 0) p ^^^ c.m0 (c.rowReg 1) p := by
  have e0 := evalE_old_at hwf 0 p
  have e1 := evalE_old_at hwf 1 p
  unfold specVal
  rw [hkd] at e0 e1 ⊢
  simp only [kdXor, evalE] at e0 e1 ⊢
  rw [e0, e1]

theorem specVal_galmul (hwf : c.kd.wf) {isa : Isa} {flag : Bool} {num : Nat} (hkd : c.kd = kdGalMul isa flag num)
    (k p : Nat) :
    specVal c k p = (if flag then c.m0 (c.rowReg 0) p else 0) ^^^
      (c.m0 (.tab 0) (c.m0 (c.rowReg 1) p &&& 15) ^^^ c.m0 (.tab 1) (c.m0 (c.rowReg 1) p >>> 4)) := by
  have e0 := evalE_old_at hwf 0 p
  have e1 := evalE_old_at hwf 1 p
  unfold specVal
  rw [hkd] at e0 e1 ⊢
  simp only [kdGalMul, evalE] at e0 e1 ⊢
  cases flag <;> simp [evalE, nib, e0, e1]

theorem specVal_dit28 (hwf : c.kd.wf) {flag : Bool} (hkd : c.kd = kdDit28 flag) (k p : Nat) :
    specVal c k p = sel2 k ((if flag then ifft2 else fft2) (algB8 c.m0) false 0
      (c.m0 (c.rowReg 0) p) (c.m0 (c.rowReg 1) p)) := by
  have e0 := evalE_old_at hwf 0 p
  have e1 := evalE_old_at hwf 1 p
  unfold specVal
  rw [hkd] at e0 e1 ⊢
  simp only [kdDit28] at e0 e1 ⊢
  rw [hom_bf2 (hom8 c _ _), e0, e1]

/-- the 4-point GF(2^8) butterfly kernels, for any byte-level algebra `B` the descriptor's expression
algebra maps to (nibble tables for AVX2, affine matrices for GFNI) -/
theorem specVal_dit48 (hwf : c.kd.wf) {isa : Isa} {flag : Bool} {num : Nat} (hkd : c.kd = kdDit48 isa flag num)
    {B : Alg Nat} (hh : ∀ b q, Hom (if isa = .gfni then algE8gfni else algE8) B (evalE c b q)) (k p : Nat) :
    specVal c k p = sel4 k ((if flag then ifft4 else fft4) B num
      (c.m0 (c.rowReg 0) p) (c.m0 (c.rowReg 1) p) (c.m0 (c.rowReg 2) p) (c.m0 (c.rowReg 3) p)) := by
  have e0 := evalE_old_at hwf 0 p
  have e1 := evalE_old_at hwf 1 p
  have e2 := evalE_old_at hwf 2 p
  have e3 := evalE_old_at hwf 3 p
  unfold specVal
  rw [hkd] at e0 e1 e2 e3 ⊢
  simp only [kdDit48] at e0 e1 e2 e3 ⊢
  rw [hom_bf4 (hh _ _), e0, e1, e2, e3]

theorem evalE_half16 (base q o : Nat) (x : E × E) :
    evalE c base q (half16 o x) = if o < 32 then (ev2 c base q x).1 else (ev2 c base q x).2 := by
  unfold half16 ev2; split <;> rfl

theorem ev2_pair16 (j p w : Nat) (hw : w = 16 ∨ w = 32) :
    ev2 c (p / 64 * 64) (p % w) (pair16 j (p % 64 / w * w)) = sym16 c.m0 (c.rowReg j) p := by
  simp only [ev2, pair16, sym16, evalE]
  rcases hw with rfl | rfl
  · have h1 : p / 64 * 64 + p % 64 / 16 * 16 % 32 + p % 16 = p / 64 * 64 + p % 32 := by omega
    have h2 : p / 64 * 64 + (p % 64 / 16 * 16 % 32 + 32) + p % 16 = p / 64 * 64 + 32 + p % 32 := by omega
    rw [h1, h2]
  · have h1 : p / 64 * 64 + p % 64 / 32 * 32 % 32 + p % 32 = p / 64 * 64 + p % 32 := by omega
    have h2 : p / 64 * 64 + (p % 64 / 32 * 32 % 32 + 32) + p % 32 = p / 64 * 64 + 32 + p % 32 := by omega
    rw [h1, h2]

theorem half_cond (p w : Nat) (hw : w = 16 ∨ w = 32) : (p % 64 / w * w < 32) = (p % 64 < 32) := by
  rcases hw with rfl | rfl <;> (apply propext; omega)

theorem isa_w16 {isa : Isa} (h : isa = .avx2 ∨ isa = .ssse3) : isa.w = 16 ∨ isa.w = 32 := by
  rcases h with rfl | rfl
  · exact Or.inr rfl
  · exact Or.inl rfl

theorem specVal_dit2 {isa : Isa} (hisa : isa = .avx2 ∨ isa = .ssse3) {flag : Bool} (hkd : c.kd = kdDit2 isa flag)
    (k p : Nat) :
    specVal c k p = half p (sel2 k ((if flag then ifft2 else fft2) (algB16 c.m0) false 0
      (sym16 c.m0 (c.rowReg 0) p) (sym16 c.m0 (c.rowReg 1) p))) := by
  have hw := isa_w16 hisa
  unfold specVal
  rw [hkd]
  simp only [kdDit2]
  rw [evalE_half16, hom_bf2 (hom16 c _ _), ev2_pair16 0 p _ hw, ev2_pair16 1 p _ hw]
  simp only [half_cond p _ hw]
  rfl

theorem specVal_dit4 {flag : Bool} {num : Nat} (hkd : c.kd = kdDit4 flag num) (k p : Nat) :
    specVal c k p = half p (sel4 k ((if flag then ifft4 else fft4) (algB16 c.m0) num
      (sym16 c.m0 (c.rowReg 0) p) (sym16 c.m0 (c.rowReg 1) p) (sym16 c.m0 (c.rowReg 2) p)
      (sym16 c.m0 (c.rowReg 3) p))) := by
  have hw : (32 : Nat) = 16 ∨ (32 : Nat) = 32 := Or.inr rfl
  unfold specVal
  rw [hkd]
  simp only [kdDit4]
  rw [evalE_half16, hom_bf4 (hom16 c _ _), ev2_pair16 0 p _ hw, ev2_pair16 1 p _ hw,
    ev2_pair16 2 p _ hw, ev2_pair16 3 p _ hw]
  simp only [half_cond p _ hw]
  rfl

theorem specVal_mul16 {isa : Isa} (hisa : isa = .avx2 ∨ isa = .ssse3) (hkd : c.kd = kdMul16 isa) (k p : Nat) :
    specVal c k p = half p ((algB16 c.m0).mul 0 (sym16 c.m0 (c.rowReg 1) p)) := by
  have hw := isa_w16 hisa
  unfold specVal
  rw [hkd]
  simp only [kdMul16]
  rw [evalE_half16]
  simp only [half_cond p _ hw]
  unfold half
  have hm : ∀ b q a, ev2 c b q (algE16.mul 0 a) = (algB16 c.m0).mul 0 (ev2 c b q a) :=
    fun b q a => (hom16 c b q).mul 0 a
  rw [hm, ev2_pair16 1 p _ hw]

end RSV.Asm.Leo
