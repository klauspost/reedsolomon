import RSV.Proofs.BinFieldOrder
import RSV.Proofs.Tables
import Mathlib.Tactic.NormNum.Prime
import Mathlib.Algebra.CharP.Two
/-!
# `GF256` is a field (Mathlib `Field`), of characteristic 2

The operations of the `Field` instance are definitionally the core instances of
`RSV/Model/GF256.lean` (`+ = - = xor`, `neg = id`, `* = gmul`, `a⁻¹ = ginvChain a` (= a^254)).

The ring axioms for `gmul` are those of `BF.Basis 8 poly8` (`RSV/Proofs/BinFieldRing.lean`: 8 basis
identities checked by evaluation).  The inverse law is not enumerated: `x` is primitive
(`prim8`), so every non-zero `a` is a power of `x`, and `x^255 = 1` gives `a · a^254 = 1`.
-/
namespace RSV

theorem gmul_xor_left (a a' b : Nat) : gmul (a ^^^ a') b = gmul a b ^^^ gmul a' b :=
  BF.pmul_xor_left 8 poly8 a a' b

theorem gmul_xor_right (a b b' : Nat) : gmul a (b ^^^ b') = gmul a b ^^^ gmul a b' :=
  BF.pmul_xor_right 8 poly8 a b b'

theorem gmul_zero_left (b : Nat) : gmul 0 b = 0 := BF.pmul_zero_left 8 poly8 b

theorem gmul_zero_right (a : Nat) : gmul a 0 = 0 := BF.pmul_zero_right 8 poly8 a

theorem basis8 : BF.Basis 8 poly8 where
  hk := by decide
  hp := by decide
  hp2 := by decide
  top := by decide +kernel

theorem gmul_comm {a b : Nat} (ha : a < 256) (hb : b < 256) : gmul a b = gmul b a :=
  BF.pmul_comm ha hb

theorem gmul_assoc {a b c : Nat} (ha : a < 256) (hb : b < 256) (hc : c < 256) :
    gmul (gmul a b) c = gmul a (gmul b c) :=
  basis8.pmul_assoc ha hb hc

theorem gmul_one_left {b : Nat} (hb : b < 256) : gmul 1 b = b := basis8.pmul_one_left hb

theorem gmul_one_right (a : Nat) : gmul a 1 = a := BF.pmul_one_right (by decide) a

/-- `x` has order `255 = 3 · 5 · 17` modulo 0x11D (four square-and-multiply evaluations) -/
theorem prim8 : BF.Primitive 8 poly8 :=
  BF.Primitive.of_factors basis8 [3, 5, 17]
    (by intro q hq
        simp only [List.mem_cons, List.not_mem_nil, or_false] at hq
        rcases hq with rfl | rfl | rfl <;> norm_num)
    (by decide) (by decide +kernel) (by decide +kernel)

theorem gpow_add {a : Nat} (ha : a < 256) (m n : Nat) : gmul (gpow a m) (gpow a n) = gpow a (m + n) :=
  (basis8.ppow_add ha m n).symm

/-- `ginvChain`'s `s1 … s7` are `a^2, a^4, …, a^128`, and `254 = 2 + 4 + … + 128` -/
theorem gpow_254_eq_chain {a : Nat} (ha : a < 256) : gpow a 254 = ginvChain a := by
  have h1 : gmul a a = gpow a 2 := by show _ = gmul (gmul 1 a) a; rw [gmul_one_left ha]
  simp only [ginvChain, h1, gpow_add ha]

/-- `a · a^254 = a^255 = 1`: `a` is a power of `x` and `x^255 = 1` -/
theorem GF256.gmul_gpow_254 : ∀ a, a < 256 → a ≠ 0 → gmul a (gpow a 254) = 1 :=
  fun _ ha h0 => prim8.pmul_ppow_inv h0 ha

theorem gmul_ginvChain : ∀ a, a < 256 → a ≠ 0 → gmul a (ginvChain a) = 1 := by
  intro a ha h0
  rw [← gpow_254_eq_chain ha]; exact GF256.gmul_gpow_254 a ha h0

namespace GF256

theorem add_self (a : GF256) : a + a = 0 := GF256.ext (Nat.xor_self _)

theorem sub_eq_add (a b : GF256) : a - b = a + b := rfl

theorem neg_eq (a : GF256) : -a = a := rfl

instance instCommRing : CommRing GF256 where
  add := (· + ·)
  add_assoc a b c := GF256.ext (Nat.xor_assoc _ _ _)
  zero := 0
  zero_add a := GF256.ext (Nat.zero_xor _)
  add_zero a := GF256.ext (Nat.xor_zero _)
  nsmul := nsmulRec
  neg := Neg.neg
  sub := (· - ·)
  sub_eq_add_neg _ _ := rfl
  zsmul := zsmulRec
  neg_add_cancel a := add_self a
  add_comm a b := GF256.ext (Nat.xor_comm _ _)
  mul := (· * ·)
  left_distrib a b c := GF256.ext (gmul_xor_right _ _ _)
  right_distrib a b c := GF256.ext (gmul_xor_left _ _ _)
  zero_mul a := GF256.ext (gmul_zero_left _)
  mul_zero a := GF256.ext (gmul_zero_right _)
  mul_assoc a b c := GF256.ext (gmul_assoc a.isLt b.isLt c.isLt)
  one := 1
  one_mul a := GF256.ext (gmul_one_left a.isLt)
  mul_one a := GF256.ext (gmul_one_right _)
  npow n a := GF256.pow a n
  npow_zero _ := rfl
  npow_succ _ _ := rfl
  mul_comm a b := GF256.ext (gmul_comm a.isLt b.isLt)

theorem pow_eq (a : GF256) (n : ℕ) : GF256.pow a n = a ^ n := rfl

theorem pow_val (a : GF256) (n : ℕ) : (a ^ n).val = gpow a.val n := by
  induction n with
  | zero => rfl
  | succ n ih => rw [pow_succ, mul_val, ih]; rfl

theorem inv_eq_pow (a : GF256) : a⁻¹ = a ^ 254 :=
  GF256.ext (by rw [inv_val, pow_val, gpow_254_eq_chain a.isLt])

instance instField : Field GF256 where
  __ := instCommRing
  inv := Inv.inv
  div := (· / ·)
  div_eq_mul_inv _ _ := rfl
  exists_pair_ne := ⟨0, 1, by decide⟩
  mul_inv_cancel a ha := GF256.ext (gmul_ginvChain a.val a.isLt fun h => ha (GF256.ext h))
  inv_zero := by decide
  nnqsmul := _
  nnqsmul_def := fun _ _ => rfl
  qsmul := _
  qsmul_def := fun _ _ => rfl

/-! the operations of the `Field` instance are the core ones, by `rfl` -/
example (a b : GF256) :
    (HAdd.hAdd (self := @instHAdd _ instField.toAdd) a b).val = a.val ^^^ b.val := rfl
example (a b : GF256) :
    (HSub.hSub (self := @instHSub _ instField.toSub) a b).val = a.val ^^^ b.val := rfl
example (a b : GF256) :
    (HMul.hMul (self := @instHMul _ instField.toMul) a b).val = gmul a.val b.val := rfl
example (a : GF256) : (@Inv.inv _ instField.toInv a).val = ginvChain a.val := rfl
example (a : GF256) : (@Neg.neg _ instField.toNeg a) = a := rfl
example : (@Zero.zero _ instField.toZero : GF256).val = 0 := rfl
example : (@One.one _ instField.toOne : GF256).val = 1 := rfl
example (a b : GF256) : (HDiv.hDiv (self := @instHDiv _ instField.toDiv) a b).val
    = gmul a.val (ginvChain b.val) := rfl

theorem inv_zero' : (0 : GF256)⁻¹ = 0 := by decide

instance instCharP : CharP GF256 2 :=
  CharTwo.of_one_ne_zero_of_two_eq_zero (by decide) (by
    show ((2 : ℕ) : GF256) = 0
    rw [Nat.cast_ofNat, ← one_add_one_eq_two]; exact add_self 1)

@[simp] theorem ofNat_val (n : Nat) : (ofNat n).val = n % 256 := rfl

theorem ofNat_injOn : ∀ a b, a < 256 → b < 256 → GF256.ofNat a = GF256.ofNat b → a = b := by
  intro a b ha hb h
  have h' : (ofNat a).val = (ofNat b).val := by rw [h]
  simpa [Nat.mod_eq_of_lt ha, Nat.mod_eq_of_lt hb] using h'

theorem ofNat_xor (a b : Nat) (ha : a < 256) (hb : b < 256) :
    GF256.ofNat (a ^^^ b) = GF256.ofNat a - GF256.ofNat b := by
  apply GF256.ext
  have hab : a ^^^ b < 256 := Nat.xor_lt_two_pow (n := 8) ha hb
  simp [Nat.mod_eq_of_lt ha, Nat.mod_eq_of_lt hb, Nat.mod_eq_of_lt hab]

theorem ofNat_val_self (a : GF256) : GF256.ofNat a.val = a :=
  GF256.ext (Nat.mod_eq_of_lt a.isLt)

theorem ofNat_val_lt {a : Nat} (ha : a < 256) : (ofNat a).val = a := Nat.mod_eq_of_lt ha

theorem val_ne_zero (x : GF256) : x ≠ 0 ↔ x.val ≠ 0 :=
  not_congr ⟨fun h => h ▸ rfl, fun h => GF256.ext h⟩

theorem ofNat_ne_zero {a : Nat} (ha : a < 256) (h0 : a ≠ 0) : ofNat a ≠ 0 :=
  (val_ne_zero _).2 (by rwa [ofNat_val_lt ha])

/-- the regenerated inverse table holds the field inverse -/
theorem invTable_field (a : GF256) (h0 : a ≠ 0) : GF256.ofNat (byteAt Gen.invTable a.val) = a⁻¹ := by
  have hv : a.val ≠ 0 := fun h => h0 (GF256.ext (by simpa using h))
  have : a * GF256.ofNat (byteAt Gen.invTable a.val) = 1 := by
    apply GF256.ext
    simp [Nat.mod_eq_of_lt (byteAt_lt _ _), Tables.invTable_ok.2 a.val a.isLt hv]
  exact eq_inv_of_mul_eq_one_right this

end GF256
end RSV

#print axioms RSV.GF256.instCommRing
#print axioms RSV.GF256.instField
#print axioms RSV.GF256.instCharP
#print axioms RSV.gmul_comm
#print axioms RSV.gmul_assoc
#print axioms RSV.GF256.gmul_gpow_254
#print axioms RSV.GF256.add_self
#print axioms RSV.GF256.sub_eq_add
#print axioms RSV.GF256.neg_eq
#print axioms RSV.GF256.ofNat_injOn
#print axioms RSV.GF256.ofNat_xor
#print axioms RSV.GF256.pow_eq
#print axioms RSV.GF256.inv_eq_pow
#print axioms RSV.GF256.pow_val
#print axioms RSV.GF256.inv_zero'
#print axioms RSV.GF256.ofNat_val_self
#print axioms RSV.gmul_ginvChain
