/-!
Bit-level facts about `Nat` that several areas use (core Lean only).
-/
namespace RSV.BF

theorem split_low (a n : Nat) : (a &&& (2 ^ n - 1)) ^^^ ((a >>> n) <<< n) = a := by
  apply Nat.eq_of_testBit_eq
  intro i
  rw [Nat.testBit_xor, Nat.testBit_and, Nat.testBit_two_pow_sub_one, Nat.testBit_shiftLeft,
    Nat.testBit_shiftRight]
  by_cases h : i < n
  · simp [h, Nat.not_le.mpr h]
  · have : n + (i - n) = i := by omega
    simp [h, Nat.le_of_not_lt h, this]

theorem xor_255 {x : Nat} (h : x < 256) : x ^^^ 255 = 255 - x := by
  apply Nat.eq_of_testBit_eq; intro i
  rw [show 255 - x = 2 ^ 8 - (x + 1) by omega, Nat.testBit_two_pow_sub_succ (by omega), Nat.testBit_xor,
    show (255 : Nat) = 2 ^ 8 - 1 from rfl, Nat.testBit_two_pow_sub_one]
  by_cases hi : i < 8
  · simp [hi]
  · have : x.testBit i = false :=
      Nat.testBit_lt_two_pow (Nat.lt_of_lt_of_le h (Nat.pow_le_pow_right (Nat.zero_lt_two) (by omega : 8 ≤ i)))
    simp [hi, this]

end RSV.BF

namespace RSV

theorem and15_lt (x : Nat) : x &&& 15 < 16 := Nat.and_lt_two_pow x (n := 4) (by decide)

theorem shr4_lt {x : Nat} (h : x < 256) : x >>> 4 < 16 := by
  rw [Nat.shiftRight_eq_div_pow]; omega

end RSV
