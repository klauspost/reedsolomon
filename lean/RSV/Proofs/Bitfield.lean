import RSV.Model.BitfieldImpl
import RSV.Model.Bitfield
/-!
`prepare` / `isNeeded` / `cacheID` of `RSV.Model.BitfieldImpl` refine `RSV.Model.Bitfield.needed` / `cacheKey`
(core Lean only).  Every word function of `prepare` is OR-linear, so it is determined by its values on the 64
single-bit words; those are evaluated (`chain_basis`, `full_basis`).  A word of any of the three tables of
`errorBitfield` is described by `Marks w S`: bit `b < 64` of `w` is set iff `S b`.
-/
namespace RSV.Proofs.Bitfield
open RSV.Model.BitfieldImpl
open RSV.Model.Bitfield (needed cacheKey keyBit)

structure OrLin (f : Nat → Nat) : Prop where
  zero : f 0 = 0
  or : ∀ a b, f (a ||| b) = f a ||| f b

theorem OrLin.testBit {f : Nat → Nat} (h : OrLin f) (w b : Nat) :
    ((f w).testBit b = true ↔ ∃ i, w.testBit i = true ∧ (f (2^i)).testBit b = true) := by
  suffices H : ∀ k w, w < 2^k → ((f w).testBit b = true ↔ ∃ i, w.testBit i = true ∧ (f (2^i)).testBit b = true) from
    H w w Nat.lt_two_pow_self
  intro k
  induction k with
  | zero =>
    intro w hw
    obtain rfl : w = 0 := by simpa using hw
    simp [h.zero]
  | succ k ih =>
    intro w hw
    -- `w` is its low `k` bits OR-ed with bit `k`
    have hsplit : w = 2^k * (w / 2^k % 2) ||| w % 2^k := by
      rw [← Nat.two_pow_add_eq_or_of_lt (Nat.mod_lt _ (Nat.two_pow_pos k)), Nat.add_comm, ← Nat.mod_pow_succ,
        Nat.mod_eq_of_lt hw]
    have hlo := ih (w % 2^k) (Nat.mod_lt _ (Nat.two_pow_pos k))
    rw [hsplit, h.or, Nat.testBit_or, Bool.or_eq_true, hlo]
    simp only [Nat.testBit_or, Bool.or_eq_true, or_and_right, exists_or]
    refine or_congr ?_ Iff.rfl
    rcases Nat.mod_two_eq_zero_or_one (w / 2^k) with hc | hc <;> rw [hc]
    · simp [h.zero]
    · simp [Nat.testBit_two_pow]

theorem OrLin.comp {f g : Nat → Nat} (hf : OrLin f) (hg : OrLin g) : OrLin (fun w => f (g w)) where
  zero := by simp [hg.zero, hf.zero]
  or a b := by simp [hg.or, hf.or]

theorem step_orLin (j : Nat) : OrLin (step j) where
  zero := by simp [step, shl64]
  or a b := by
    simp only [step, shl64, Nat.and_or_distrib_right, Nat.shiftRight_or_distrib, Nat.shiftLeft_or_distrib]
    ac_rfl

theorem fold32_orLin : OrLin fold32 where
  zero := by simp [fold32, shl64]
  or a b := by
    simp only [fold32, shl64, Nat.and_or_distrib_right, Nat.shiftRight_or_distrib, Nat.shiftLeft_or_distrib]
    ac_rfl

theorem fold32seq_orLin : OrLin fold32seq where
  zero := by simp [fold32seq, shl64]
  or a b := by
    simp only [fold32seq, shl64, Nat.and_or_distrib_right, Nat.shiftRight_or_distrib, Nat.shiftLeft_or_distrib]
    ac_rfl

/-- `chain j w`: the word after mip iterations `0 … j-1` -/
def chain : Nat → Nat → Nat
  | 0, w => w
  | j+1, w => step j (chain j w)

theorem chain_orLin : ∀ j, OrLin (chain j)
  | 0 => ⟨rfl, fun _ _ => rfl⟩
  | j+1 => (step_orLin j).comp (chain_orLin j)

/-- the aligned `2^j`-block of bit `i`, as a word -/
def blockMask (j i : Nat) : Nat := (2 ^ 2 ^ j - 1) <<< (i >>> j <<< j)

theorem testBit_blockMask (j i b : Nat) : (blockMask j i).testBit b = decide (i >>> j = b >>> j) := by
  unfold blockMask
  rw [Nat.testBit_shiftLeft, Nat.testBit_two_pow_sub_one, Bool.eq_iff_iff]
  simp only [Nat.shiftRight_eq_div_pow, Nat.shiftLeft_eq, Bool.and_eq_true, decide_eq_true_eq, ge_iff_le]
  have hD := Nat.two_pow_pos j
  generalize 2 ^ j = D at hD
  constructor
  · rintro ⟨h1, h2⟩
    exact (Nat.div_eq_of_lt_le h1 (by rw [Nat.succ_mul]; omega)).symm
  · intro h
    rw [h]
    have := Nat.div_mul_le_self b D
    have := Nat.lt_div_mul_add (a := b) hD
    omega

/-- mip iterations `0 … j-1` spread a bit over its aligned `2^j`-block (6 × 64 words, evaluated) -/
theorem chain_basis : ∀ j < 6, ∀ i < 64, chain j (2^i) = blockMask j i := by decide +kernel

theorem full_basis : ∀ i < 64, fold32 (chain 5 (2^i)) = M64 ∧ fold32seq (chain 5 (2^i)) = M64 := by
  decide +kernel

theorem testBit_M64 {b : Nat} (hb : b < 64) : M64.testBit b = true := by
  rw [show M64 = 2 ^ 64 - 1 from rfl, Nat.testBit_two_pow_sub_one]
  exact decide_eq_true hb

def Marks (w : Nat) (S : Nat → Prop) : Prop := ∀ b, w.testBit b = true ↔ b < 64 ∧ S b

theorem Marks.congr {w : Nat} {S S' : Nat → Prop} (h : Marks w S) (hS : ∀ b, b < 64 → (S b ↔ S' b)) :
    Marks w S' := fun b => (h b).trans (and_congr_right fun hb => hS b hb)

theorem Marks.testBit_chain {w : Nat} {S : Nat → Prop} (h : Marks w S) {j : Nat} (hj : j < 6) (b : Nat) :
    ((chain j w).testBit b = true ↔ ∃ c, c < 64 ∧ S c ∧ c >>> j = b >>> j) := by
  rw [(chain_orLin j).testBit]
  constructor
  · rintro ⟨i, hi, hbit⟩
    obtain ⟨hi64, hS⟩ := (h i).1 hi
    rw [chain_basis j hj i hi64, testBit_blockMask, decide_eq_true_eq] at hbit
    exact ⟨i, hi64, hS, hbit⟩
  · rintro ⟨i, hi64, hS, hs⟩
    refine ⟨i, (h i).2 ⟨hi64, hS⟩, ?_⟩
    rw [chain_basis j hj i hi64, testBit_blockMask, decide_eq_true_eq]
    exact hs

theorem Marks.all {f : Nat → Nat} (hf : OrLin f) (hfull : ∀ i < 64, f (2^i) = M64) {w : Nat} {S : Nat → Prop}
    (h : Marks w S) {b : Nat} (hb : b < 64) : ((f w).testBit b = true ↔ ∃ c, c < 64 ∧ S c) := by
  rw [hf.testBit]
  constructor
  · rintro ⟨i, hi, _⟩; exact ⟨i, (h i).1 hi⟩
  · rintro ⟨i, hi⟩; exact ⟨i, (h i).2 hi, by rw [hfull i hi.1]; exact testBit_M64 hb⟩

theorem Marks.testBit_fold32 {w : Nat} {S : Nat → Prop} (h : Marks w S) {b : Nat} (hb : b < 64) :
    ((fold32 (chain 5 w)).testBit b = true ↔ ∃ c, c < 64 ∧ S c) :=
  h.all (fold32_orLin.comp (chain_orLin 5)) (fun i hi => (full_basis i hi).1) hb

theorem Marks.testBit_fold32seq {w : Nat} {S : Nat → Prop} (h : Marks w S) {b : Nat} (hb : b < 64) :
    ((fold32seq (chain 5 w)).testBit b = true ↔ ∃ c, c < 64 ∧ S c) :=
  h.all (fold32seq_orLin.comp (chain_orLin 5)) (fun i hi => (full_basis i hi).2) hb

theorem div_eq_iff_split (a b x y : Nat) :
    x / a = y / a ↔ x / (a * b) = y / (a * b) ∧ x % (a * b) / a = y % (a * b) / a := by
  rw [← Nat.div_div_eq_div_mul, ← Nat.div_div_eq_div_mul, Nat.mod_mul_right_div_self,
    Nat.mod_mul_right_div_self]
  exact ⟨fun h => by rw [h]; exact ⟨rfl, rfl⟩,
    fun ⟨h1, h2⟩ => by rw [← Nat.div_add_mod (x / a) b, h1, h2, Nat.div_add_mod]⟩

theorem shr_lo {m : Nat} (hm : m < 6) (x y : Nat) :
    (x >>> m = y >>> m ↔ (x / 64 = y / 64 ∧ (x % 64) >>> m = (y % 64) >>> m)) := by
  have h64 : 64 = 2 ^ m * 2 ^ (6 - m) := by rw [← Nat.pow_add, Nat.add_sub_cancel' (Nat.le_of_lt hm)]
  simp only [Nat.shiftRight_eq_div_pow]
  rw [h64]
  exact div_eq_iff_split _ _ x y

/-- the three tables of `errorBitfield` at once: a word whose bit `c` marks the `2^u`-block number `64·I + c`,
after `j` mip iterations, answers the block question at level `u + j` for every position of the `64·2^u`-block `I` -/
theorem Marks.block_iff {E : List Nat} {w u I : Nat} (h : Marks w fun c => ∃ x ∈ E, x >>> u = 64 * I + c)
    {j : Nat} (hj : j < 6) {bit : Nat} (hI : bit >>> u / 64 = I) :
    ((chain j w).testBit (bit >>> u % 64) = true ↔ ∃ x ∈ E, x >>> (u + j) = bit >>> (u + j)) := by
  rw [h.testBit_chain hj]
  simp only [Nat.shiftRight_add]
  constructor
  · rintro ⟨c, hc, ⟨x, hx, hxc⟩, hs⟩
    refine ⟨x, hx, (shr_lo hj _ _).2 ⟨by omega, ?_⟩⟩
    rw [show x >>> u % 64 = c by omega]
    exact hs
  · rintro ⟨x, hx, hs⟩
    obtain ⟨h1, h2⟩ := (shr_lo hj _ _).1 hs
    exact ⟨x >>> u % 64, Nat.mod_lt _ (by decide), ⟨x, hx, by omega⟩, h2⟩

theorem needed_eq_true_iff {bits mip : Nat} (h0 : mip ≠ 0) (hb : ¬ mip ≥ bits) (E : List Nat) (bit : Nat) :
    (needed bits E mip bit = true ↔ ∃ x ∈ E, x >>> mip = bit >>> mip) := by
  unfold needed
  rw [if_neg hb, if_neg h0, List.any_eq_true]
  simp only [beq_iff_eq]

theorem rd_tab {n i : Nat} (f : Nat → Nat) (h : i < n) : rd (tab n f) i = f i := by
  simp [rd, tab, List.getElem?_range h]

def Shape (n : Nat) (a : Array (Array Nat)) : Prop := ∃ r, a[0]? = some r ∧ r.size = n

theorem shape_or2 {n : Nat} {a : Array (Array Nat)} (h : Shape n a) (i v : Nat) : Shape n (or2 a 0 i v) := by
  obtain ⟨r, hr, hn⟩ := h
  exact ⟨r.modify i fun w => w ||| v, by simp [or2, Array.getElem?_modify, hr], by simpa using hn⟩

theorem rd2_or2 {n : Nat} {a : Array (Array Nat)} (h : Shape n a) {i : Nat} (hi : i < n) (v i' : Nat) :
    rd2 (or2 a 0 i v) 0 i' = if i = i' then rd2 a 0 i' ||| v else rd2 a 0 i' := by
  obtain ⟨r, hr, hn⟩ := h
  simp only [rd2, rd, or2, Array.getD_eq_getD_getElem?, Array.getElem?_modify, hr, if_true,
    Option.map_some, Option.getD_some]
  split
  · next h => subst h; have : r[i]? = some r[i] := by simp [hn, hi]
              simp [this]
  · rfl

theorem rd2_replicate (m n i : Nat) (hm : 0 < m) : rd2 (Array.replicate m (Array.replicate n 0)) 0 i = 0 := by
  simp only [rd2, rd, Array.getD_eq_getD_getElem?, Array.getElem?_replicate, hm, if_true, Option.getD_some]
  split <;> rfl

theorem shl64_one {k : Nat} (hk : k < 64) : shl64 1 k = 2^k := by
  unfold shl64 M64
  rw [Nat.one_shiftLeft]
  exact Nat.and_two_pow_sub_one_of_lt_two_pow (n := 64) (Nat.pow_lt_pow_right (by decide) hk)

theorem and63 (x : Nat) : x &&& 63 = x % 64 := Nat.and_two_pow_sub_one_eq_mod x 6
theorem and3 (x : Nat) : x &&& 3 = x % 4 := Nat.and_two_pow_sub_one_eq_mod x 2

/-- the Go test `0 != (w & (uint64(1) << k))` -/
theorem and_bit_ne_zero (w : Nat) {k : Nat} (hk : k < 64) : ((w &&& shl64 1 k) != 0) = w.testBit k := by
  rw [shl64_one hk]
  cases h : w.testBit k
  · have : w &&& 2^k = 0 := by
      apply Nat.eq_of_testBit_eq; intro i
      rw [Nat.testBit_and, Nat.testBit_two_pow, Nat.zero_testBit]
      by_cases hki : k = i
      · subst hki; simp [h]
      · simp [hki]
    simp [this]
  · have : w &&& 2^k ≠ 0 := by
      intro h0
      have := congrArg (fun n => Nat.testBit n k) h0
      simp [h] at this
    simpa using this

/-- the level-0 words after a run of `set`s with word index `idx` -/
def setAll (idx : Nat → Nat) (a : Array (Array Nat)) (erased : List Nat) : Array (Array Nat) :=
  erased.foldl (fun a x => or2 a 0 (idx x) (shl64 1 (x &&& 63))) a

theorem setAll_spec (idx : Nat → Nat) (n : Nat) : ∀ (erased : List Nat) (a : Array (Array Nat)),
    Shape n a → (∀ x ∈ erased, idx x < n) → ∀ i c,
    ((rd2 (setAll idx a erased) 0 i).testBit c = true ↔
      ((rd2 a 0 i).testBit c = true ∨ ∃ x ∈ erased, idx x = i ∧ x % 64 = c)) := by
  intro erased
  induction erased with
  | nil => intro a _ _ i c; simp [setAll]
  | cons x xs ih =>
    intro a ha hx i c
    have hx0 : idx x < n := hx x (by simp)
    have := ih (or2 a 0 (idx x) (shl64 1 (x &&& 63))) (shape_or2 ha _ _)
      (fun y hy => hx y (by simp [hy])) i c
    simp only [setAll, List.foldl_cons] at this ⊢
    rw [this, rd2_or2 ha hx0, and63, shl64_one (Nat.mod_lt _ (by decide))]
    by_cases hi : idx x = i
    · simp only [hi, if_true, Nat.testBit_or, Nat.testBit_two_pow, Bool.or_eq_true, decide_eq_true_eq,
        List.mem_cons, exists_eq_or_imp, true_and]
      constructor
      · rintro ((h | h) | h)
        · exact .inl h
        · exact .inr (.inl h)
        · exact .inr (.inr h)
      · rintro (h | h | h)
        · exact .inl (.inl h)
        · exact .inl (.inr h)
        · exact .inr h
    · simp [hi]

theorem setAll_marks {idx : Nat → Nat} {n : Nat} {a : Array (Array Nat)} {erased : List Nat} (ha : Shape n a)
    (h0 : ∀ i, rd2 a 0 i = 0) (hx : ∀ x ∈ erased, idx x < n ∧ idx x = x / 64) (i : Nat) :
    Marks (rd2 (setAll idx a erased) 0 i) fun c => ∃ x ∈ erased, x >>> 0 = 64 * i + c := by
  intro c
  rw [setAll_spec idx n erased a ha (fun x h => (hx x h).1), h0, Nat.zero_testBit]
  constructor
  · rintro (h | ⟨x, hm, h1, h2⟩)
    · cases h
    · rw [(hx x hm).2] at h1
      exact ⟨by omega, x, hm, show x = _ by omega⟩
  · rintro ⟨hc, x, hm, h⟩
    have h' : x = 64 * i + c := h
    exact .inr ⟨x, hm, by rw [(hx x hm).2]; omega, by omega⟩

def pyr (n : Nat) (f : Nat → Nat) : Nat → Array Nat
  | 0 => tab n fun i => step 0 (f i)
  | l + 1 => tab n fun i => step (l + 1) (rd (pyr n f l) i)

theorem rd_pyr {n i : Nat} (f : Nat → Nat) (hi : i < n) : ∀ l, rd (pyr n f l) i = chain (l + 1) (f i)
  | 0 => rd_tab _ hi
  | l + 1 => by rw [pyr, rd_tab _ hi, rd_pyr f hi l]; rfl

theorem shl64_bit (k : Nat) : shl64 (2^k % 2^64) 1 = 2^(k+1) % 2^64 := by
  have e : ∀ x, x &&& M64 = x % 2^64 := fun x => Nat.and_two_pow_sub_one_eq_mod x 64
  unfold shl64
  rw [e, Nat.shiftLeft_eq]
  have : 2^(k+1) = 2^k * 2 := Nat.pow_succ _ _
  rw [this]
  generalize 2^k = t
  omega

theorem gatherLoop_spec : ∀ (src : List Nat) (acc k : Nat), k + src.length ≤ 64 → ∀ b,
    ((gatherLoop src (acc, 2^k % 2^64)).1.testBit b = true ↔
      (acc.testBit b = true ∨ ∃ m w, src[m]? = some w ∧ b = k + m ∧ (fold32 w).testBit b = true)) := by
  intro src
  induction src with
  | nil => intro acc k _ b; simp [gatherLoop]
  | cons w ws ih =>
    intro acc k hk b
    have hk64 : k < 64 := by simp at hk; omega
    have h2 : 2^k % 2^64 = 2^k := Nat.mod_eq_of_lt (Nat.pow_lt_pow_right (by decide) hk64)
    have := ih (acc ||| (fold32 w &&& 2^k)) (k+1) (by simp at hk ⊢; omega) b
    simp only [gatherLoop, List.foldl_cons] at this ⊢
    rw [shl64_bit, h2, this]
    simp only [Nat.testBit_or, Nat.testBit_and, Nat.testBit_two_pow, Bool.or_eq_true, Bool.and_eq_true,
      decide_eq_true_eq]
    constructor
    · rintro ((h | ⟨h, rfl⟩) | ⟨m, w', hm, rfl, h⟩)
      · exact .inl h
      · exact .inr ⟨0, w, by simp, by simp, h⟩
      · exact .inr ⟨m+1, w', by simpa using hm, by omega, h⟩
    · rintro (h | ⟨m, w', hm, rfl, h⟩)
      · exact .inl (.inl h)
      · cases m with
        | zero => simp at hm; subst hm; exact .inl (.inr ⟨h, by simp⟩)
        | succ m => exact .inr ⟨m, w', by simpa using hm, by omega, h⟩

theorem gather_spec {n : Nat} (hn : n ≤ 64) (g : Nat → Nat) (b : Nat) :
    ((gather ((List.range n).map g)).testBit b = true ↔
      (b < n ∧ (fold32 (g b)).testBit b = true)) := by
  have := gatherLoop_spec ((List.range n).map g) 0 0 (by simpa using hn) b
  simp only [Nat.pow_zero, Nat.zero_add] at this
  rw [show (1 % 2^64) = 1 from rfl] at this
  unfold gather
  rw [this]
  simp only [Nat.zero_testBit, Bool.false_eq_true, false_or, List.getElem?_map]
  constructor
  · rintro ⟨m, w, hm, rfl, h⟩
    by_cases hb : b < n
    · rw [List.getElem?_range hb] at hm; simp at hm; subst hm; exact ⟨hb, h⟩
    · rw [List.getElem?_eq_none (by simpa using hb)] at hm; simp at hm
  · rintro ⟨hb, h⟩
    exact ⟨b, g b, by rw [List.getElem?_range hb]; rfl, rfl, h⟩

theorem Marks.of_gather {n : Nat} (hn : n ≤ 64) {g : Nat → Nat} {S : Nat → Nat → Prop}
    (hg : ∀ b, b < n → Marks (g b) (S b)) :
    Marks (gather ((List.range n).map fun b => chain 5 (g b))) fun b => b < n ∧ ∃ c, c < 64 ∧ S b c := by
  intro b
  rw [gather_spec hn]
  constructor
  · rintro ⟨hb, h⟩
    exact ⟨by omega, hb, ((hg b hb).testBit_fold32 (by omega)).1 h⟩
  · rintro ⟨_, hb, h⟩
    exact ⟨hb, ((hg b hb).testBit_fold32 (by omega)).2 h⟩

def idx8 (x : Nat) : Nat := (x / 64) &&& 3

theorem bf8_foldl_words (erased : List Nat) : ∀ (e : BF8),
    (erased.foldl BF8.set e).words = setAll idx8 e.words erased := by
  induction erased with
  | nil => intro e; rfl
  | cons x xs ih => intro e; simp only [List.foldl_cons, setAll]; rw [ih]; rfl

theorem bf8_row0 {erased : List Nat} (hE : ∀ e ∈ erased, e < 256) (i : Nat) :
    Marks (rd2 (BF8.ofList erased).words 0 i) fun c => ∃ x ∈ erased, x >>> 0 = 64 * i + c := by
  unfold BF8.ofList
  rw [bf8_foldl_words]
  exact setAll_marks (n := 4) ⟨Array.replicate 4 0, by simp, by simp⟩
    (fun i => rd2_replicate 7 4 i (by decide))
    (fun x hx => by have := hE x hx; simp only [idx8, and3]; omega) i

theorem bf8_prep_lo (e : BF8) {i : Nat} (hi : i < 4) {l : Nat} (hl : l < 5) :
    rd2 e.prepare.words l i = chain (l + 1) (rd2 e.words 0 i) := by
  have : e.prepare.words.getD l #[] = pyr 4 (rd2 e.words 0) l := by
    have : l = 0 ∨ l = 1 ∨ l = 2 ∨ l = 3 ∨ l = 4 := by omega
    rcases this with rfl | rfl | rfl | rfl | rfl <;> rfl
  rw [rd2, this, rd_pyr _ hi]

theorem bf8_prep_5 (e : BF8) {i : Nat} (hi : i < 4) :
    rd2 e.prepare.words 5 i = fold32seq (chain 5 (rd2 e.words 0 i)) := by
  have : rd2 e.prepare.words 5 i = rd (tab 4 fun i => fold32seq (rd2 e.prepare.words 4 i)) i := rfl
  rw [this, rd_tab _ hi, bf8_prep_lo e hi (by decide)]

theorem bf8_prep_6 (e : BF8) {i : Nat} (hi : i < 4) :
    rd2 e.prepare.words 6 i = rd2 e.prepare.words 5 (i - i % 2) ||| rd2 e.prepare.words 5 (i - i % 2 + 1) := by
  have : rd2 e.prepare.words 6 i = rd (tab 4 fun i =>
      rd2 e.prepare.words 5 (i - i % 2) ||| rd2 e.prepare.words 5 (i - i % 2 + 1)) i := rfl
  rw [this, rd_tab _ hi]

theorem half_eq_iff (a b : Nat) : a / 2 = b / 2 ↔ a = b - b % 2 ∨ a = b - b % 2 + 1 := by omega

theorem bf8_prepare (erased : List Nat) (hE : ∀ e ∈ erased, e < 256) (mip bit : Nat) (hb : bit < 256) :
    ((BF8.ofList erased).prepare).isNeeded mip bit = needed 8 erased mip bit := by
  by_cases h8 : mip ≥ 8
  · simp [BF8.isNeeded, needed, h8]
  by_cases h0 : mip = 0
  · simp [BF8.isNeeded, needed, h0]
  have hi : bit / 64 < 4 := by omega
  have hk : bit % 64 < 64 := Nat.mod_lt _ (by decide)
  have hc : ¬ (mip ≥ 8 || mip ≤ 0) = true := by simp; omega
  have hW := bf8_row0 hE
  unfold BF8.isNeeded
  rw [if_neg hc, and63, and_bit_ne_zero _ hk, Bool.eq_iff_iff, needed_eq_true_iff h0 h8]
  by_cases h5 : mip ≤ 5
  · -- levels 1 … 5: one word of the pyramid
    obtain ⟨l, rfl⟩ : ∃ l, mip = l + 1 := ⟨mip - 1, by omega⟩
    rw [Nat.add_sub_cancel, bf8_prep_lo _ hi (by omega)]
    have := (hW (bit / 64)).block_iff (j := l + 1) (bit := bit) (by omega) rfl
    rwa [Nat.zero_add] at this
  -- levels 6, 7: a whole word, a pair of words
  have key : ∀ i, i < 4 → ((rd2 (BF8.ofList erased).prepare.words 5 i).testBit (bit % 64) = true ↔
      ∃ x ∈ erased, x / 64 = i) := by
    intro i hi'
    rw [bf8_prep_5 _ hi', (hW i).testBit_fold32seq hk]
    constructor
    · rintro ⟨c, hc, x, hx, h⟩; exact ⟨x, hx, by have h' : x = 64 * i + c := h; omega⟩
    · rintro ⟨x, hx, h⟩; exact ⟨x % 64, Nat.mod_lt _ (by decide), x, hx, show x = _ by omega⟩
  simp only [Nat.shiftRight_eq_div_pow]
  obtain rfl | rfl : mip = 6 ∨ mip = 7 := by omega
  · rw [show 6 - 1 = 5 from rfl, key _ hi]
  · rw [show 7 - 1 = 6 from rfl, bf8_prep_6 _ hi, Nat.testBit_or, Bool.or_eq_true, key _ (by omega),
      key _ (by omega)]
    simp only [show 2 ^ 7 = 64 * 2 from rfl, ← Nat.div_div_eq_div_mul, half_eq_iff, and_or_left, exists_or]

theorem foldBits_testBit (p : Nat → Bool) (n j : Nat) :
    ((List.range n).foldl (fun acc j => if p j then acc ||| (1 <<< j) else acc) 0).testBit j =
      (decide (j < n) && p j) := by
  induction n with
  | zero => simp
  | succ n ih =>
    rw [List.range_succ, List.foldl_append, List.foldl_cons, List.foldl_nil]
    generalize List.foldl _ 0 (List.range n) = A at ih ⊢
    by_cases hjn : j = n
    · subst hjn
      cases hp : p j <;> simp [ih, Nat.one_shiftLeft]
    · have h1 : decide (j < n + 1) = decide (j < n) := by
        rw [decide_eq_decide]; omega
      have hne : ¬ n = j := fun h => hjn h.symm
      cases hp : p n <;> simp [ih, h1, Nat.one_shiftLeft, hne]

theorem cacheID_eq (e : BF8) : e.cacheID =
    (List.range 32).map fun k => (rd2 e.words 0 (k / 8) >>> (8 * (k % 8))) &&& 0xFF := by
  simp only [BF8.cacheID, le64, List.range, List.range.loop, List.map]
  rfl

theorem bf8_row0_contains (erased : List Nat) (hE : ∀ e ∈ erased, e < 256) (i : Nat) {c : Nat} (hc : c < 64) :
    (rd2 (BF8.ofList erased).words 0 i).testBit c = erased.contains (64 * i + c) := by
  rw [Bool.eq_iff_iff, bf8_row0 hE i c, List.contains_iff_mem]
  exact ⟨fun ⟨_, x, hx, h⟩ => (show x = _ from h) ▸ hx, fun h => ⟨hc, _, h, rfl⟩⟩

theorem bf8_cacheID (erased : List Nat) (hE : ∀ e ∈ erased, e < 256) :
    (BF8.ofList erased).cacheID = cacheKey erased := by
  rw [cacheID_eq]
  unfold cacheKey
  apply List.map_congr_left
  intro k hk
  have hk : k < 32 := by simpa using hk
  apply Nat.eq_of_testBit_eq
  intro j
  rw [foldBits_testBit (fun j => erased.contains (8 * k + j)), Nat.testBit_and, Nat.testBit_shiftRight,
    show (0xFF : Nat) = 2^8 - 1 from rfl, Nat.testBit_two_pow_sub_one]
  by_cases hj : j < 8
  · rw [bf8_row0_contains erased hE _ (by omega)]
    have : 64 * (k / 8) + (8 * (k % 8) + j) = 8 * k + j := by omega
    rw [this]; simp [hj]
  · simp [hj]

theorem keyBit_cacheKey (erased : List Nat) {i : Nat} (hi : i < 256) :
    keyBit (cacheKey erased) i = erased.contains i := by
  unfold keyBit cacheKey
  have h32 : i / 8 < 32 := by omega
  rw [List.getD_eq_getElem?_getD, List.getElem?_map, List.getElem?_range h32]
  simp only [Option.map_some, Option.getD_some]
  rw [foldBits_testBit (fun j => erased.contains (8 * (i / 8) + j))]
  have : 8 * (i / 8) + i % 8 = i := by omega
  simp [this, Nat.mod_lt]

theorem cacheKey_inj (E E' : List Nat) (h : cacheKey E = cacheKey E') :
    ∀ i < 256, (i ∈ E ↔ i ∈ E') := by
  intro i hi
  have := keyBit_cacheKey E hi
  rw [h, keyBit_cacheKey E' hi] at this
  rw [← List.contains_iff_mem, ← List.contains_iff_mem, this]

def idx16 (x : Nat) : Nat := x / 64

theorem bf16_foldl_words (erased : List Nat) : ∀ (e : BF16),
    (erased.foldl BF16.set e).words = setAll idx16 e.words erased := by
  induction erased with
  | nil => intro e; rfl
  | cons x xs ih => intro e; simp only [List.foldl_cons, setAll]; rw [ih]; rfl

theorem bf16_prep_lo (e : BF16) {i : Nat} (hi : i < 1024) {l : Nat} (hl : l < 5) :
    rd2 e.prepare.words l i = chain (l + 1) (rd2 e.words 0 i) := by
  have : e.prepare.words.getD l #[] = pyr 1024 (rd2 e.words 0) l := by
    have : l = 0 ∨ l = 1 ∨ l = 2 ∨ l = 3 ∨ l = 4 := by omega
    rcases this with rfl | rfl | rfl | rfl | rfl <;> rfl
  rw [rd2, this, rd_pyr _ hi]

theorem bf16_prep_big (e : BF16) {i : Nat} (hi : i < 16) {l : Nat} (hl : l < 6) :
    rd2 e.prepare.bigWords l i = chain l (rd2 e.prepare.bigWords 0 i) := by
  rcases l with _ | l
  · rfl
  have : e.prepare.bigWords.getD (l + 1) #[] = pyr 16 (rd2 e.prepare.bigWords 0) l := by
    have : l = 0 ∨ l = 1 ∨ l = 2 ∨ l = 3 ∨ l = 4 := by omega
    rcases this with rfl | rfl | rfl | rfl | rfl <;> rfl
  rw [rd2, this, rd_pyr _ hi]

theorem bf16_prep_biggest (e : BF16) {l : Nat} (hl : l < 4) :
    rd e.prepare.biggestWords l = chain l (rd e.prepare.biggestWords 0) := by
  -- with the first word a variable the kernel has no `gather` to evaluate
  obtain ⟨g, h⟩ : ∃ g, e.prepare.biggestWords = #[g, step 0 g, step 1 (step 0 g), step 2 (step 1 (step 0 g))] :=
    ⟨_, rfl⟩
  rw [h]
  have : l = 0 ∨ l = 1 ∨ l = 2 ∨ l = 3 := by omega
  rcases this with rfl | rfl | rfl | rfl <;> rfl

theorem bf16_prep_b0 (e : BF16) {i : Nat} (hi : i < 16) : rd2 e.prepare.bigWords 0 i =
    gather ((List.range 64).map fun k => chain 5 (rd2 e.words 0 (i * 64 + k))) := by
  have : rd2 e.prepare.bigWords 0 i = rd (tab 16 fun i => gather ((List.range 64).map fun k =>
    rd2 e.prepare.words 4 (i * 64 + k))) i := rfl
  rw [this, rd_tab _ hi]
  exact congrArg gather (List.map_congr_left fun k hk =>
    bf16_prep_lo _ (by have := List.mem_range.mp hk; omega) (by decide))

theorem bf16_prep_g0 (e : BF16) : rd e.prepare.biggestWords 0 =
    gather ((List.range 16).map fun k => chain 5 (rd2 e.prepare.bigWords 0 k)) := by
  -- stated through `[0]?` so that the kernel unfolds `prepare` before `gather`
  have : e.prepare.biggestWords[0]? =
      some (gather ((List.range 16).map fun k => rd2 e.prepare.bigWords 5 k)) := rfl
  rw [rd, Array.getD_eq_getD_getElem?, this, Option.getD_some]
  exact congrArg gather (List.map_congr_left fun k hk =>
    bf16_prep_big _ (List.mem_range.mp hk) (by decide))

section
variable {erased : List Nat} (hE : ∀ e ∈ erased, e < 65536)
include hE

theorem bf16_row0 (i : Nat) :
    Marks (rd2 (BF16.ofList erased).words 0 i) fun c => ∃ x ∈ erased, x >>> 0 = 64 * i + c := by
  unfold BF16.ofList
  rw [bf16_foldl_words]
  exact setAll_marks (n := 1024) ⟨Array.replicate 1024 0, by simp, by simp⟩
    (fun i => rd2_replicate 5 1024 i (by decide))
    (fun x hx => ⟨by have := hE x hx; show x / 64 < 1024; omega, rfl⟩) i

/-- `BigWords[0][i]` marks the 64-blocks of the 4096-block `i` that hold an erasure -/
theorem bf16_B0 {i : Nat} (hi : i < 16) :
    Marks (rd2 (BF16.ofList erased).prepare.bigWords 0 i) fun b => ∃ x ∈ erased, x >>> 6 = 64 * i + b := by
  rw [bf16_prep_b0 _ hi]
  refine (Marks.of_gather (Nat.le_refl 64) fun b _ => bf16_row0 hE (i * 64 + b)).congr fun b hb => ?_
  simp only [Nat.shiftRight_eq_div_pow, Nat.pow_zero, Nat.div_one]
  constructor
  · rintro ⟨_, c, hc, x, hx, h⟩; exact ⟨x, hx, by omega⟩
  · rintro ⟨x, hx, h⟩; exact ⟨hb, x % 64, Nat.mod_lt _ (by decide), x, hx, by omega⟩

/-- `BiggestWords[0]` marks the 4096-blocks that hold an erasure -/
theorem bf16_G0 :
    Marks (rd (BF16.ofList erased).prepare.biggestWords 0) fun b => ∃ x ∈ erased, x >>> 12 = 64 * 0 + b := by
  rw [bf16_prep_g0]
  refine (Marks.of_gather (by decide : 16 ≤ 64) fun b hb => bf16_B0 hE hb).congr fun b hb => ?_
  simp only [Nat.shiftRight_eq_div_pow]
  constructor
  · rintro ⟨_, c, hc, x, hx, h⟩; exact ⟨x, hx, by omega⟩
  · rintro ⟨x, hx, h⟩
    have := hE x hx
    exact ⟨by omega, x / 2 ^ 6 % 64, Nat.mod_lt _ (by decide), x, hx, by omega⟩

theorem bf16_prepare (mip bit : Nat) (hm : 1 ≤ mip) (hb : bit < 65536) :
    ((BF16.ofList erased).prepare).isNeeded mip bit = needed 16 erased mip bit := by
  by_cases h16 : mip ≥ 16
  · simp [BF16.isNeeded, needed, h16]
  have h0 : ¬ mip = 0 := by omega
  rw [Bool.eq_iff_iff, needed_eq_true_iff h0 h16]
  unfold BF16.isNeeded
  rw [if_neg h16]
  -- in each table the word is `chain j` of a level-0 word of that table, and `mip = u + j`
  by_cases h12 : mip ≥ 12
  · rw [if_pos h12, show bit / 4096 = bit >>> 12 % 64 by rw [Nat.shiftRight_eq_div_pow]; omega,
      and_bit_ne_zero _ (Nat.mod_lt _ (by decide)), bf16_prep_biggest _ (by omega)]
    have := (bf16_G0 hE).block_iff (j := mip - 12) (bit := bit) (by omega)
      (by rw [Nat.shiftRight_eq_div_pow]; omega)
    rwa [show 12 + (mip - 12) = mip by omega] at this
  rw [if_neg h12]
  by_cases h6 : mip ≥ 6
  · dsimp only
    rw [if_pos h6, show bit / 64 % 64 = bit >>> 6 % 64 by rw [Nat.shiftRight_eq_div_pow],
      and_bit_ne_zero _ (Nat.mod_lt _ (by decide)), bf16_prep_big _ (by omega) (by omega)]
    have := (bf16_B0 hE (i := bit / 64 / 64) (by omega)).block_iff (j := mip - 6) (bit := bit) (by omega)
      (by rw [Nat.shiftRight_eq_div_pow])
    rwa [show 6 + (mip - 6) = mip by omega] at this
  · obtain ⟨l, rfl⟩ : ∃ l, mip = l + 1 := ⟨mip - 1, by omega⟩
    dsimp only
    rw [if_neg h6, if_neg h0, and_bit_ne_zero _ (Nat.mod_lt _ (by decide)), Nat.add_sub_cancel,
      bf16_prep_lo _ (by omega) (by omega)]
    have := (bf16_row0 hE (bit / 64)).block_iff (j := l + 1) (bit := bit) (by omega) rfl
    rwa [Nat.zero_add] at this

end

end RSV.Proofs.Bitfield
