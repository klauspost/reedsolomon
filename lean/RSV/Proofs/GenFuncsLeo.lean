import RSV.Proofs.GenFuncs
import RSV.Model.BitfieldImpl
import RSV.Proofs.CeilPow2
/-!
# The regenerated Leopard helpers of `RSV.Gen.Funcs` equal the model's

`addMod`, `subMod`, `mulLog`, `fwht2alt` (16 and 8 bit), `ceilPow2`, and `isNeeded` of the two error
bit fields: arithmetic on machine integers (`omega`).  The property statements are in
`RSV/Props/C17funcs.lean`.
-/
namespace RSV.GenFuncs
open RSV.Gen RSV.Model

theorem addMod_eq (a b : Nat) : Gen.addMod a b = Leo.addMod Leo.P16 a b := by
  simp only [Gen.addMod, Leo.addMod, Leo.Params.order, Leo.P16, u64, u16, Nat.shiftRight_eq_div_pow,
    Nat.shiftLeft_eq]
  omega

theorem subMod_eq {a b : Nat} (ha : a < 65536) (hb : b < 65536) : Gen.subMod a b = Leo.subMod Leo.P16 a b := by
  simp only [Gen.subMod, Leo.subMod, Leo.Params.modulus, Leo.Params.order, Leo.P16, u64, u16,
    Nat.shiftRight_eq_div_pow, Nat.shiftLeft_eq]
  split <;> omega

theorem addMod8_eq (a b : Nat) : Gen.addMod8 a b = Leo.addMod Leo.P8 a b := by
  simp only [Gen.addMod8, Leo.addMod, Leo.Params.order, Leo.P8, u64, u8, Nat.shiftRight_eq_div_pow,
    Nat.shiftLeft_eq]
  omega

theorem subMod8_eq {a b : Nat} (ha : a < 256) (hb : b < 256) : Gen.subMod8 a b = Leo.subMod Leo.P8 a b := by
  simp only [Gen.subMod8, Leo.subMod, Leo.Params.modulus, Leo.Params.order, Leo.P8, u64, u8,
    Nat.shiftRight_eq_div_pow, Nat.shiftLeft_eq]
  split <;> omega

theorem mulLog_eq (expLUT logLUT : Array Nat) (a b : Nat) :
    Gen.mulLog expLUT logLUT a b = Leo.mulLog Leo.P16 ⟨logLUT, expLUT⟩ a b := by
  unfold Gen.mulLog Leo.mulLog
  rw [addMod_eq]

theorem mulLog8_eq (expLUT logLUT : Array Nat) (a b : Nat) :
    Gen.mulLog8 expLUT logLUT a b = Leo.mulLog Leo.P8 ⟨logLUT, expLUT⟩ a b := by
  unfold Gen.mulLog8 Leo.mulLog
  rw [addMod8_eq]

theorem fwht2alt_eq {a b : Nat} (ha : a < 65536) (hb : b < 65536) :
    Gen.fwht2alt a b = (Leo.addMod Leo.P16 a b, Leo.subMod Leo.P16 a b) := by
  unfold Gen.fwht2alt; rw [addMod_eq, subMod_eq ha hb]

theorem fwht2alt8_eq {a b : Nat} (ha : a < 256) (hb : b < 256) :
    Gen.fwht2alt8 a b = (Leo.addMod Leo.P8 a b, Leo.subMod Leo.P8 a b) := by
  unfold Gen.fwht2alt8; rw [addMod8_eq, subMod8_eq ha hb]

theorem ceilPow2_eq (n : Nat) (h1 : 1 ≤ n) (h2 : n ≤ 2 ^ 62) :
    Gen.ceilPow2 (n : Int) = some ((Leo.ceilPow2 n : Nat) : Int) := by
  unfold Gen.ceilPow2
  have hm : Int.toNat (i64 ((n : Int) - 1) % 18446744073709551616) = n - 1 := by
    rw [i64_id (by omega) (by omega)]; omega
  simp only [hm, Int.ofNat_eq_natCast]
  obtain ⟨e, he62, hlz, hle, hmin⟩ : ∃ e, e ≤ 62 ∧ lz64 (n - 1) + e = 64 ∧ n ≤ 2 ^ e ∧ (0 < e → 2 ^ (e - 1) < n) := by
    by_cases hz : n - 1 = 0
    · refine ⟨0, by omega, by simp [lz64, hz], by simp; omega, fun h => absurd h (Nat.lt_irrefl 0)⟩
    · have hlog : (n - 1).log2 < 62 := (Nat.log2_lt hz).2 (by omega)
      refine ⟨(n - 1).log2 + 1, by omega, by simp only [lz64, hz, if_false]; omega, ?_, fun _ => ?_⟩
      · have := @Nat.lt_log2_self (n - 1); omega
      · have := Nat.log2_self_le hz; simp only [Nat.add_sub_cancel]; omega
  have hw : i64 ((64 : Int) - ((lz64 (n - 1) : Nat) : Int)) = (e : Int) := by
    rw [i64_id (by omega) (by omega)]; omega
  rw [hw]
  have hpow : (2 : Nat) ^ e ≤ 2 ^ 62 := Nat.pow_le_pow_right (by decide) he62
  have hcast : (1 : Int) * 2 ^ Int.toNat (e : Int) = ((2 ^ e : Nat) : Int) := by
    simp
  rw [hcast, i64_id (by omega) (by omega), RSV.Proofs.LeoSched.ceilPow2_eq_two_pow (by omega) hle hmin]
  simp

open RSV.Model.BitfieldImpl

theorem shl64_eq (w s : Nat) : shl64 w s = u64 (w <<< s) := by
  unfold shl64 u64 M64
  exact Nat.and_two_pow_sub_one_eq_mod _ 64

theorem rd_eq (a : Array Nat) (i : Nat) : rd a i = a[i]! := by
  unfold rd; rw [Array.getElem!_eq_getD]; rfl

theorem rd2_eq (a : Array (Array Nat)) (l i : Nat) : rd2 a l i = a[l]![i]! := by
  unfold rd2; rw [rd_eq, Array.getElem!_eq_getD]; rfl

theorem decide_ne_eq_bne (x : Nat) : decide (0 ≠ x) = (x != 0) := by
  cases x with
  | zero => rfl
  | succ n => simp

theorem isNeeded8_eq (words : Array (Array Nat)) (m bit : Nat) (hb : bit < 256) :
    errorBitfield8_isNeeded words (m : Int) (bit : Int) = some (BF8.isNeeded ⟨words⟩ m bit) := by
  unfold errorBitfield8_isNeeded BF8.isNeeded
  by_cases hm : m ≥ 8 ∨ m ≤ 0
  · have h1 : ((m : Int) ≥ 8) ∨ ((m : Int) ≤ 0) := by omega
    have h2 : (decide (m ≥ 8) || decide (m ≤ 0)) = true := by simpa using hm
    simp only [h1, h2, if_true]
  · have h1 : ¬ (((m : Int) ≥ 8) ∨ ((m : Int) ≤ 0)) := by omega
    have h2 : ¬ ((decide (m ≥ 8) || decide (m ≤ 0)) = true) := by simpa using hm
    simp only [h1, h2, if_false]
    have e1 : i64 ((m : Int) - 1) = ((m - 1 : Nat) : Int) := by rw [i64_id (by omega) (by omega)]; omega
    have e2 : i64 (Int.tdiv (bit : Int) 64) = ((bit / 64 : Nat) : Int) := by
      rw [Int.natCast_tdiv_eq_ediv, i64_id (by omega) (by omega)]; omega
    have e3 : iand64 (bit : Int) 63 = ((bit &&& 63 : Nat) : Int) := iand64_natCast bit 63 (by omega) (by decide)
    rw [e1, e2, e3]
    have hc : (0 : Int) ≤ ((m - 1 : Nat) : Int) ∧ ((m - 1 : Nat) : Int) < 7 ∧ (0 : Int) ≤ ((bit / 64 : Nat) : Int) ∧
        ((bit / 64 : Nat) : Int) < 4 ∧ (0 : Int) ≤ ((bit &&& 63 : Nat) : Int) := by omega
    simp only [hc, not_true_eq_false, if_false, Int.toNat_natCast, and_self]
    rw [decide_ne_eq_bne, rd2_eq, shl64_eq]
    simp only [Bool.false_eq_true, if_false]

/-- out-of-range `bit` at a level that reads the words: Go panics (index out of range) -/
theorem isNeeded8_oob (words : Array (Array Nat)) (m bit : Nat) (hm1 : 1 ≤ m) (hm7 : m ≤ 7) (hb : 256 ≤ bit)
    (hb63 : bit < 2 ^ 63) :
    errorBitfield8_isNeeded words (m : Int) (bit : Int) = none := by
  unfold errorBitfield8_isNeeded
  have h1 : ¬ (((m : Int) ≥ 8) ∨ ((m : Int) ≤ 0)) := by omega
  simp only [h1, if_false]
  have e2 : i64 (Int.tdiv (bit : Int) 64) = ((bit / 64 : Nat) : Int) := by
    rw [Int.natCast_tdiv_eq_ediv, i64_id (by omega) (by omega)]; omega
  rw [e2]
  have : ¬ (((bit / 64 : Nat) : Int) < 4) := by omega
  simp only [this, false_and, and_false, not_false_eq_true, if_true]

theorem isNeeded16_eq (words bigWords : Array (Array Nat)) (biggestWords : Array Nat) (m bit : Nat)
    (hm : 1 ≤ m) (hb : bit < 65536) :
    errorBitfield_isNeeded words bigWords biggestWords (m : Int) bit =
      some (BF16.isNeeded ⟨words, bigWords, biggestWords⟩ m bit) := by
  unfold errorBitfield_isNeeded BF16.isNeeded
  by_cases h16 : m ≥ 16
  · have h1 : (m : Int) ≥ 16 := by omega
    simp only [h1, h16, if_true]
  have h1 : ¬ ((m : Int) ≥ 16) := by omega
  simp only [h1, h16, if_false]
  by_cases h12 : m ≥ 12
  · have h2 : (m : Int) ≥ 12 := by omega
    simp only [h2, h12, if_true]
    have e1 : i64 ((m : Int) - 12) = ((m - 12 : Nat) : Int) := by rw [i64_id (by omega) (by omega)]; omega
    rw [e1]
    have hc : (0 : Int) ≤ ((m - 12 : Nat) : Int) ∧ ((m - 12 : Nat) : Int) < 4 := by omega
    simp only [hc, not_true_eq_false, if_false, Int.toNat_natCast, and_self]
    rw [decide_ne_eq_bne, rd_eq, shl64_eq]
  have h2 : ¬ ((m : Int) ≥ 12) := by omega
  simp only [h2, h12, if_false]
  by_cases h6 : m ≥ 6
  · have h3 : (m : Int) ≥ 6 := by omega
    simp only [h3, h6, if_true]
    have e1 : i64 ((m : Int) - 6) = ((m - 6 : Nat) : Int) := by rw [i64_id (by omega) (by omega)]; omega
    rw [e1]
    have hc : (0 : Int) ≤ ((m - 6 : Nat) : Int) ∧ ((m - 6 : Nat) : Int) < 6 ∧ bit / 64 / 64 < 16 := by omega
    simp only [hc, not_true_eq_false, if_false, Int.toNat_natCast, and_self]
    rw [decide_ne_eq_bne, rd2_eq, shl64_eq]
  have h3 : ¬ ((m : Int) ≥ 6) := by omega
  have h0 : ¬ (m = 0) := by omega
  simp only [h3, h6, h0, if_false]
  have e1 : i64 ((m : Int) - 1) = ((m - 1 : Nat) : Int) := by rw [i64_id (by omega) (by omega)]; omega
  rw [e1]
  have hc : (0 : Int) ≤ ((m - 1 : Nat) : Int) ∧ ((m - 1 : Nat) : Int) < 5 ∧ bit / 64 < 1024 := by omega
  simp only [hc, not_true_eq_false, if_false, Int.toNat_natCast, and_self]
  rw [decide_ne_eq_bne, rd2_eq, shl64_eq]

/-- level 0 is never queried: Go would panic on `Words[-1]` -/
theorem isNeeded16_level0 (words bigWords : Array (Array Nat)) (biggestWords : Array Nat) (bit : Nat) :
    errorBitfield_isNeeded words bigWords biggestWords 0 bit = none := by
  unfold errorBitfield_isNeeded
  simp [i64]

end RSV.GenFuncs
