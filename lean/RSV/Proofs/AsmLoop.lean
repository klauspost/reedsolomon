import RSV.Proofs.AsmSem
/-!
Matrix-kernel checker, the loop invariant: the loop-head state generalises the prologue result,
one trip through the body re-establishes it for the next iteration, and the coverage check turns
"blocks stored in this iteration" into "finished iteration".
-/
namespace RSV.Asm

variable {c : Ctx}

theorem gInit_sound {g h : GSym} {v : Val} (hi : gInit g h = true) (hg : GRefines c 0 g v) :
    GRefines c 0 h v := by
  unfold gInit at hi
  split at hi
  · trivial
  · simpa [GRefines] using hg
  · simp only [decide_eq_true_eq] at hi
    obtain ⟨rfl, rfl, rfl⟩ := hi
    exact hg.trans (congrArg (linV _) (linVal_zero ..))
  · exact hg
  · exact hg
  · cases hi

/-- a loop-invariant vector value means the same in every iteration -/
theorem vHead_sound {x hx : VSym} {it it' : Nat} {reg : Nat → Nat}
    (hr : (hx = .unk || (vInv hx && x = hx)) = true) (h : VRefines c it x reg) : VRefines c it' hx reg := by
  simp only [Bool.or_eq_true, Bool.and_eq_true, decide_eq_true_eq] at hr
  rcases hr with rfl | ⟨hinv, rfl⟩
  · trivial
  · cases x <;> first | exact h | cases hinv

theorem initOK_sound {σ0 H : SymState} {s : State} (hi : initOK σ0 H = true)
    (hG : ∀ r, 16 ≤ r → H.gp r = .unk) (hV : ∀ v, 32 ≤ v → H.vec v = .unk)
    (hH : H.stores = []) (h0 : σ0.stores = []) (h : Sim c 0 σ0 s) : Sim c 0 H s := by
  unfold initOK at hi
  rw [Bool.and_eq_true] at hi
  refine ⟨head_of_all (fun g h => gInit g h) hi.1 (fun _ _ _ => gInit_sound) hG (fun _ => trivial) h.gp,
    head_of_all (fun x hx => hx = .unk || (vInv hx && x = hx)) hi.2 (fun _ _ _ => vHead_sound) hV
      (fun _ => trivial) h.vec, ?_, ?_⟩
  · rw [hH, ← h0]; exact h.mem
  · rw [hH]; exact Rows.storesOK_nil

theorem gShift_sound {g h : GSym} {v : Val} {it : Nat} (hr : (h = .unk || g = gShift c.cfg.B h) = true)
    (hg : GRefines c it g v) : GRefines c (it + 1) h v := by
  simp only [Bool.or_eq_true, decide_eq_true_eq] at hr
  rcases hr with rfl | rfl
  · trivial
  · cases h with
    | unk => trivial
    | nRaw => exact hg
    | cnt => exact hg
    | ctr d =>
      simp only [gShift, GRefines] at hg ⊢
      rw [hg]; congr 1; omega
    | lin b a t k =>
      simp only [gShift, GRefines, Ctx.lin, linVal_shift] at hg ⊢
      exact hg

theorem stepOK_sound {H σe : SymState} {s : State} {it : Nat} (hs : stepOK c.cfg H σe = true)
    (hG : ∀ r, 16 ≤ r → H.gp r = .unk) (hV : ∀ v, 32 ≤ v → H.vec v = .unk)
    (hH : H.stores = []) (hcov : covers c.cfg σe.stores = true) (h : Sim c it σe s) :
    Sim c (it + 1) H s := by
  unfold stepOK at hs
  rw [Bool.and_eq_true] at hs
  unfold covers at hcov
  simp only [Bool.and_eq_true, decide_eq_true_eq] at hcov
  obtain ⟨⟨⟨hwB, hw⟩, _⟩, hall⟩ := hcov
  refine ⟨head_of_all (fun g h => h = .unk || g = gShift c.cfg.B h) hs.1 (fun _ _ _ => gShift_sound) hG
      (fun _ => trivial) h.gp,
    head_of_all (fun x hx => hx = .unk || (vInv hx && x = hx)) hs.2 (fun _ _ _ => vHead_sound) hV
      (fun _ => trivial) h.vec, ?_, ?_⟩
  · rw [hH]
    refine h.mem.next hwB hw (fun i _ hi b hb => ?_) h.stores_ok
    exact List.contains_iff_mem.mp (all_range (all_range hall i hi) b hb)
  · rw [hH]; exact Rows.storesOK_nil

end RSV.Asm
