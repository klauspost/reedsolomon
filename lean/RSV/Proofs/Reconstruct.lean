import RSV.Proofs.Columns

/-!
Correctness of the modelled `reconstruct` (`RSV.Model.reconstructWith`), for `RSV.Props.C02`.

`subMat A present`, the `d × d` sub-matrix of the generator `[I; A]` at the first `d` present rows,
is invertible when `A` is MDS (`subMat_isUnit`), and a left inverse of it applied to the selected
shards gives back the data (`decode_eq`). `reconstruct_erase` is the master equation: on a codeword
with erasures, `reconstruct` is `reconSpec`, except that it answers `singular` when the elimination
fails on `subMat`.
-/


namespace RSV.Model

section Lists
variable {n : ℕ}

theorem firstPresent_length (present : Fin n → Bool) (k : ℕ) (h : k ≤ countTrue present) :
    (firstPresent present k).length = k := by
  unfold firstPresent
  unfold countTrue at h
  rw [List.length_take]
  omega

theorem firstPresent_mem {present : Fin n → Bool} {k : ℕ} {i : Fin n}
    (h : i ∈ firstPresent present k) : present i = true := by
  unfold firstPresent at h
  exact (List.mem_filter.mp (List.mem_of_mem_take h)).2

theorem firstPresent_nodup (present : Fin n → Bool) (k : ℕ) : (firstPresent present k).Nodup :=
  List.Nodup.sublist (List.take_sublist _ _) ((List.nodup_finRange n).filter _)

theorem countTrue_add_countTrue_not (present : Fin n → Bool) :
    countTrue present + countTrue (fun i => !present i) = n := by
  unfold countTrue
  have := List.length_eq_length_filter_add (l := List.finRange n) present
  rw [List.length_finRange] at this
  exact this.symm

theorem countTrue_le (present : Fin n → Bool) : countTrue present ≤ n := by
  have := countTrue_add_countTrue_not present
  omega

theorem countTrue_pos_iff (q : Fin n → Bool) : 0 < countTrue q ↔ ∃ i, q i = true := by
  unfold countTrue
  rw [List.length_pos_iff_exists_mem]
  constructor
  · rintro ⟨i, hi⟩; exact ⟨i, (List.mem_filter.mp hi).2⟩
  · rintro ⟨i, hi⟩; exact ⟨i, List.mem_filter.mpr ⟨List.mem_finRange i, hi⟩⟩

theorem countTrue_eq_zero_iff (q : Fin n → Bool) : countTrue q = 0 ↔ ∀ i, q i = false := by
  have := countTrue_pos_iff q
  constructor
  · intro h i
    cases hq : q i with
    | false => rfl
    | true => exact absurd (this.mpr ⟨i, hq⟩) (by omega)
  · intro h
    by_contra hne
    obtain ⟨i, hi⟩ := this.mp (Nat.pos_of_ne_zero hne)
    rw [h i] at hi; cases hi

theorem countTrue_eq_iff (present : Fin n → Bool) : countTrue present = n ↔ ∀ i, present i = true := by
  have h1 := countTrue_add_countTrue_not present
  have h2 := countTrue_eq_zero_iff (fun i => !present i)
  constructor
  · intro h i
    have := h2.mp (by omega) i
    simpa using this
  · intro h
    have := h2.mpr (fun i => by simp [h i])
    omega

theorem countTrue_and_le (q r : Fin n → Bool) : countTrue (fun i => q i && r i) ≤ countTrue q := by
  unfold countTrue
  rw [show (fun i => q i && r i) = (fun i => r i && q i) from funext fun i => Bool.and_comm _ _,
    ← List.filter_filter]
  exact List.length_filter_le _ _

theorem countTrue_and_eq_iff (q r : Fin n → Bool) :
    countTrue (fun i => q i && r i) = countTrue r ↔ ∀ i, r i = true → q i = true := by
  unfold countTrue
  rw [← List.filter_filter, List.length_filter_eq_length_iff]
  exact ⟨fun h i hi => h i (List.mem_filter.2 ⟨List.mem_finRange i, hi⟩),
    fun h i hi => h i (List.mem_filter.1 hi).2⟩

theorem countTrue_eq_card (q : Fin n → Bool) :
    countTrue q = (Finset.univ.filter fun i => q i = true).card := by
  unfold countTrue
  rw [Fin.univ_def]
  simp [Finset.card, Finset.filter]

theorem getD_map_finRange (f : Fin n → Bool) (i : Fin n) :
    ((List.finRange n).map f).getD i.val false = f i := by
  simp [List.getD_eq_getElem?_getD]

end Lists

theorem countTrue_data_eq_iff {d p : ℕ} (present : Fin (d + p) → Bool) :
    countTrue (fun i => present i && decide (i.val < d)) = d ↔ ∀ i, i.val < d → present i = true := by
  have hd : countTrue (fun i : Fin (d + p) => decide (i.val < d)) = d := by
    rw [countTrue_eq_card]
    simp [Fin.card_filter_val_lt]
  have h := countTrue_and_eq_iff present fun i => decide (i.val < d)
  rw [hd] at h
  simpa only [decide_eq_true_eq] using h

section
variable {F : Type} {d p len : ℕ}

/-- the `j`-th of the first `d` present indices (junk `j` when there are fewer) -/
def validIdx (present : Fin (d + p) → Bool) (j : Fin d) : Fin (d + p) :=
  ((firstPresent present d)[j.val]?).getD ⟨j.val, by omega⟩

theorem firstPresent_getElem? (present : Fin (d + p) → Bool) (h : d ≤ countTrue present) (j : Fin d) :
    (firstPresent present d)[j.val]? = some (validIdx present j) := by
  have hl : j.val < (firstPresent present d).length := by
    rw [firstPresent_length present d h]; exact j.isLt
  unfold validIdx
  rw [List.getElem?_eq_getElem hl, Option.getD_some]

theorem validIdx_present (present : Fin (d + p) → Bool) (h : d ≤ countTrue present) (j : Fin d) :
    present (validIdx present j) = true := by
  apply firstPresent_mem (k := d)
  exact List.mem_of_getElem? (firstPresent_getElem? present h j)

theorem validIdx_injective (present : Fin (d + p) → Bool) (h : d ≤ countTrue present) :
    Function.Injective (validIdx present) := by
  intro j j' hjj
  have hl : ∀ j : Fin d, j.val < (firstPresent present d).length := fun j => by
    rw [firstPresent_length present d h]; exact j.isLt
  have e1 : ∀ j : Fin d, (firstPresent present d)[j.val]'(hl j) = validIdx present j := by
    intro j
    have := firstPresent_getElem? present h j
    rw [List.getElem?_eq_getElem (hl j)] at this
    exact Option.some_injective _ this
  have : (firstPresent present d)[j.val]'(hl j) = (firstPresent present d)[j'.val]'(hl j') := by
    rw [e1, e1, hjj]
  exact Fin.ext ((firstPresent_nodup present d).getElem_inj_iff.mp this)

def erase (orig : Fin (d + p) → Shard F len) (present : Fin (d + p) → Bool) :
    Fin (d + p) → Option (Shard F len) :=
  fun i => if present i then some (orig i) else none

@[simp] theorem erase_isSome (orig : Fin (d + p) → Shard F len) (present : Fin (d + p) → Bool)
    (i : Fin (d + p)) : (erase orig present i).isSome = present i := by
  unfold erase; cases present i <;> simp

theorem erase_of_present (orig : Fin (d + p) → Shard F len) {present : Fin (d + p) → Bool}
    {i : Fin (d + p)} (h : present i = true) : erase orig present i = some (orig i) := by
  unfold erase; rw [if_pos h]

theorem erase_of_absent (orig : Fin (d + p) → Shard F len) {present : Fin (d + p) → Bool}
    {i : Fin (d + p)} (h : present i = false) : erase orig present i = none := by
  unfold erase; rw [h]; rfl

end

section Shape
variable {F : Type} {d p len : ℕ}

def isSomeMode : ReconMode → Bool
  | .some _ _ => true
  | _ => false

/-- the early-return test of `reconstruct`, as a Boolean -/
def earlyB (d p : ℕ) (present : Fin (d + p) → Bool) (mode : ReconMode) : Bool :=
  decide (countTrue present = d + p) ||
    (isDataOnly mode && decide (countTrue (fun i => present i && decide (i.val < d)) = d)) ||
    (isSomeMode mode && decide (countTrue (fun i => !present i && requiredAt mode i.val) = 0))

/-- ReconstructSome with a full mask and a requested missing parity shard -/
def parityReq (d p : ℕ) (present : Fin (d + p) → Bool) (mode : ReconMode) : Bool :=
  !isDataOnly mode && isSomeMode mode &&
    decide (0 < countTrue fun i : Fin (d + p) => !present i && requiredAt mode i.val && decide (d ≤ i.val))

/-- is index `i` filled by a successful call -/
def fillAt (d p : ℕ) (present : Fin (d + p) → Bool) (mode : ReconMode) (i : Fin (d + p)) : Bool :=
  !present i &&
    (if i.val < d then (if isSomeMode mode then requiredAt mode i.val || parityReq d p present mode else true)
     else !isDataOnly mode && requiredAt mode i.val)

theorem parityReq_eq_true_iff (present : Fin (d + p) → Bool) (mode : ReconMode) :
    parityReq d p present mode = true ↔ isDataOnly mode = false ∧ isSomeMode mode = true ∧
      ∃ j : Fin (d + p), d ≤ j.val ∧ present j = false ∧ requiredAt mode j.val = true := by
  simp only [parityReq, Bool.and_eq_true, Bool.not_eq_true', decide_eq_true_eq, countTrue_pos_iff,
    and_assoc]
  exact and_congr_right fun _ => and_congr_right fun _ => exists_congr fun j => by tauto

variable (present : Fin (d + p) → Bool) (mode : ReconMode) (i : Fin (d + p))

theorem fillAt_of_lt (h : i.val < d) : fillAt d p present mode i =
    (!present i && (if isSomeMode mode then requiredAt mode i.val || parityReq d p present mode else true)) := by
  rw [fillAt, if_pos h]

theorem fillAt_of_ge (h : ¬ i.val < d) :
    fillAt d p present mode i = (!present i && (!isDataOnly mode && requiredAt mode i.val)) := by
  rw [fillAt, if_neg h]

theorem fillAt_all : fillAt d p present .all i = !present i := by
  by_cases h : i.val < d
  · rw [fillAt_of_lt _ _ _ h]; simp [isSomeMode]
  · rw [fillAt_of_ge _ _ _ h]; simp [isDataOnly, requiredAt]

theorem fillAt_dataOnly : fillAt d p present .dataOnly i = (!present i && decide (i.val < d)) := by
  by_cases h : i.val < d
  · rw [fillAt_of_lt _ _ _ h]; simp [isSomeMode, h]
  · rw [fillAt_of_ge _ _ _ h]; simp [isDataOnly, h]

theorem fillAt_some_of_lt (req : List Bool) (full : Bool) (h : i.val < d) :
    fillAt d p present (.some req full) i =
      (!present i && (requiredAt (.some req full) i.val || parityReq d p present (.some req full))) := by
  rw [fillAt_of_lt _ _ _ h]; rfl

theorem fillAt_some_of_ge (req : List Bool) (full : Bool) (h : ¬ i.val < d) :
    fillAt d p present (.some req full) i = (!present i && (full && requiredAt (.some req full) i.val)) := by
  rw [fillAt_of_ge _ _ _ h]; simp [isDataOnly]

theorem reconShape_def :
    reconShape d p present mode =
      if earlyB d p present mode then .unchanged
      else if countTrue present < d then .tooFew
      else .fill ((List.finRange (d + p)).map (fillAt d p present mode)) := by
  cases mode <;> rfl

/-- the documented no-op conditions: nothing missing; data-only call with all data present;
ReconstructSome with no requested shard missing -/
def Noop (d p : ℕ) (present : Fin (d + p) → Bool) (mode : ReconMode) : Prop :=
  (∀ i, present i = true) ∨
  (isDataOnly mode = true ∧ ∀ i : Fin (d + p), i.val < d → present i = true) ∨
  (isSomeMode mode = true ∧ ∀ i : Fin (d + p), present i = false → requiredAt mode i.val = false)

theorem earlyB_iff (present : Fin (d + p) → Bool) (mode : ReconMode) :
    earlyB d p present mode = true ↔ Noop d p present mode := by
  unfold earlyB Noop
  simp only [Bool.or_eq_true, Bool.and_eq_true, decide_eq_true_eq, countTrue_eq_iff,
    countTrue_data_eq_iff, countTrue_eq_zero_iff]
  rw [or_assoc]
  refine or_congr Iff.rfl (or_congr Iff.rfl (and_congr Iff.rfl (forall_congr' fun i => ?_)))
  cases present i <;> simp

theorem reconShape_of_noop {present : Fin (d + p) → Bool} {mode : ReconMode}
    (h : Noop d p present mode) : reconShape d p present mode = .unchanged := by
  rw [reconShape_def, if_pos ((earlyB_iff present mode).mpr h)]

theorem reconShape_of_lt {present : Fin (d + p) → Bool} {mode : ReconMode}
    (h : ¬ Noop d p present mode) (hlt : countTrue present < d) :
    reconShape d p present mode = .tooFew := by
  rw [reconShape_def, if_neg (fun e => h ((earlyB_iff present mode).mp e)), if_pos hlt]

theorem reconShape_of_ge {present : Fin (d + p) → Bool} {mode : ReconMode}
    (h : ¬ Noop d p present mode) (hge : d ≤ countTrue present) :
    reconShape d p present mode = .fill ((List.finRange (d + p)).map (fillAt d p present mode)) := by
  rw [reconShape_def, if_neg (fun e => h ((earlyB_iff present mode).mp e)), if_neg (by omega)]

theorem reconShape_fill_le {present : Fin (d + p) → Bool} {mode : ReconMode} {filled : List Bool}
    (h : reconShape d p present mode = .fill filled) : d ≤ countTrue present := by
  rw [reconShape_def] at h
  split_ifs at h with h1 h2
  omega

theorem reconSpec_of_noop (orig : Fin (d + p) → Shard F len) {present : Fin (d + p) → Bool}
    {mode : ReconMode} (h : Noop d p present mode) :
    reconSpec orig present mode = .ok (erase orig present) := by
  unfold reconSpec; rw [reconShape_of_noop h]; rfl

theorem reconSpec_of_lt (orig : Fin (d + p) → Shard F len) {present : Fin (d + p) → Bool}
    {mode : ReconMode} (h : ¬ Noop d p present mode) (hlt : countTrue present < d) :
    reconSpec orig present mode = .error .tooFew := by
  unfold reconSpec; rw [reconShape_of_lt h hlt]

theorem reconSpec_of_ge (orig : Fin (d + p) → Shard F len) {present : Fin (d + p) → Bool}
    {mode : ReconMode} (h : ¬ Noop d p present mode) (hge : d ≤ countTrue present) :
    reconSpec orig present mode =
      .ok fun i => if present i || fillAt d p present mode i then some (orig i) else none := by
  unfold reconSpec; rw [reconShape_of_ge h hge]
  simp only [getD_map_finRange]

theorem fillAt_of_noop {present : Fin (d + p) → Bool} {mode : ReconMode}
    (h : Noop d p present mode) (i : Fin (d + p)) : fillAt d p present mode i = false := by
  cases hp : present i with
  | true => simp [fillAt, hp]
  | false =>
    rcases h with h | ⟨hdo, h⟩ | ⟨hs, h⟩
    · rw [h i] at hp; cases hp
    · by_cases hi : i.val < d
      · rw [h i hi] at hp; cases hp
      · simp [fillAt, hi, hdo]
    · -- no missing shard is requested, in particular no missing parity shard
      have hpar : parityReq d p present mode = false := by
        have : countTrue (fun j : Fin (d + p) =>
            !present j && requiredAt mode j.val && decide (d ≤ j.val)) = 0 :=
          (countTrue_eq_zero_iff _).2 fun j => by cases hj : present j <;> simp [h j, hj]
        simp [parityReq, this]
      simp [fillAt, hp, hs, h i hp, hpar]

/-- `reconSpec_of_ge` without `¬ Noop`: under the no-op conditions nothing is filled -/
theorem reconSpec_of_enough (orig : Fin (d + p) → Shard F len) {present : Fin (d + p) → Bool}
    (mode : ReconMode) (hge : d ≤ countTrue present) :
    reconSpec orig present mode =
      .ok fun i => if present i || fillAt d p present mode i then some (orig i) else none := by
  by_cases hn : Noop d p present mode
  · rw [reconSpec_of_noop _ hn]
    congr 1; funext i
    rw [fillAt_of_noop hn, Bool.or_false]
    rfl
  · exact reconSpec_of_ge _ hn hge

/-- is index `i` filled by the call: read off `reconShape`, so `false` when the call returns early
or fails -/
def filledAt (d p : ℕ) (present : Fin (d + p) → Bool) (mode : ReconMode) (i : Fin (d + p)) : Bool :=
  match reconShape d p present mode with
  | .fill filled => filled.getD i.val false
  | _ => false

/-- `filledAt` is `fillAt` behind the two exits of `reconShape`: no early return, enough shards -/
theorem filledAt_eq : filledAt d p present mode i =
    (!earlyB d p present mode && decide (d ≤ countTrue present) && fillAt d p present mode i) := by
  rw [filledAt, reconShape_def]
  split_ifs with he hlt
  · simp [he]
  · simp [not_le.2 hlt]
  · simp [he, not_lt.1 hlt]

theorem reconSpec_eq (orig : Fin (d + p) → Shard F len) {present : Fin (d + p) → Bool}
    {mode : ReconMode} {out : Fin (d + p) → Option (Shard F len)}
    (h : reconSpec orig present mode = .ok out) (i : Fin (d + p)) :
    out i = if present i || filledAt d p present mode i then some (orig i) else none := by
  unfold reconSpec at h
  unfold filledAt
  cases hs : reconShape d p present mode with
  | unchanged => rw [hs] at h; injection h with h; subst h; simp
  | tooFew => rw [hs] at h; cases h
  | fill filled => rw [hs] at h; injection h with h; subst h; rfl

theorem reconSpec_ok (orig : Fin (d + p) → Shard F len) {present : Fin (d + p) → Bool}
    {mode : ReconMode} {out : Fin (d + p) → Option (Shard F len)}
    (h : reconSpec orig present mode = .ok out) :
    (∀ i s, out i = some s → s = orig i) ∧ (∀ i, present i = true → out i = some (orig i)) := by
  refine ⟨fun i s hs => ?_, fun i hi => by rw [reconSpec_eq orig h, hi]; rfl⟩
  rw [reconSpec_eq orig h] at hs
  split_ifs at hs; exact (Option.some_injective _ hs).symm

end Shape

section Field
variable {F : Type} [Field F] [DecidableEq F] {d p len : ℕ}

def subMat (A : Mat F p d) (present : Fin (d + p) → Bool) : Mat F d d :=
  Mat.ofFn fun j c => genRow A (validIdx present j) c

omit [DecidableEq F] in
/-- the matrix `reconstructWith` hands to the inversion is `subMat A present` as soon as `d`
shards are present -/
theorem sub_eq_subMat (A : Mat F p d) (present : Fin (d + p) → Bool) (h : d ≤ countTrue present) :
    (Mat.ofFn fun (i : Fin d) c =>
      match (firstPresent present d)[i.val]? with
      | some vi => genRow A vi c
      | none => 0) = subMat A present := by
  simp only [firstPresent_getElem? present h]; rfl

omit [DecidableEq F] in
theorem genRow_left (A : Mat F p d) (c c' : Fin d) :
    genRow A (Fin.castAdd p c) c' = if c = c' then 1 else 0 := by
  by_cases h : c = c'
  · subst h; simp [genRow]
  · have : ¬ c.val = c'.val := fun e => h (Fin.ext e)
    simp [genRow, h, this]

omit [DecidableEq F] in
theorem genRow_right (A : Mat F p d) (r : Fin p) (c' : Fin d) :
    genRow A (Fin.natAdd d r) c' = A.get r c' := by
  simp [genRow]

omit [DecidableEq F] in
theorem cw_eq_genRow (A : Mat F p d) (t : Fin d → F) (s : Fin d ⊕ Fin p) :
    CodeTheory.cw (fun r c => A.get r c) t s = ∑ c, genRow A (finSumFinEquiv s) c * t c := by
  rcases s with c | r
  · simp [genRow_left]
  · simp [genRow_right]

omit [DecidableEq F] in
theorem subMat_isUnit (A : Mat F p d) (hA : CodeTheory.MDS (fun r c => A.get r c))
    (present : Fin (d + p) → Bool) (h : d ≤ countTrue present) :
    IsUnit (subMat A present).toMatrix := by
  classical
  rw [← Matrix.mulVec_injective_iff_isUnit]
  intro t t' htt
  have hinj : Function.Injective fun j : Fin d => finSumFinEquiv.symm (validIdx present j) :=
    finSumFinEquiv.symm.injective.comp (validIdx_injective present h)
  refine CodeTheory.MDS.unique hA
    (Finset.univ.image fun j : Fin d => finSumFinEquiv.symm (validIdx present j)) ?_ t t' ?_
  · rw [Finset.card_image_of_injective _ hinj]; simp
  · intro s hs
    obtain ⟨j, -, rfl⟩ := Finset.mem_image.mp hs
    rw [cw_eq_genRow, cw_eq_genRow, Equiv.apply_symm_apply]
    have := congrFun htt j
    simpa [subMat, Matrix.mulVec, dotProduct] using this

theorem invert_subMat_isSome (A : Mat F p d) (hA : CodeTheory.MDS (fun r c => A.get r c))
    (present : Fin (d + p) → Bool) (h : d ≤ countTrue present) :
    (invert (subMat A present)).isSome :=
  (invert_isSome_iff _).mpr (subMat_isUnit A hA present h)

omit [DecidableEq F] in
theorem encodeAll_getElem (A : Mat F p d) (data : Fin d → Shard F len) (i : Fin (d + p))
    (k : Fin len) : (encodeAll A data i)[k]'k.2 = ∑ c, genRow A i c * (data c)[k]'k.2 := by
  by_cases h : i.val < d
  · rw [encodeAll_of_lt A data i h]
    simp only [genRow, dif_pos h]
    exact (CodeTheory.sum_delta i.val h fun c => (data c)[k]'k.2).symm
  · rw [encodeAll_of_ge A data i h]
    simp only [genRow, dif_neg h]
    exact encodeSpec_getElem A data _ k

omit [DecidableEq F] in
theorem decode_eq (A : Mat F p d) (data : Fin d → Shard F len) (present : Fin (d + p) → Bool)
    (dec : Mat F d d) (hdec : dec.toMatrix * (subMat A present).toMatrix = 1) (c : Fin d) :
    encodeRow (fun j => dec.get c j) (fun j => encodeAll A data (validIdx present j)) = data c := by
  refine shard_ext fun k => ?_
  rw [encodeRow_getElem]
  simp only [encodeAll_getElem, Finset.mul_sum]
  rw [Finset.sum_comm]
  have h1 : ∀ c' : Fin d, ∑ j, dec.get c j * (genRow A (validIdx present j) c' * (data c')[k]'k.2)
      = (dec.toMatrix * (subMat A present).toMatrix) c c' * (data c')[k]'k.2 := by
    intro c'
    simp only [Matrix.mul_apply, Finset.sum_mul, Mat.toMatrix_apply, subMat, Mat.get_ofFn, mul_assoc]
  simp only [h1, hdec, Matrix.one_apply]
  simp

omit [DecidableEq F] in
theorem erase_data (A : Mat F p d) (data : Fin d → Shard F len) (present : Fin (d + p) → Bool)
    (c : Fin d) (h : c.val < d + p) :
    erase (encodeAll A data) present ⟨c.val, h⟩ =
      if present ⟨c.val, h⟩ then some (data c) else none := by
  unfold erase
  rw [encodeAll_of_lt A data ⟨c.val, h⟩ c.isLt]

omit [DecidableEq F] in
/-- `reconstructWith` with its case distinctions on the mode spelled through `isSomeMode`, `earlyB`, `parityReq` -/
theorem reconstructWith_def (inv : Mat F d d → Option (Mat F d d)) (A : Mat F p d)
    (sh : Fin (d + p) → Option (Shard F len)) (mode : ReconMode) :
    reconstructWith inv A sh mode =
      let present : Fin (d + p) → Bool := fun i => (sh i).isSome
      if earlyB d p present mode then .ok sh
      else if countTrue present < d then .error .tooFew
      else
        let valid := firstPresent present d
        let sub : Mat F d d := Mat.ofFn fun i c =>
          match valid[i.val]? with
          | some vi => genRow A vi c
          | none => 0
        match inv sub with
        | none => .error .singular
        | some dec =>
          let subShard : Fin d → Shard F len := fun j =>
            match valid[j.val]? with
            | some vi => (sh vi).getD (Vector.replicate len 0)
            | none => Vector.replicate len 0
          let dataOut : Fin d → Option (Shard F len) := fun c =>
            match sh ⟨c.val, by omega⟩ with
            | some s => some s
            | none =>
              if (if isSomeMode mode then requiredAt mode c.val || parityReq d p present mode else true) then
                some (encodeRow (fun j => dec.get c j) subShard)
              else none
          if isDataOnly mode then
            .ok fun i => if h : i.val < d then dataOut ⟨i.val, h⟩ else sh i
          else
            let dataFull : Fin d → Shard F len := fun c => (dataOut c).getD (Vector.replicate len 0)
            .ok fun i =>
              if h : i.val < d then dataOut ⟨i.val, h⟩
              else match sh i with
                | some s => some s
                | none =>
                  if requiredAt mode i.val then
                    some (encodeRow (fun c => A.get ⟨i.val - d, by omega⟩ c) dataFull)
                  else none := by
  rcases mode with _ | _ | ⟨req, full⟩
  · rfl
  · rfl
  · cases full <;> rfl

/-- On a codeword with erasures, for any generator: `reconstruct` returns what the presence
pattern alone dictates (`reconShape`), every filled shard being the original one — except that in
the `fill` case it reports `singular` when the elimination fails on the selected sub-matrix. -/
theorem reconstruct_erase (A : Mat F p d) (data : Fin d → Shard F len)
    (present : Fin (d + p) → Bool) (mode : ReconMode) :
    reconstruct A (erase (encodeAll A data) present) mode =
      match reconShape d p present mode with
      | .unchanged => .ok (erase (encodeAll A data) present)
      | .tooFew => .error .tooFew
      | .fill filled =>
        match invert (subMat A present) with
        | some _ =>
          .ok fun i => if present i || filled.getD i.val false then some (encodeAll A data i) else none
        | none => .error .singular := by
  have hp : (fun i => (erase (encodeAll A data) present i).isSome) = present :=
    funext (erase_isSome _ _)
  rw [reconstruct, reconstructWith_def, reconShape_def]
  simp only [hp]
  by_cases he : earlyB d p present mode = true
  · rw [if_pos he, if_pos he]
  rw [if_neg he, if_neg he]
  by_cases hlt : countTrue present < d
  · rw [if_pos hlt, if_pos hlt]
  rw [if_neg hlt, if_neg hlt]
  have hd : d ≤ countTrue present := Nat.le_of_not_lt hlt
  rw [sub_eq_subMat A present hd]
  simp only [firstPresent_getElem? present hd, erase_of_present _ (validIdx_present present hd _),
    Option.getD_some]
  cases hinv : invert (subMat A present) with
  | none => rfl
  | some dec =>
    simp only [decode_eq A data present dec (invert_sound _ _ hinv), getD_map_finRange]
    -- a data slot after the decode step: kept if present, otherwise decoded exactly when `fillAt` says so
    have hdata : ∀ (c : Fin d) (hc : c.val < d + p),
        (match erase (encodeAll A data) present ⟨c.val, hc⟩ with
          | some s => some s
          | none =>
            if (if isSomeMode mode = true then requiredAt mode c.val || parityReq d p present mode else true) = true
            then some (data c) else none)
        = if (present ⟨c.val, hc⟩ || fillAt d p present mode ⟨c.val, hc⟩) = true then some (data c) else none := by
      intro c hc
      rw [erase_data, fillAt_of_lt _ _ _ c.isLt]
      cases present ⟨c.val, hc⟩ <;> simp
    have hlow : ∀ (i : Fin (d + p)) (hi : i.val < d), data ⟨i.val, hi⟩ = encodeAll A data i :=
      fun i hi => (encodeAll_of_lt A data i hi).symm
    by_cases hdo : isDataOnly mode = true
    · rw [if_pos hdo]
      congr 1; funext i
      by_cases hi : i.val < d
      · rw [dif_pos hi, ← hlow i hi]
        exact hdata ⟨i.val, hi⟩ i.isLt
      · rw [dif_neg hi, fillAt_of_ge _ _ _ hi, hdo]
        cases hpi : present i <;> simp [erase, hpi]
    · rw [if_neg hdo]
      congr 1; funext i
      by_cases hi : i.val < d
      · rw [dif_pos hi, ← hlow i hi]
        exact hdata ⟨i.val, hi⟩ i.isLt
      · rw [dif_neg hi, fillAt_of_ge _ _ _ hi]
        cases hpi : present i
        · rw [erase_of_absent _ hpi]
          cases hreq : requiredAt mode i.val
          · simp
          · -- a requested missing parity shard: every missing data shard has been decoded
            have hfill : ∀ (c : Fin d) (hc : c.val < d + p),
                (present ⟨c.val, hc⟩ || fillAt d p present mode ⟨c.val, hc⟩) = true := by
              intro c hc
              rw [fillAt_of_lt _ _ _ c.isLt]
              cases hs : isSomeMode mode
              · simp
              · simp [(parityReq_eq_true_iff present mode).mpr
                  ⟨by simpa using hdo, hs, i, Nat.le_of_not_lt hi, hpi, hreq⟩]
            simp only [hdata, hfill, if_true, Option.getD_some]
            simp [hdo, encodeAll_of_ge A data i hi, encodeSpec]
        · simp [erase, hpi]

end Field

end RSV.Model
