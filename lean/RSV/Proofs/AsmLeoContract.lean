import RSV.Proofs.AsmLeoSem
/-!
The contract of the remaining kernels is satisfiable: for every descriptor, length, stride and memory
contents `mkCtx` is a call that satisfies `Contract`.
-/
namespace RSV.Asm.Leo

def mkFrame (kd : KD) (N dist : Nat) (imms : Nat → Nat) (off : Nat) : Option Val :=
  match kd.frame off with
  | some (FArg.ptr .hdr) => some (Val.ptr .outHdr 0)
  | some (FArg.ptr (.tab t)) => some (Val.ptr (.tab t) 0)
  | some (FArg.ptr (.row k)) => some (Val.ptr (.out (k * dist)) 0)
  | some FArg.len => some (Val.num N)
  | some FArg.dist => some (Val.num (24 * dist))
  | some FArg.imm => some (Val.num (imms off))
  | none => none

def mkCtx (kd : KD) (N dist : Nat) (rows : Nat → Nat → Nat) (tabs : Nat → Nat → Nat) (imms : Nat → Nat) : Ctx where
  kd := kd
  env := { n := 0, start := 0, inputs := 0, outputs := kd.rows * dist + 1,
           size := fun r => match r with
             | .out _ => N
             | .tab t => kd.tabSize t
             | _ => 0,
           frame := mkFrame kd N dist imms,
           base := fun _ => 0 }
  m0 := fun r p => match r with
    | .out i => rows i p % 256
    | .tab t => tabs t p % 256
    | _ => 0
  N := N
  dist := dist

theorem mkCtx_contract (kd : KD) (N dist : Nat) (rows tabs : Nat → Nat → Nat) (imms : Nat → Nat)
    (hd : 0 < dist) (hdl : 24 * dist < M64) (hN : N < M64) (hout : 24 * (kd.rows * dist + 1) < M64)
    (hex : kd.exact = true → 0 < N ∧ N % kd.B = 0) : Contract (mkCtx kd N dist rows tabs imms) where
  dist_pos := hd
  dist_lt := hdl
  n_lt := hN
  hdr_lt := hout
  row_lt := by
    intro k hk
    change k < kd.rows at hk
    change k * dist < kd.rows * dist + 1
    have := Nat.mul_le_mul_right dist (Nat.le_of_lt hk)
    omega
  row_size := fun _ _ => Nat.le_refl _
  tab_size := fun _ => Nat.le_refl _
  bytes := by
    intro r p
    cases r <;> first | exact Nat.mod_lt _ (by decide) | (show 0 < 256; decide)
  frame_ok := by
    intro off a ha
    change kd.frame off = some a at ha
    change mkFrame kd N dist imms off = _
    cases a with
    | ptr b => cases b <;> simp only [mkFrame, ha] <;> rfl
    | len => simp only [mkFrame, ha]; rfl
    | dist => simp only [mkFrame, ha]; rfl
    | imm =>
      have : (mkCtx kd N dist rows tabs imms).immq off = imms off := by
        unfold Ctx.immq
        change (match mkFrame kd N dist imms off with | some (.num q) => q | _ => 0) = _
        simp only [mkFrame, ha]
      simp only [mkFrame, ha, Ctx.argVal, this]
  hdr_len := fun _ => rfl
  exact := hex
  aligned := fun _ _ _ => rfl

end RSV.Asm.Leo
