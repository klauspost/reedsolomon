import RSV.Proofs.GenGauss
import RSV.Proofs.GenSubMatrix
import RSV.Proofs.Gauss
/-!
# The regenerated `matrix.Invert` equals the model's `invert`

`Agree E s`: the entry function `E` of an `n × 2n` array coincides with the state `s = ⟨L, R⟩` of the model's
elimination (left half `L`, right half `R`).  One column of the Go code's first sweep (`colF`: pivot search that
looks at the diagonal first, swap, scaling skipped when the pivot is `1`, elimination below skipping zero entries)
maps agreeing states to agreeing states and fails exactly when `Model.step1` does; the same for the second sweep.
`invert_arr` is the closed form of `Gen.matrix_Invert` on entries (`IsSquare`, `identityMatrix`, `Augment`,
`gaussianElimination`, `SubMatrix` composed); `matrix_Invert_eq_model` puts the two together.
-/
namespace RSV.GenInvert
open RSV.Gen RSV.Model RSV.GenMatrix RSV.GenFuncs RSV.GenGauss RSV.GenSubMatrix

theorem galMultiply_val (x y : GF256) : galMultiply x.val y.val = (x * y).val :=
  Tables.mulTable_ok x.val y.val x.isLt y.isLt

theorem oneOver_val (x : GF256) (hx : x ≠ 0) : oneOver x.val = (x⁻¹).val := by
  have h0 : x.val ≠ 0 := (GF256.val_ne_zero x).1 hx
  have h1 := galOneOver_ne_zero h0
  have h2 := galOneOver_field x.isLt h0
  rw [h1, GF256.ofNat_val_self] at h2
  exact Option.some.inj h2

/-- one half of the augmented matrix: column `j` of `X` is column `φ j` of the array -/
def AgreeH {n : Nat} (φ : Nat → Nat) (E : Nat → Nat → Nat) (X : Mat GF256 n n) : Prop :=
  ∀ i j : Fin n, E i.val (φ j.val) = (X.get i j).val

def Agree {n : Nat} (E : Nat → Nat → Nat) (s : GState GF256 n) : Prop :=
  AgreeH id E s.L ∧ AgreeH (fun j => n + j) E s.R

theorem swapIdx_val {n : Nat} (a b r : Fin n) : (swapIdx a b r).val = swp a.val b.val r.val := by
  unfold swapIdx swp
  by_cases h1 : r = a
  · subst h1; simp
  · have h1' : ¬ r.val = a.val := fun e => h1 (Fin.ext e)
    by_cases h2 : r = b
    · subst h2; simp [h1, h1']
    · have h2' : ¬ r.val = b.val := fun e => h2 (Fin.ext e)
      simp [h1, h2, h1', h2']

theorem agree_swap {n : Nat} {φ : Nat → Nat} {E : Nat → Nat → Nat} {X : Mat GF256 n n} (h : AgreeH φ E X)
    (a b : Fin n) : AgreeH φ (fun i j => E (swp a.val b.val i) j) (rowSwap X a b) := by
  intro i j
  simp only [rowSwap, Mat.get_ofFn]
  rw [← swapIdx_val]
  exact h _ j

theorem agree_scale {n : Nat} {φ : Nat → Nat} {E : Nat → Nat → Nat} {X : Mat GF256 n n} (h : AgreeH φ E X)
    (r : Fin n) (c : GF256) : AgreeH φ (scaleF E r.val c.val) (rowScale X r c) := by
  intro i j
  simp only [rowScale, Mat.get_ofFn, scaleF]
  by_cases hi : i = r
  · subst hi
    simp only [if_true]
    rw [h i j, galMultiply_val]
    show gmul _ _ = gmul _ _
    exact gmul_comm (X.get i j).isLt c.isLt
  · have : ¬ i.val = r.val := fun e => hi (Fin.ext e)
    simp only [hi, this, if_false]
    exact h i j

theorem agree_scale_one {n : Nat} {φ : Nat → Nat} {E : Nat → Nat → Nat} {X : Mat GF256 n n} (h : AgreeH φ E X)
    (r : Fin n) : AgreeH φ E (rowScale X r 1) := by
  intro i j
  simp only [rowScale, Mat.get_ofFn]
  by_cases hi : i = r
  · subst hi
    simp only [if_true]
    rw [h i j]
    show _ = gmul 1 _
    exact (gmul_one_left (X.get i j).isLt).symm
  · simp only [hi, if_false]
    exact h i j

/-- clearing column `q` in the rows `[lo, lo + cnt)`: the model subtracts `coef i · row q` from every row `i` -/
theorem agree_elim {n : Nat} {φ : Nat → Nat} {E : Nat → Nat → Nat} {X : Mat GF256 n n} (h : AgreeH φ E X)
    (q : Fin n) (lo cnt : Nat) (coef : Fin n → GF256)
    (hin : ∀ i : Fin n, lo ≤ i.val ∧ i.val < lo + cnt → E i.val q.val = (coef i).val)
    (hout : ∀ i : Fin n, ¬ (lo ≤ i.val ∧ i.val < lo + cnt) → coef i = 0) :
    AgreeH φ (elimF E q.val lo cnt) (rowElim X q coef) := by
  intro i j
  simp only [rowElim, Mat.get_ofFn, elimF]
  by_cases hi : lo ≤ i.val ∧ i.val < lo + cnt
  · rw [if_pos hi, hin i hi, h i j, h q j, galMultiply_val]
    rfl
  · rw [if_neg hi, hout i hi, h i j]
    show _ = (X.get i j).val ^^^ gmul 0 _
    rw [gmul_zero_left, Nat.xor_zero]

/-- the pivot predicate of the model -/
def pivP {n : Nat} (L : Mat GF256 n n) (r : Fin n) : Fin n → Bool :=
  fun i => decide (r ≤ i) && decide (L.get i r ≠ 0)

theorem pivP_true {n : Nat} {L : Mat GF256 n n} {E : Nat → Nat → Nat} (h : AgreeH id E L) (r i : Fin n) :
    pivP L r i = true ↔ (r.val ≤ i.val ∧ E i.val r.val ≠ 0) := by
  unfold pivP
  have := h i r
  simp only [id] at this
  rw [this, ← GF256.val_ne_zero]
  simp only [Bool.and_eq_true, decide_eq_true_eq]
  exact Iff.rfl

theorem pivP_false {n : Nat} {L : Mat GF256 n n} {E : Nat → Nat → Nat} (h : AgreeH id E L) (r i : Fin n) :
    pivP L r i = false ↔ ¬ (r.val ≤ i.val ∧ E i.val r.val ≠ 0) := by
  rw [← pivP_true h r i]; simp

/-- both searches return the least row at or below the diagonal with a non-zero entry in column `r` -/
theorem pivot_agree {n : Nat} {L : Mat GF256 n n} {E : Nat → Nat → Nat} (h : AgreeH id E L) (r : Fin n) :
    pivotF n E r.val = (findFirst (pivP L r)).map fun p i j => E (swp r.val p.val i) j := by
  unfold pivotF
  have hn : r.val + (n - r.val) = n := by have := r.isLt; omega
  cases hf : findFirst (pivP L r) with
  | none =>
    cases hq : firstFrom (fun i => decide (E i r.val ≠ 0)) r.val (n - r.val) with
    | none => rfl
    | some p' =>
      obtain ⟨h1, h2, h3, _⟩ := firstFrom_some hq
      exact absurd ⟨h1, by simpa using h3⟩ ((pivP_false h r ⟨p', by omega⟩).1 (findFirst_none hf _))
  | some p =>
    obtain ⟨hp, hmin⟩ := findFirst_eq_some_iff.1 hf
    have hpt := (pivP_true h r p).1 hp
    cases hq : firstFrom (fun i => decide (E i r.val ≠ 0)) r.val (n - r.val) with
    | none =>
      have := firstFrom_none hq p.val hpt.1 (by have := p.isLt; omega)
      exact absurd hpt.2 (by simpa using this)
    | some p' =>
      obtain ⟨h1, h2, h3, h4⟩ := firstFrom_some hq
      have : p' = p.val := by
        rcases Nat.lt_trichotomy p' p.val with hlt | heq | hgt
        · exact absurd ⟨h1, by simpa using h3⟩ ((pivP_false h r ⟨p', by omega⟩).1 (hmin _ hlt))
        · exact heq
        · exact absurd hpt.2 (by simpa using h4 p.val hpt.1 hgt)
      rw [this]; rfl

/-- scale to a leading `1` (skipped by Go when it is `1`) and clear below, on one half -/
theorem agree_tail {n : Nat} {φ : Nat → Nat} {E : Nat → Nat → Nat} {L X : Mat GF256 n n}
    (hL : AgreeH id E L) (hX : AgreeH φ E X) (r : Fin n) (hnz : L.get r r ≠ 0) :
    AgreeH φ (tailF n E r.val)
      (rowElim (rowScale X r (L.get r r)⁻¹) r
        (fun i => if r < i then (rowScale L r (L.get r r)⁻¹).get i r else 0)) := by
  unfold tailF
  have hrr : E r.val r.val = (L.get r r).val := hL r r
  -- the scaled state agrees on both halves
  have hsc : ∀ {ψ : Nat → Nat} {Y : Mat GF256 n n}, AgreeH ψ E Y →
      AgreeH ψ (if E r.val r.val ≠ 1 then scaleF E r.val (oneOver (E r.val r.val)) else E)
        (rowScale Y r (L.get r r)⁻¹) := by
    intro ψ Y hY
    by_cases h1 : E r.val r.val = 1
    · have : L.get r r = 1 := GF256.ext (by rw [← hrr, h1]; rfl)
      rw [this, inv_one]
      simp only [h1, ne_eq, not_true_eq_false, if_false]
      exact agree_scale_one hY r
    · simp only [h1, ne_eq, not_false_eq_true, if_true]
      rw [hrr, oneOver_val _ hnz]
      exact agree_scale hY r _
  apply agree_elim (hsc hX) r
  · intro i hi
    have : r < i := by show r.val < i.val; omega
    rw [if_pos this]
    exact hsc hL i r
  · intro i hi
    have : ¬ r < i := fun hlt => hi ⟨hlt, by have := i.isLt; omega⟩
    rw [if_neg this]

theorem colF_agree {n : Nat} {E : Nat → Nat → Nat} {s : GState GF256 n} (h : Agree E s) (r : Fin n) :
    match step1 r s with
    | none => colF n r.val E = none
    | some s' => ∃ E', colF n r.val E = some E' ∧ Agree E' s' := by
  unfold step1 colF
  rw [pivot_agree h.1 r]
  unfold pivP
  cases hf : findFirst (fun i => decide (r ≤ i) && decide (s.L.get i r ≠ 0)) with
  | none => rfl
  | some p =>
    have hnz : (rowSwap s.L r p).get r r ≠ 0 := by
      have hpt := findFirst_some hf
      simp only [Bool.and_eq_true, decide_eq_true_eq] at hpt
      simp only [rowSwap, Mat.get_ofFn, swapIdx, if_true]
      exact hpt.2
    exact ⟨_, rfl, agree_tail (agree_swap h.1 r p) (agree_swap h.1 r p) r hnz,
      agree_tail (agree_swap h.1 r p) (agree_swap h.2 r p) r hnz⟩

theorem agree_up {n : Nat} {φ : Nat → Nat} {E : Nat → Nat → Nat} {L X : Mat GF256 n n}
    (hL : AgreeH id E L) (hX : AgreeH φ E X) (d : Fin n) :
    AgreeH φ (upF d.val E) (rowElim X d fun i => if i < d then L.get i d else 0) := by
  apply agree_elim hX d
  · intro i hi
    have : i < d := by show i.val < d.val; omega
    rw [if_pos this]
    exact hL i d
  · intro i hi
    have : ¬ i < d := fun hlt => hi ⟨Nat.zero_le _, by have : i.val < d.val := hlt; omega⟩
    rw [if_neg this]

theorem upF_agree {n : Nat} {E : Nat → Nat → Nat} {s : GState GF256 n} (h : Agree E s) (d : Fin n) :
    Agree (upF d.val E) (step2 d s) :=
  ⟨agree_up h.1 h.1 d, agree_up h.1 h.2 d⟩

def invRes (n : Nat) (A : Nat → Nat → Nat) : Array (Array Nat) × Option String :=
  match runSteps (colF n) 0 n (augF n A fun i j => if i = j then 1 else 0) with
  | .ok E1 => (arr n n (fun i j => sweep2 E1 n i (n + j)), none)
  | .error _ => (#[], some "errSingular")

theorem invert_arr (n : Nat) (A : Nat → Nat → Nat) (hn : 0 < n) (hb : n < 2 ^ 62) :
    matrix_Invert (arr n n A) = some (invRes n A) := by
  unfold matrix_Invert matrix_IsSquare
  have h0 : gidx (arr n n A) (0 : Int) = some (mkRow n (A 0)) := gidx_arr (i := 0) hn
  rw [h0]
  simp only [Option.bind_eq_bind, Option.bind_some, Option.pure_def, size_arr, size_mkRow, decide_true,
    Bool.not_true, Bool.false_eq_true, if_false, Int.ofNat_eq_natCast]
  rw [identity_arr n hn, Option.bind_some]
  simp only []
  rw [augment_arr n n n A _ hn hn hn (by omega), Option.bind_some]
  simp only []
  rw [gauss_arr n (n + n) _ hn (by omega) hb, Option.bind_some]
  unfold gaussRes invRes
  cases hrun : runSteps (colF n) 0 n (augF n A fun i j => if i = j then 1 else 0) with
  | error E' =>
    simp only [ne_eq, reduceCtorEq, not_false_eq_true, if_true]
  | ok E1 =>
    simp only [ne_eq, not_true_eq_false, if_false]
    rw [submatrix_right n (n + n) _ hn (Nat.le_refl _) hb, Option.bind_some]

theorem phase1_agree {n : Nat} {E : Nat → Nat → Nat} {s : GState GF256 n} (h : Agree E s) :
    ∀ (k : Nat) (hk : k ≤ n),
      match phase1 s k hk with
      | some s' => ∃ E', runSteps (colF n) 0 k E = .ok E' ∧ Agree E' s'
      | none => ∃ E', runSteps (colF n) 0 k E = .error E' := by
  intro k
  induction k with
  | zero => intro _; exact ⟨E, rfl, h⟩
  | succ k ih =>
    intro hk
    have ih := ih (Nat.le_of_succ_le hk)
    rw [show phase1 s (k + 1) hk = (phase1 s k (Nat.le_of_succ_le hk)).bind (step1 ⟨k, hk⟩) from rfl,
      runSteps_snoc, Nat.zero_add]
    cases hp : phase1 s k (Nat.le_of_succ_le hk) with
    | none =>
      rw [hp] at ih
      obtain ⟨E', hE'⟩ := ih
      rw [hE']
      exact ⟨E', rfl⟩
    | some s1 =>
      rw [hp] at ih
      obtain ⟨E1, hE1, hA1⟩ := ih
      rw [hE1, Option.bind_some]
      have hc := colF_agree hA1 ⟨k, hk⟩
      cases hst : step1 ⟨k, hk⟩ s1 with
      | none =>
        rw [hst] at hc
        simp only [] at hc ⊢
        rw [hc]
        exact ⟨E1, rfl⟩
      | some s2 =>
        rw [hst] at hc
        obtain ⟨E2, hE2, hA2⟩ := hc
        simp only []
        rw [hE2]
        exact ⟨E2, rfl, hA2⟩

theorem phase2_agree {n : Nat} {E : Nat → Nat → Nat} {s : GState GF256 n} (h : Agree E s) :
    ∀ (k : Nat) (hk : k ≤ n), Agree (sweep2 E k) (phase2 s k hk) := by
  intro k
  induction k with
  | zero => intro _; exact h
  | succ k ih =>
    intro hk
    exact upF_agree (ih (Nat.le_of_succ_le hk)) ⟨k, hk⟩

theorem agree_init (n : Nat) (a : Array (Array Nat)) (hb : ∀ i j, i < n → j < n → (a[i]!)[j]! < 256) :
    Agree (augF n (fun i j => (a[i]!)[j]!) fun i j => if i = j then 1 else 0) (⟨matOfRows a n, identity n⟩ : GState GF256 n) := by
  constructor
  · intro i j
    simp only [id, augF, j.isLt, if_true, matOfRows, Mat.get_ofFn]
    exact (GF256.ofNat_val_lt (hb i.val j.val i.isLt j.isLt)).symm
  · intro i j
    have h1 : ¬ (n + j.val < n) := by omega
    have h2 : n + j.val - n = j.val := by omega
    simp only [augF, h1, if_false, h2, identity, Mat.get_ofFn]
    by_cases e : i = j
    · subst e; simp
    · have : ¬ i.val = j.val := fun e' => e (Fin.ext e')
      simp [e, this]

theorem matrix_Invert_eq_model (n : Nat) (hn : 0 < n) (hn62 : n < 2 ^ 62) (a : Array (Array Nat))
    (hsz : a.size = n) (hrow : ∀ i, i < n → (a[i]!).size = n)
    (hb : ∀ i j, i < n → j < n → (a[i]!)[j]! < 256) :
    Gen.matrix_Invert a =
      match Model.invert (matOfRows a n) with
      | some B => some (rowsOfMat B, none)
      | none => some (#[], some "errSingular") := by
  have ha := arr_of_array n a hsz hrow
  have h1 := phase1_agree (agree_init n a hb) n (Nat.le_refl n)
  rw [ha, invert_arr n _ hn hn62, ← ha]
  unfold invRes Model.invert
  cases hp : phase1 (⟨matOfRows a n, identity n⟩ : GState GF256 n) n (Nat.le_refl n) with
  | none =>
    rw [hp] at h1
    obtain ⟨E', hE'⟩ := h1
    rw [hE']
    rfl
  | some s1 =>
    rw [hp] at h1
    obtain ⟨E1, hE1, hA1⟩ := h1
    rw [hE1]
    simp only [Option.map_some]
    refine congrArg (fun x => some (x, (none : Option String))) (arr_eq_rowsOfMat _ _ ?_)
    exact (phase2_agree hA1 n (Nat.le_refl n)).2

theorem matrix_Invert_ok {n : Nat} (hn : 0 < n) (hn62 : n < 2 ^ 62) (a : Array (Array Nat))
    (hsz : a.size = n) (hrow : ∀ i, i < n → (a[i]!).size = n)
    (hb : ∀ i j, i < n → j < n → (a[i]!)[j]! < 256) (inv : Array (Array Nat))
    (h : Gen.matrix_Invert a = some (inv, none)) :
    ∃ B : Mat GF256 n n, Model.invert (matOfRows a n) = some B ∧ inv = rowsOfMat B ∧
      B.toMatrix * (matOfRows a n).toMatrix = 1 ∧ (matOfRows a n).toMatrix * B.toMatrix = 1 := by
  rw [matrix_Invert_eq_model n hn hn62 a hsz hrow hb] at h
  cases hi : Model.invert (matOfRows a n) with
  | none => rw [hi] at h; simp at h
  | some B =>
    rw [hi] at h
    simp only [Option.some.injEq, Prod.mk.injEq, and_true] at h
    exact ⟨B, rfl, h.symm, invert_sound _ _ hi, invert_sound' _ _ hi⟩

theorem matrix_Invert_singular_iff {n : Nat} (hn : 0 < n) (hn62 : n < 2 ^ 62) (a : Array (Array Nat))
    (hsz : a.size = n) (hrow : ∀ i, i < n → (a[i]!).size = n)
    (hb : ∀ i j, i < n → j < n → (a[i]!)[j]! < 256) :
    Gen.matrix_Invert a = some (#[], some "errSingular") ↔ ¬ IsUnit (matOfRows a n).toMatrix := by
  rw [matrix_Invert_eq_model n hn hn62 a hsz hrow hb, ← invert_eq_none_iff]
  cases hi : Model.invert (matOfRows a n) with
  | none => simp
  | some B => simp

/-- `genInvertAgrees` (an executable comparison of `Gen.matrix_Invert` with the model, run by the
harness on sample matrices) can only answer `true` -/
theorem genInvertAgrees_true (rows : List (List Nat)) (h : squareBytes rows = true)
    (hlen : rows.length < 2 ^ 62) : genInvertAgrees rows = true := by
  have hsq := h
  unfold squareBytes at h
  simp only [Bool.and_eq_true, bne_iff_ne, ne_eq, List.all_eq_true, beq_iff_eq, decide_eq_true_eq] at h
  obtain ⟨h0, hall⟩ := h
  unfold genInvertAgrees
  simp only [hsq, Bool.true_and]
  have hsz : ((rows.map List.toArray).toArray).size = rows.length := by simp
  have hget : ∀ i, (hi : i < rows.length) → ((rows.map List.toArray).toArray)[i]! = (rows[i]).toArray := by
    intro i hi
    rw [getElem!_pos _ i (by simpa using hi)]
    simp
  have hrow : ∀ i, i < rows.length → (((rows.map List.toArray).toArray)[i]!).size = rows.length := by
    intro i hi
    rw [hget i hi]
    simpa using (hall _ (List.getElem_mem hi)).1
  have hb : ∀ i j, i < rows.length → j < rows.length → (((rows.map List.toArray).toArray)[i]!)[j]! < 256 := by
    intro i j hi hj
    rw [hget i hi]
    have hr := hall _ (List.getElem_mem hi)
    have hj' : j < (rows[i]).length := by rw [hr.1]; exact hj
    rw [getElem!_pos _ j (by simpa using hj')]
    simpa using hr.2 _ (List.getElem_mem hj')
  rw [matrix_Invert_eq_model rows.length (by omega) hlen _ hsz hrow hb]
  cases hi : Model.invert (matOfRows (rows.map List.toArray).toArray rows.length) with
  | none => rfl
  | some B => simp

end RSV.GenInvert
