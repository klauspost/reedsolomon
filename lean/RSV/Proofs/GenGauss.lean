import RSV.Proofs.GenMatrix
/-!
# The regenerated `gaussianElimination` in closed form

`gauss_arr`: on every `n × w` array (`0 < n ≤ w`, `n < 2^62`) the translated Go function returns `gaussRes n w E`:
the first sweep is `runSteps (colF n)` (column steps `colF`: pivot search with swap, scaling with the `!= 1`
shortcut, elimination below with the `!= 0` shortcut; `.error` = no pivot = `errSingular` with the matrix as it is
at that moment), the second sweep is `sweep2`.  The lemmas on the way are stated in the shape the translated code
has after `unfold` + `simp only [Option.bind_eq_bind, Int.ofNat_eq_natCast, Int.zero_add, Int.sub_zero, Int.toNat_natCast]`;
row indices that the Go code computes in `int` enter as a function `idx` with `idx k = lo + k`.
-/
namespace RSV.GenGauss
open RSV.Gen RSV.GenMatrix RSV.GenFuncs

theorem axpy_loop (n w : Nat) (E : Nat → Nat → Nat) (t q s : Nat) (ht : t < n) (hq : q < n) (htq : t ≠ q) :
    (forIn [:w] (arr n w E) fun (c'k : Nat) (__s : Array (Array Nat)) =>
      (gidx __s (t : Int)).bind fun a => (gidx a (c'k : Int)).bind fun x =>
      (gidx __s (q : Int)).bind fun b => (gidx b (c'k : Int)).bind fun y =>
      (gset2 __s (t : Int) (c'k : Int) (x ^^^ galMultiply s y)).bind fun m => pure (ForInStep.yield m))
    = some (arr n w (fun i j => if i = t then E t j ^^^ galMultiply s (E q j) else E i j)) := by
  refine forIn_cols_all n w t E (fun j => E t j ^^^ galMultiply s (E q j)) _ ?_
  intro c hc E' hE'
  rw [gidx2_arr ht hc, gidx2_arr hq hc, gset2_arr _ ht hc, Option.bind_some, hE' t c (by omega),
    hE' q c (fun h => htq h.1.symm)]
  rfl

def scaleF (E : Nat → Nat → Nat) (r s : Nat) : Nat → Nat → Nat :=
  fun i j => if i = r then galMultiply (E r j) s else E i j

def elimF (E : Nat → Nat → Nat) (q lo cnt : Nat) : Nat → Nat → Nat :=
  fun i j => if lo ≤ i ∧ i < lo + cnt then E i j ^^^ galMultiply (E i q) (E q j) else E i j

theorem scale_loop (n w : Nat) (E : Nat → Nat → Nat) (r s : Nat) (hr : r < n) :
    (forIn [:w] (arr n w E) fun (c'k : Nat) (__s : Array (Array Nat)) =>
      (gidx __s (r : Int)).bind fun a => (gidx a (c'k : Int)).bind fun x =>
      (gset2 __s (r : Int) (c'k : Int) (galMultiply x s)).bind fun m => pure (ForInStep.yield m))
    = some (arr n w (scaleF E r s)) := by
  refine forIn_cols_all n w r E (fun j => galMultiply (E r j) s) _ ?_
  intro c hc E' hE'
  rw [gidx2_arr hr hc, gset2_arr _ hr hc, Option.bind_some, hE' r c (by omega)]
  rfl

/-- the loop that clears column `q` in the rows `idx k`: `row t ^= m[t][q] · row q`, skipped when `m[t][q] = 0` -/
abbrev elimBody (w q : Nat) (idx : Nat → Int) :
    Nat → Array (Array Nat) → Option (ForInStep (Array (Array Nat))) :=
  fun (k : Nat) (__s : Array (Array Nat)) =>
    (gidx __s (idx k)).bind fun a => (gidx a (q : Int)).bind fun x =>
      if x ≠ 0 then
        (gidx __s (idx k)).bind fun a' => (gidx a' (q : Int)).bind fun sc =>
          (forIn [:w] __s fun (c'k : Nat) (__s : Array (Array Nat)) =>
            (gidx __s (idx k)).bind fun a => (gidx a (c'k : Int)).bind fun x =>
            (gidx __s (q : Int)).bind fun b => (gidx b (c'k : Int)).bind fun y =>
            (gset2 __s (idx k) (c'k : Int) (x ^^^ galMultiply sc y)).bind fun m => pure (ForInStep.yield m)).bind
            fun m => pure (ForInStep.yield m)
      else pure (ForInStep.yield __s)

theorem elim_loop (n w : Nat) (E : Nat → Nat → Nat) (q lo cnt : Nat) (idx : Nat → Int)
    (hidx : ∀ k, k < cnt → idx k = ((lo + k : Nat) : Int)) (hrange : lo + cnt ≤ n) (hq : q < n) (hqw : q < w)
    (hne : ∀ k, k < cnt → lo + k ≠ q) :
    forIn [:cnt] (arr n w E) (elimBody w q idx) = some (arr n w (elimF E q lo cnt)) := by
  refine forIn_rows n w lo cnt E (fun i j => E i j ^^^ galMultiply (E i q) (E q j)) _ ?_
  intro k hk E' hE'
  have ht : lo + k < n := by omega
  have hrow : ∀ j, E' (lo + k) j = E (lo + k) j := fun j => hE' _ j (by omega)
  have hq' : ∀ j, E' q j = E q j := fun j => hE' q j (fun h => hne (q - lo) (by omega) (by omega))
  simp only [elimBody]
  rw [hidx k hk, gidx2_arr ht hqw, hrow]
  by_cases hx : E (lo + k) q = 0
  · rw [if_neg (not_not.mpr hx)]
    refine ⟨E', rfl, fun i j _ _ => ?_⟩
    by_cases hi : i = lo + k
    · subst hi; rw [if_pos rfl, hrow, hx, galMultiply_zero_left, Nat.xor_zero]
    · rw [if_neg hi]
  · rw [if_pos hx, gidx2_arr ht hqw, hrow, axpy_loop n w E' (lo + k) q _ ht hq (hne k hk), Option.bind_some]
    refine ⟨_, rfl, fun i j _ _ => ?_⟩
    by_cases hi : i = lo + k
    · subst hi; rw [if_pos rfl, if_pos rfl, hrow, hq']
    · rw [if_neg hi, if_neg hi]

/-- the search loop below row `r` with its `break` -/
abbrev pivotBody (r : Nat) (idx : Nat → Int) (k : Nat)
    (__s : Option (Array (Array Nat) × Option String) × Array (Array Nat)) :
    Option (ForInStep (Option (Array (Array Nat) × Option String) × Array (Array Nat))) :=
  (gidx __s.2 (idx k)).bind fun a => (gidx a (r : Int)).bind fun x =>
    if x ≠ 0 then
      (matrix_SwapRows __s.2 (r : Int) (idx k)).bind fun t'3 =>
        if t'3.2 ≠ none then pure (ForInStep.done (some (t'3.1, t'3.2), t'3.1))
        else pure (ForInStep.done (none, t'3.1))
    else pure (ForInStep.yield (none, __s.2))

theorem pivot_loop_found (n w : Nat) (E : Nat → Nat → Nat) (r p cnt : Nat) (idx : Nat → Int)
    (hidx : ∀ k, k < cnt → idx k = ((r + 1 + k : Nat) : Int)) (hcnt : r + 1 + cnt = n) (hrw : r < w)
    (hrp : r < p) (hp : p < n) (hpz : E p r ≠ 0) (hz : ∀ i, r < i → i < p → E i r = 0) :
    forIn [:cnt] ((none : Option (Array (Array Nat) × Option String)), arr n w E) (pivotBody r idx)
    = some (none, arr n w (fun i j => E (swp r p i) j)) := by
  apply forIn_range_stop cnt _ (fun _ => ((none : Option (Array (Array Nat) × Option String)), arr n w E)) _
    (p - (r + 1)) (by omega)
  · intro k hk
    simp only [pivotBody]
    rw [hidx k (by omega), gidx2_arr (by omega) hrw, if_neg (not_not.mpr (hz _ (by omega) (by omega)))]
    rfl
  · simp only [pivotBody]
    rw [hidx _ (by omega), show r + 1 + (p - (r + 1)) = p by omega, gidx2_arr hp hrw, if_pos hpz,
      swapRows_arr n w E r p (by omega) hp, Option.bind_some]
    rfl

theorem pivot_loop_none (n w : Nat) (E : Nat → Nat → Nat) (r cnt : Nat) (idx : Nat → Int)
    (hidx : ∀ k, k < cnt → idx k = ((r + 1 + k : Nat) : Int)) (hcnt : r + 1 + cnt = n) (hrw : r < w)
    (hz : ∀ i, r < i → i < n → E i r = 0) :
    forIn [:cnt] ((none : Option (Array (Array Nat) × Option String)), arr n w E) (pivotBody r idx)
    = some (none, arr n w E) := by
  apply forIn_range_yield cnt _ (fun _ => ((none : Option (Array (Array Nat) × Option String)), arr n w E))
  intro k hk
  simp only [pivotBody]
  rw [hidx k hk, gidx2_arr (by omega) hrw, if_neg (not_not.mpr (hz _ (by omega) (by omega)))]
  rfl

def oneOver (x : Nat) : Nat := byteAt expTable (byteAt logTable x ^^^ 255)

theorem galOneOver_ne_zero {x : Nat} (hx : x ≠ 0) : galOneOver x = some (oneOver x) := by
  unfold galOneOver; simp only [hx, if_false]; rfl

def tailF (n : Nat) (E : Nat → Nat → Nat) (r : Nat) : Nat → Nat → Nat :=
  elimF (if E r r ≠ 1 then scaleF E r (oneOver (E r r)) else E) r (r + 1) (n - (r + 1))

theorem elimBelow (n w : Nat) (E : Nat → Nat → Nat) (r : Nat) (hr : r < n) (hrw : r < w)
    (hn : n < 2 ^ 62) :
    forIn [:(↑n - i64 (↑r + 1)).toNat] (arr n w E) (elimBody w r fun k => i64 (↑r + 1) + ↑k)
      = some (arr n w (elimF E r (r + 1) (n - (r + 1)))) := by
  have hcnt : (↑n - i64 (↑r + 1)).toNat = n - (r + 1) := by
    rw [i64_id (by omega) (by omega)]; omega
  rw [hcnt]
  exact elim_loop n w E r (r + 1) (n - (r + 1)) _
    (by intro k _; rw [i64_id (by omega) (by omega)]; omega) (by omega) hr hrw (by intro k _; omega)

/-- the part of the first sweep's body after the pivot search: singularity test, scaling, elimination below -/
theorem tail_step (n w : Nat) (E : Nat → Nat → Nat) (r : Nat) (hr : r < n) (hrw : r < w) (hnz : E r r ≠ 0)
    (hn : n < 2 ^ 62) :
    ((gidx (arr n w E) (r : Int)).bind fun a3 => (gidx a3 (r : Int)).bind fun x4 =>
      if x4 = 0 then
        pure (ForInStep.done (some (arr n w E, some "errSingular"), arr n w E))
      else
        (gidx (arr n w E) (r : Int)).bind fun a5 => (gidx a5 (r : Int)).bind fun x6 =>
          if x6 ≠ 1 then
            (gidx (arr n w E) (r : Int)).bind fun a7 => (gidx a7 (r : Int)).bind fun x8 =>
              (galOneOver x8).bind fun s9 =>
                (forIn [:w] (arr n w E) fun (c'k : Nat) (__s : Array (Array Nat)) =>
                  (gidx __s (r : Int)).bind fun a => (gidx a (c'k : Int)).bind fun x =>
                  (gset2 __s (r : Int) (c'k : Int) (galMultiply x s9)).bind fun m => pure (ForInStep.yield m)).bind
                  fun __s =>
                  (forIn [:(↑n - i64 (↑r + 1)).toNat] __s (elimBody w r fun k => i64 (↑r + 1) + ↑k)).bind
                    fun __s => pure (ForInStep.yield ((none : Option (Array (Array Nat) × Option String)), __s))
          else
            (forIn [:(↑n - i64 (↑r + 1)).toNat] (arr n w E) (elimBody w r fun k => i64 (↑r + 1) + ↑k)).bind
              fun __s => pure (ForInStep.yield ((none : Option (Array (Array Nat) × Option String)), __s)))
    = some (ForInStep.yield (none, arr n w (tailF n E r))) := by
  rw [gidx2_arr hr hrw, if_neg hnz, gidx2_arr hr hrw]
  unfold tailF
  by_cases h1 : E r r = 1
  · rw [if_neg (not_not.mpr h1), if_neg (not_not.mpr h1), elimBelow n w E r hr hrw hn]
    rfl
  · rw [if_pos h1, if_pos h1, gidx2_arr hr hrw, galOneOver_ne_zero hnz, Option.bind_some,
      scale_loop n w E r _ hr, Option.bind_some, elimBelow n w _ r hr hrw hn]
    rfl

def firstFrom (P : Nat → Bool) : Nat → Nat → Option Nat
  | _, 0 => none
  | lo, cnt + 1 => if P lo then some lo else firstFrom P (lo + 1) cnt

theorem firstFrom_some {P : Nat → Bool} : ∀ {cnt lo p : Nat}, firstFrom P lo cnt = some p →
    lo ≤ p ∧ p < lo + cnt ∧ P p = true ∧ ∀ i, lo ≤ i → i < p → P i = false := by
  intro cnt
  induction cnt with
  | zero => intro lo p h; simp [firstFrom] at h
  | succ cnt ih =>
    intro lo p h
    unfold firstFrom at h
    by_cases hP : P lo = true
    · simp only [hP, if_true, Option.some.injEq] at h
      subst h
      exact ⟨Nat.le_refl _, by omega, hP, fun i h1 h2 => by omega⟩
    · simp only [hP] at h
      obtain ⟨h1, h2, h3, h4⟩ := ih h
      refine ⟨by omega, by omega, h3, fun i hi1 hi2 => ?_⟩
      by_cases e : i = lo
      · subst e; simpa using hP
      · exact h4 i (by omega) hi2

theorem firstFrom_none {P : Nat → Bool} : ∀ {cnt lo : Nat}, firstFrom P lo cnt = none →
    ∀ i, lo ≤ i → i < lo + cnt → P i = false := by
  intro cnt
  induction cnt with
  | zero => intro lo _ i h1 h2; omega
  | succ cnt ih =>
    intro lo h i h1 h2
    unfold firstFrom at h
    by_cases hP : P lo = true
    · simp [hP] at h
    · simp only [hP] at h
      by_cases e : i = lo
      · subst e; simpa using hP
      · exact ih h i (by omega) (by omega)

/-- the pivot step on entries: the first row at or below the diagonal with a non-zero entry in column `r` is
swapped into row `r`; `none` = no pivot (singular).  The Go code tests the diagonal entry before it searches the
rows below: the same search. -/
def pivotF (n : Nat) (E : Nat → Nat → Nat) (r : Nat) : Option (Nat → Nat → Nat) :=
  (firstFrom (fun i => decide (E i r ≠ 0)) r (n - r)).map fun p i j => E (swp r p i) j

theorem pivotF_diag {n : Nat} {E : Nat → Nat → Nat} {r : Nat} (hr : r < n) (h : E r r ≠ 0) :
    pivotF n E r = some E := by
  unfold pivotF
  obtain ⟨m, hm⟩ : ∃ m, n - r = m + 1 := ⟨n - r - 1, by omega⟩
  rw [hm, firstFrom, if_pos (by simpa using h)]
  exact congrArg some (funext fun i => funext fun j => by show E (swp r r i) j = E i j; rw [swp_same])

theorem pivotF_below {n : Nat} {E : Nat → Nat → Nat} {r : Nat} (hr : r < n) (h : E r r = 0) :
    pivotF n E r =
      (firstFrom (fun i => decide (E i r ≠ 0)) (r + 1) (n - (r + 1))).map fun p i j => E (swp r p i) j := by
  unfold pivotF
  obtain ⟨m, hm⟩ : ∃ m, n - r = m + 1 := ⟨n - r - 1, by omega⟩
  rw [hm, firstFrom, if_neg (by simpa using h), show n - (r + 1) = m by omega]

def colF (n : Nat) (r : Nat) (E : Nat → Nat → Nat) : Option (Nat → Nat → Nat) :=
  (pivotF n E r).map fun E' => tailF n E' r

def upF (d : Nat) (E : Nat → Nat → Nat) : Nat → Nat → Nat := elimF E d 0 d

def sweep2 (E : Nat → Nat → Nat) : Nat → Nat → Nat → Nat
  | 0 => E
  | d + 1 => upF d (sweep2 E d)

def gaussRes (n w : Nat) (E : Nat → Nat → Nat) : Array (Array Nat) × Option String :=
  match runSteps (colF n) 0 n E with
  | .ok E1 => (arr n w (sweep2 E1 n), none)
  | .error E' => (arr n w E', some "errSingular")

theorem gauss_arr (n w : Nat) (E : Nat → Nat → Nat) (hn0 : 0 < n) (hnw : n ≤ w) (hn : n < 2 ^ 62) :
    matrix_gaussianElimination (arr n w E) = some (gaussRes n w E) := by
  unfold matrix_gaussianElimination
  have h0 : gidx (arr n w E) (0 : Int) = some (mkRow w (E 0)) := gidx_arr (i := 0) hn0
  simp only [h0, Option.bind_eq_bind, Option.bind_some, Int.ofNat_eq_natCast, Int.zero_add, Int.sub_zero,
    Int.toNat_natCast, size_arr, size_mkRow]
  have hcnt : ∀ r, r < n → r + 1 + ((n : Int) - i64 (↑r + 1)).toNat = n := fun r hr => by
    rw [i64_id (by omega) (by omega)]; omega
  rw [forIn_range_steps n _ (fun E => ((none : Option (Array (Array Nat) × Option String)), arr n w E))
    (fun E => (some (arr n w E, some "errSingular"), arr n w E)) (colF n) E]
  · rw [Option.bind_some]
    unfold gaussRes
    cases hrun : runSteps (colF n) 0 n E with
    | error E' => rfl
    | ok E1 =>
      simp only []
      rw [show arr n w E1 = arr n w (sweep2 E1 0) from rfl,
        forIn_range_yield n _ (fun d => arr n w (sweep2 E1 d))]
      · rfl
      · intro d hd
        rw [elim_loop n w _ d 0 d (fun k => (k : Int)) (by intro k _; simp) (by omega) hd (by omega)
          (by intro k hk; omega), Option.bind_some]
        rfl
  · intro r E E' hr hcol
    have hrw : r < w := by omega
    simp only []
    rw (occs := .pos [1]) [gidx2_arr hr hrw]
    unfold colF at hcol
    by_cases h0 : E r r = 0
    · rw [if_pos h0]
      rw [pivotF_below hr h0] at hcol
      cases hf : firstFrom (fun i => decide (E i r ≠ 0)) (r + 1) (n - (r + 1)) with
      | none => rw [hf] at hcol; simp at hcol
      | some p =>
        rw [hf] at hcol
        simp only [Option.map_some, Option.some.injEq] at hcol
        obtain ⟨h1, h2, h3, h4⟩ := firstFrom_some hf
        have hpz : E p r ≠ 0 := by simpa using h3
        rw [pivot_loop_found n w E r p _ (fun k => i64 (↑r + 1) + ↑k)
          (by intro k _; rw [i64_id (by omega) (by omega)]; omega) (hcnt r hr) hrw (by omega) (by omega) hpz
          (by intro i hi1 hi2; have := h4 i (by omega) hi2; simpa using this)]
        rw [Option.bind_some]
        simp only []
        rw [tail_step n w _ r hr hrw (by rw [swp_self_left]; exact hpz) hn, ← hcol]
    · rw [if_neg h0]
      rw [pivotF_diag hr h0] at hcol
      simp only [Option.map_some, Option.some.injEq] at hcol
      rw [tail_step n w _ r hr hrw h0 hn, ← hcol]
  · intro r E hr hcol
    have hrw : r < w := by omega
    simp only []
    rw (occs := .pos [1]) [gidx2_arr hr hrw]
    unfold colF at hcol
    have hp : firstFrom (fun i => decide (E i r ≠ 0)) r (n - r) = none := by
      unfold pivotF at hcol
      cases h : firstFrom (fun i => decide (E i r ≠ 0)) r (n - r) with
      | none => rfl
      | some x => rw [h] at hcol; simp at hcol
    have hz : ∀ i, r ≤ i → i < n → E i r = 0 := fun i h1 h2 => by
      simpa using firstFrom_none hp i h1 (by omega)
    have h0 := hz r (Nat.le_refl r) hr
    rw [if_pos h0]
    rw [pivot_loop_none n w E r _ (fun k => i64 (↑r + 1) + ↑k)
          (by intro k _; rw [i64_id (by omega) (by omega)]; omega) (hcnt r hr) hrw (fun i h1 h2 => hz i (by omega) h2)]
    rw [Option.bind_some]
    simp only []
    rw [gidx2_arr hr hrw, if_pos h0]
    rfl

end RSV.GenGauss
