import RSV.Model.Kernels
/-!
Arithmetic of the kernel contract of `RSV.Model.Kernels`: the two granularities, and offsets inside
the slots of the expanded matrices.
-/
namespace RSV.Model.Kernels

theorem gran_cases (f : Family) (outputs : Nat) : gran f outputs = 32 ∨ gran f outputs = 64 := by
  cases f
  · show (if outputs ≤ 3 then 64 else 32) = 32 ∨ (if outputs ≤ 3 then 64 else 32) = 64
    split
    · exact Or.inr rfl
    · exact Or.inl rfl
  · exact Or.inr rfl
  · exact Or.inl rfl

theorem slot_off {m r : Nat} (sl : Nat) (hr : r < m) : (sl * m + r) / m = sl ∧ (sl * m + r) % m = r := by
  have hm : 0 < m := Nat.lt_of_le_of_lt (Nat.zero_le _) hr
  rw [Nat.mul_comm, Nat.mul_add_div hm, Nat.mul_add_mod, Nat.div_eq_of_lt hr, Nat.mod_eq_of_lt hr]
  exact ⟨rfl, rfl⟩

end RSV.Model.Kernels
