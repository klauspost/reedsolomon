import RSV.Model.AsmLeoKinds
import RSV.Proofs.AsmSim
/-!
The checker for the remaining amd64 kernels (Leopard butterflies, `mulgf16`, xor slices,
hand-written `galMul*`): environment contract, meaning of its symbolic values, canonical forms.
-/
namespace RSV.Asm.Leo

/-- a call: descriptor, machine environment, memory before the call, byte length `N`, row stride -/
structure Ctx where
  kd : KD
  env : Env
  m0 : Region → Nat → Nat
  N : Nat
  dist : Nat

namespace Ctx
variable (c : Ctx)

def cnt : Nat := c.N / c.kd.B

/-- row `k` is the slice `work[k·dist]` (for the two-slice kernels `dist = 1`: `x`/`out` = row 0, `y`/`in` = row 1) -/
def rowReg (k : Nat) : Region := .out (k * c.dist)

def sbReg : SBase → Region
  | .hdr => .outHdr
  | .tab k => .tab k
  | .row k => c.rowReg k

def immq (off : Nat) : Nat :=
  match c.env.frame off with
  | some (.num q) => q
  | _ => 0

/-- low four address bits of row `k`, in the form `ANDQ $15` leaves them for a pointer at offset 0 (hence `+ 0`) -/
def alignBits (k : Nat) : Nat := ((c.env.base (c.rowReg k) + 0) % M64) &&& 15

def argVal (off : Nat) : FArg → Val
  | .ptr b => .ptr (c.sbReg b) 0
  | .len => .num c.N
  | .dist => .num (24 * c.dist)
  | .imm => .num (c.immq off)

end Ctx

def nib (hi : Bool) (x : Nat) : Nat := if hi then x >>> 4 else x &&& 15

/-- value of an expression at byte `q` of a chunk of the block starting at `base` -/
def evalE (c : Ctx) (base q : Nat) : E → Nat
  | .zero => 0
  | .old r o => c.m0 (c.rowReg r) (base + o + q)
  | .xor a b => evalE c base q a ^^^ evalE c base q b
  | .look t off hi x => c.m0 (.tab t) (off + nib hi (evalE c base q x))
  | .aff m x => affineB (fun t => byteAt (c.immq m) t) (evalE c base q x)

/-- the byte the kernel has to leave at position `p` of a written row `k` -/
def specVal (c : Ctx) (k p : Nat) : Nat :=
  evalE c (p / c.kd.B * c.kd.B) (p % c.kd.w) (c.kd.spec k (p % c.kd.B / c.kd.w * c.kd.w))

def Ctx.rows (c : Ctx) : Rows where
  reg := c.rowReg
  dom := fun k => k < c.kd.rows
  wr := fun k => c.kd.written k = true
  lo := 0
  B := c.kd.B
  w := c.kd.w
  okOff := fun o => o % c.kd.w = 0
  spec := specVal c
  m0 := c.m0

theorem Ctx.rows_cur (c : Ctx) (it : Nat) : c.rows.cur it = c.kd.B * it := Nat.zero_add _

/-- the environment contract of these kernels (their Go callers' side of the calling convention) -/
structure Contract (c : Ctx) : Prop where
  dist_pos : 0 < c.dist
  dist_lt : 24 * c.dist < M64
  n_lt : c.N < M64
  /-- the array of slice headers (24 bytes each) is addressable -/
  hdr_lt : 24 * c.env.outputs < M64
  /-- row `k` is the slice `work[k·dist]`, which exists -/
  row_lt : ∀ k, k < c.kd.rows → k * c.dist < c.env.outputs
  row_size : ∀ k, k < c.kd.rows → c.N ≤ c.env.size (c.rowReg k)
  tab_size : ∀ t, c.kd.tabSize t ≤ c.env.size (.tab t)
  bytes : ∀ r p, c.m0 r p < 256
  frame_ok : ∀ off a, c.kd.frame off = some a → c.env.frame off = some (c.argVal off a)
  hdr_len : c.kd.hdrLen = true → c.env.size (c.rowReg 0) = c.N
  exact : c.kd.exact = true → 0 < c.N ∧ c.N % c.kd.B = 0
  aligned : c.kd.aligned = true → ∀ k, k < c.kd.rows → c.env.base (c.rowReg k) % 16 = 0

/-- well-formed block geometry (established by the checker's coverage test) -/
def KD.wf (kd : KD) : Prop := kd.w * (kd.B / kd.w) = kd.B ∧ 0 < kd.w ∧ 0 < kd.B

/-- payload of `lin s t k`: `s·24·dist + t·(B·it) + k` (24 = size of a Go slice header: consecutive rows are
`dist` headers apart in `work`) -/
def Ctx.lin (c : Ctx) (it s t k : Nat) : Nat := linVal (24 * c.dist) c.kd.B it s t k

def GRefines (c : Ctx) (it : Nat) : GSym → Val → Prop
  | .unk, _ => True
  | .nRaw, v => v = .num c.N
  | .cnt, v => v = .num c.cnt
  | .ctr sc d, v => v = .num (sc * (c.cnt - it - d))
  | .lin b s t k, v => v = linV (b.map c.sbReg) (c.lin it s t k)
  | .algn k, v => v = .num (c.alignBits k)

def VSym.den (c : Ctx) (it : Nat) : VSym → Nat → Nat
  | .mask _ => fun _ => 15
  | .tab _ t off => fun k => c.m0 (.tab t) (off + k % 16)
  | .mat _ m => fun k => byteAt (c.immq m) (k % 8)
  | .e _ x | .srl _ x => fun k => evalE c (c.rows.cur it) k x
  | .lo _ x => fun k => evalE c (c.rows.cur it) k x &&& 15
  | .hi _ x => fun k => evalE c (c.rows.cur it) k x >>> 4
  | _ => fun _ => 0

def VRefines (c : Ctx) (it : Nat) : VSym → (Nat → Nat) → Prop
  | .unk, _ => True
  | .byte0 b, reg => reg 0 = b
  | .srl w x, reg => DescHi w (VSym.den c it (.srl w x)) reg
  | x, reg => Desc x.width (x.den c it) reg

abbrev Sim (c : Ctx) (it : Nat) (σ : SymState) (s : State) : Prop :=
  SimG (GRefines c it) (VRefines c it) c.rows it σ.gp σ.vec σ.stores s

theorem insert_perm (x : E) (l : List E) : (E.insert x l).Perm (x :: l) := by
  induction l with
  | nil => exact List.Perm.refl _
  | cons y ys ih =>
    simp only [E.insert]
    split
    · exact List.Perm.refl _
    · exact (List.Perm.cons y ih).trans (List.Perm.swap x y ys)

theorem sort_perm (l : List E) : (E.sort l).Perm l := by
  induction l with
  | nil => exact List.Perm.refl _
  | cons x xs ih => exact (insert_perm x _).trans (List.Perm.cons x ih)

theorem eval_build (ev : E → Nat) (h0 : ev .zero = 0) (hx : ∀ a b, ev (.xor a b) = ev a ^^^ ev b) (l : List E) :
    ev (E.build l) = xorl (l.map ev) := by
  induction l with
  | nil => simp [E.build, xorl, h0]
  | cons x xs ih =>
    cases xs with
    | nil => simp [E.build, xorl]
    | cons y ys => simp only [E.build, hx, List.map_cons, xorl] at ih ⊢; rw [ih]

theorem eval_sorted (c : Ctx) (base q : Nat) (l : List E) :
    evalE c base q (E.build (E.sort l)) = xorl (l.map (evalE c base q)) := by
  rw [eval_build (evalE c base q) rfl (fun _ _ => rfl), xorl_perm ((sort_perm l).map _)]

theorem eval_flat (c : Ctx) (base q : Nat) (e : E) :
    xorl ((E.flat e).map (evalE c base q)) = evalE c base q e := by
  induction e with
  | zero => rfl
  | old r o => simp [E.flat, xorl]
  | xor a b iha ihb => simp only [E.flat, List.map_append, xorl_append, iha, ihb, evalE]
  | look t o h x ih => simp only [E.flat, List.map_cons, List.map_nil, xorl, Nat.xor_zero, evalE, eval_sorted, ih]
  | aff m x ih => simp only [E.flat, List.map_cons, List.map_nil, xorl, Nat.xor_zero, evalE, eval_sorted, ih]

theorem canon_sound (c : Ctx) (base q : Nat) {e1 e2 : E} (h : e1.canon = e2.canon) :
    evalE c base q e1 = evalE c base q e2 := by
  rw [← eval_flat c base q e1, ← eval_flat c base q e2,
    ← xorl_perm ((sort_perm (E.flat e1)).map _), ← xorl_perm ((sort_perm (E.flat e2)).map _)]
  unfold E.canon at h
  rw [h]

theorem evalE_lt {c : Ctx} (hc : Contract c) (base q : Nat) (e : E) : evalE c base q e < 256 := by
  induction e with
  | zero => show 0 < 256; decide
  | old r o => exact hc.bytes _ _
  | xor a b iha ihb => exact Nat.xor_lt_two_pow (n := 8) iha ihb
  | look t o h x _ => exact hc.bytes _ _
  | aff m x _ => exact affineB_lt _ _

end RSV.Asm.Leo
