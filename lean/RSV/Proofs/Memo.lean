import RSV.Model.Memo
import RSV.Proofs.Reconstruct

/-!
# The inversion tree (`RSV.Model.Memo`)

Trie laws for keys that are `StrictInc` (the shape of every key the package passes to the tree); the
cache key determines the first `d` present indices (`firstPresent_eq_validOfKey`), hence the sub-matrix
that `reconstruct` inverts (`subMat_eq_subOfKey`); what one cached call `reconStep` returns on a hit
and on a miss.  Used by `RSV.Props.C10` and `RSV.Props.C11`.
-/

namespace RSV.Model.Memo

section Trie
variable {V : Type}

/-- the keys of the inversion tree: every element is at least the running `parent`
(the first `≥ parent`, the next `≥ previous + 1`, …), i.e. strictly increasing from `parent` on -/
def StrictInc : List ℕ → ℕ → Prop
  | [], _ => True
  | i :: rest, parent => parent ≤ i ∧ StrictInc rest (i + 1)

instance : ∀ (k : List ℕ) (parent : ℕ), Decidable (StrictInc k parent)
  | [], _ => isTrue trivial
  | i :: rest, parent =>
    have := instDecidableStrictInc rest (i + 1)
    inferInstanceAs (Decidable (parent ≤ i ∧ StrictInc rest (i + 1)))

theorem StrictInc.mono {k : List ℕ} {a b : ℕ} (h : StrictInc k b) (hab : a ≤ b) : StrictInc k a := by
  cases k with
  | nil => trivial
  | cons i rest => exact ⟨le_trans hab h.1, h.2⟩

theorem strictInc_iff (k : List ℕ) (parent : ℕ) :
    StrictInc k parent ↔ k.Pairwise (· < ·) ∧ ∀ x ∈ k, parent ≤ x := by
  induction k generalizing parent with
  | nil => simp [StrictInc]
  | cons i rest ih =>
    simp only [StrictInc, ih, List.pairwise_cons, List.mem_cons, forall_eq_or_imp]
    constructor
    · rintro ⟨h1, h2, h3⟩
      exact ⟨⟨fun x hx => h3 x hx, h2⟩, h1, fun x hx => by have := h3 x hx; omega⟩
    · rintro ⟨⟨h1, h2⟩, h3, _⟩
      exact ⟨h3, h2, fun x hx => h1 x hx⟩

namespace Node

@[simp] theorem val_empty : (empty : Node V).val = none := rfl
@[simp] theorem child_empty (k : ℕ) : (empty : Node V).child k = empty := rfl
@[simp] theorem val_mk (v : Option V) (ch : ℕ → Node V) : (mk v ch).val = v := rfl
@[simp] theorem child_mk (v : Option V) (ch : ℕ → Node V) (k : ℕ) : (mk v ch).child k = ch k := rfl

theorem get_single (i : ℕ) (n : Node V) (parent : ℕ) :
    get [i] n parent = (n.child (i - parent)).val := rfl

theorem get_cons_cons (i j : ℕ) (r : List ℕ) (n : Node V) (parent : ℕ) :
    get (i :: j :: r) n parent = get (j :: r) (n.child (i - parent)) (i + 1) := rfl

theorem insert_single (i : ℕ) (n : Node V) (parent : ℕ) (v : V) :
    insert [i] n parent v =
      mk n.val (fun k => if k = i - parent then
        mk (some v) (fun k => (n.child (i - parent)).child k) else n.child k) := rfl

theorem insert_cons_cons (i j : ℕ) (r : List ℕ) (n : Node V) (parent : ℕ) (v : V) :
    insert (i :: j :: r) n parent v =
      mk n.val (fun k => if k = i - parent then
        insert (j :: r) (mk (n.child (i - parent)).val (fun k => (n.child (i - parent)).child k))
          (i + 1) v
        else n.child k) := rfl

theorem get_empty (k : List ℕ) (parent : ℕ) : get k (empty : Node V) parent = none := by
  induction k generalizing parent with
  | nil => rfl
  | cons i rest ih =>
    cases rest with
    | nil => rfl
    | cons j r => rw [get_cons_cons, child_empty]; exact ih _

theorem get_leaf (k : List ℕ) (v : Option V) (parent : ℕ) :
    get k (mk v fun _ => empty) parent = none := by
  cases k with
  | nil => rfl
  | cons i rest =>
    cases rest with
    | nil => rfl
    | cons j r => rw [get_cons_cons, child_mk]; exact get_empty _ _

theorem val_insert (k : List ℕ) (n : Node V) (parent : ℕ) (v : V) :
    (insert k n parent v).val = n.val := by
  cases k with
  | nil => rfl
  | cons i rest => cases rest <;> rfl

theorem get_congr (k : List ℕ) (n n' : Node V) (parent : ℕ)
    (h : ∀ x, n.child x = n'.child x) : get k n parent = get k n' parent := by
  cases k with
  | nil => rfl
  | cons i rest =>
    cases rest with
    | nil => rw [get_single, get_single, h]
    | cons j r => rw [get_cons_cons, get_cons_cons, h]

theorem child_insert_ne (i : ℕ) (rest : List ℕ) (n : Node V) (parent : ℕ) (v : V) (x : ℕ)
    (hx : x ≠ i - parent) : (insert (i :: rest) n parent v).child x = n.child x := by
  cases rest with
  | nil => rw [insert_single, child_mk, if_neg hx]
  | cons j r => rw [insert_cons_cons, child_mk, if_neg hx]

/-- holds for every non-empty key, strictly increasing or not -/
theorem get_insert_same (k : List ℕ) (hk : k ≠ []) (n : Node V) (parent : ℕ) (v : V) :
    get k (insert k n parent v) parent = some v := by
  induction k generalizing n parent with
  | nil => exact absurd rfl hk
  | cons i rest ih =>
    cases rest with
    | nil => rw [get_single, insert_single, child_mk, if_pos rfl, val_mk]
    | cons j r =>
      rw [get_cons_cons, insert_cons_cons, child_mk, if_pos rfl]
      exact ih (by simp) _ _

theorem get_insert_other (k k' : List ℕ) (n : Node V) (parent : ℕ)
    (hinc : StrictInc k parent) (hinc' : StrictInc k' parent) (hne : k ≠ k') (v : V) :
    get k' (insert k n parent v) parent = get k' n parent := by
  induction k generalizing k' n parent with
  | nil => rfl
  | cons i rest ih =>
    cases k' with
    | nil => rfl
    | cons i' rest' =>
      by_cases hi : i' = i
      · subst hi
        have hrr : rest ≠ rest' := fun e => hne (by rw [e])
        cases rest with
        | nil =>
          cases rest' with
          | nil => exact absurd rfl hrr
          | cons j' r' =>
            rw [get_cons_cons, insert_single, child_mk, if_pos rfl, get_cons_cons]
            exact get_congr _ _ _ _ (fun x => rfl)
        | cons j r =>
          cases rest' with
          | nil =>
            rw [get_single, insert_cons_cons, child_mk, if_pos rfl, val_insert, val_mk, get_single]
          | cons j' r' =>
            rw [get_cons_cons, insert_cons_cons, child_mk, if_pos rfl, get_cons_cons,
              ih (j' :: r') _ _ hinc.2 hinc'.2 hrr]
            exact get_congr _ _ _ _ (fun x => rfl)
      · have h1 := hinc.1
        have h2 := hinc'.1
        have hx : i' - parent ≠ i - parent := by omega
        cases rest' with
        | nil => rw [get_single, get_single, child_insert_ne _ _ _ _ _ _ hx]
        | cons j' r' => rw [get_cons_cons, get_cons_cons, child_insert_ne _ _ _ _ _ _ hx]

end Node

@[simp] theorem Tree.get_none (k : List ℕ) : Tree.get (none : Option (Tree V)) k = none := rfl

@[simp] theorem Tree.insert_none (k : List ℕ) (v : V) :
    Tree.insert (none : Option (Tree V)) k v = none := rfl

@[simp] theorem Tree.get_nil (t : Tree V) : Tree.get (some t) [] = t.root.val := rfl

/-- inserting under the empty key changes nothing (`errAlreadySet`) -/
@[simp] theorem Tree.insert_nil (t : Option (Tree V)) (v : V) : Tree.insert t [] v = t := by
  cases t <;> rfl

theorem Tree.get_cons (t : Tree V) (i : ℕ) (r : List ℕ) :
    Tree.get (some t) (i :: r) = Node.get (i :: r) t.root 0 := rfl

theorem Tree.insert_cons (t : Tree V) (i : ℕ) (r : List ℕ) (v : V) :
    Tree.insert (some t) (i :: r) v = some ⟨Node.insert (i :: r) t.root 0 v⟩ := rfl

theorem Tree.insert_isSome (t : Option (Tree V)) (k : List ℕ) (v : V) :
    (Tree.insert t k v).isSome = t.isSome := by
  cases t with
  | none => rfl
  | some t => cases k <;> rfl

theorem Tree.get_insert_same (t : Tree V) (k : List ℕ) (hk : k ≠ []) (v : V) :
    Tree.get (Tree.insert (some t) k v) k = some v := by
  cases k with
  | nil => exact absurd rfl hk
  | cons i r =>
    rw [Tree.insert_cons, Tree.get_cons]
    exact Node.get_insert_same _ hk _ _ _

theorem Tree.get_insert_other (t : Option (Tree V)) (k k' : List ℕ)
    (hinc : StrictInc k 0) (hinc' : StrictInc k' 0) (hne : k ≠ k') (v : V) :
    Tree.get (Tree.insert t k v) k' = Tree.get t k' := by
  cases t with
  | none => rfl
  | some t =>
    cases k with
    | nil => rfl
    | cons i r =>
      cases k' with
      | nil => rw [Tree.insert_cons, Tree.get_nil, Tree.get_nil, Node.val_insert]
      | cons i' r' =>
        rw [Tree.insert_cons, Tree.get_cons, Tree.get_cons]
        exact Node.get_insert_other _ _ _ _ hinc hinc' hne _

theorem Tree.get_insert_cases (t : Option (Tree V)) (k k' : List ℕ)
    (hinc : StrictInc k 0) (hinc' : StrictInc k' 0) (v v' : V)
    (h : Tree.get (Tree.insert t k v) k' = some v') :
    (k' = k ∧ k ≠ [] ∧ v' = v) ∨ Tree.get t k' = some v' := by
  by_cases hkk : k = k'
  · subst hkk
    cases t with
    | none => exact absurd h (by simp)
    | some t =>
      by_cases hk : k = []
      · subst hk; right; simpa using h
      · left
        rw [Tree.get_insert_same t k hk] at h
        exact ⟨rfl, hk, (Option.some_injective _ h).symm⟩
  · right
    rwa [Tree.get_insert_other t k k' hinc hinc' hkk] at h

end Trie

section Key

theorem exists_split {α : Type} (p : α → Bool) : ∀ (l : List α) (d : ℕ),
    d + 1 ≤ (l.filter p).length →
    ∃ l1 x l2, l = l1 ++ x :: l2 ∧ p x = true ∧ (l1.filter p).length = d
  | [], d, h => by simp at h
  | a :: l, d, h => by
    by_cases ha : p a = true
    · cases d with
      | zero => exact ⟨[], a, l, rfl, ha, rfl⟩
      | succ d =>
        rw [List.filter_cons_of_pos ha, List.length_cons] at h
        obtain ⟨l1, x, l2, hl, hx, hlen⟩ := exists_split p l d (by omega)
        refine ⟨a :: l1, x, l2, by rw [hl]; rfl, hx, ?_⟩
        rw [List.filter_cons_of_pos ha, List.length_cons, hlen]
    · rw [List.filter_cons_of_neg ha] at h
      obtain ⟨l1, x, l2, hl, hx, hlen⟩ := exists_split p l d h
      refine ⟨a :: l1, x, l2, by rw [hl]; rfl, hx, ?_⟩
      rw [List.filter_cons_of_neg ha, hlen]

def validOfKey (n : ℕ) (key : List ℕ) (d : ℕ) : List (Fin n) :=
  ((List.finRange n).filter fun i => !key.contains i.val).take d

variable {n : ℕ}

theorem validOfKey_nil (n d : ℕ) : validOfKey n [] d = (List.finRange n).take d := by
  unfold validOfKey
  rw [List.filter_eq_self.mpr]
  intro a _; rfl

theorem lt_of_mem_take_finRange {d : ℕ} {i : Fin n} (h : i ∈ (List.finRange n).take d) : i.val < d := by
  obtain ⟨k, hk, rfl⟩ := List.mem_take_iff_getElem.mp h
  rw [List.getElem_finRange]
  exact lt_of_lt_of_le hk (min_le_left _ _)

theorem mem_take_finRange {d : ℕ} (i : Fin n) (h : i.val < d) : i ∈ (List.finRange n).take d :=
  List.mem_take_iff_getElem.mpr
    ⟨i.val, by rw [List.length_finRange]; exact lt_min h i.isLt, by simp⟩

theorem firstPresent_of_prefix (present : Fin n → Bool) (d : ℕ) (hdn : d ≤ n)
    (hall : ∀ i : Fin n, i.val < d → present i = true) :
    firstPresent present d = (List.finRange n).take d := by
  unfold firstPresent
  conv_lhs => rw [← List.take_append_drop d (List.finRange n), List.filter_append]
  rw [List.filter_eq_self.mpr fun a ha => hall a (lt_of_mem_take_finRange ha)]
  apply List.take_left'
  rw [List.length_take, List.length_finRange, min_eq_left hdn]

theorem mem_cacheKey_iff_of_last (present : Fin n → Bool) (d : ℕ) (last : Fin n)
    (h : (firstPresent present d).getLast? = some last) (i : Fin n) :
    (cacheKey present d).contains i.val = (decide (i.val < last.val) && !present i) := by
  unfold cacheKey invalidBefore
  rw [h]
  simp only []
  rw [Bool.eq_iff_iff, List.contains_iff_mem, List.mem_map]
  constructor
  · rintro ⟨j, hj, hji⟩
    have : j = i := Fin.ext hji
    subst this
    exact (List.mem_filter.mp hj).2
  · intro hi
    exact ⟨i, List.mem_filter.mpr ⟨List.mem_finRange i, hi⟩, rfl⟩

theorem firstPresent_eq_validOfKey (present : Fin n → Bool) (d : ℕ) (h : d ≤ countTrue present) :
    firstPresent present d = validOfKey n (cacheKey present d) d := by
  cases d with
  | zero => simp [firstPresent, validOfKey]
  | succ d =>
    obtain ⟨l1, x, l2, hl, hx, hlen⟩ := exists_split present (List.finRange n) d h
    have hfp : firstPresent present (d + 1) = l1.filter present ++ [x] := by
      unfold firstPresent
      rw [hl, List.filter_append, List.filter_cons_of_pos hx, ← hlen,
        List.take_length_add_append]
      rfl
    have hlast : (firstPresent present (d + 1)).getLast? = some x := by
      rw [hfp]; simp
    have hpw : (l1 ++ x :: l2).Pairwise (· < ·) := hl ▸ List.pairwise_lt_finRange n
    rw [List.pairwise_append] at hpw
    obtain ⟨-, hpw2, hpw3⟩ := hpw
    rw [List.pairwise_cons] at hpw2
    unfold validOfKey
    rw [hfp, hl, List.filter_append]
    have e1 : l1.filter (fun i => !(cacheKey present (d + 1)).contains i.val) = l1.filter present := by
      apply List.filter_congr
      intro a ha
      rw [mem_cacheKey_iff_of_last present (d + 1) x hlast a]
      have : a.val < x.val := hpw3 a ha x List.mem_cons_self
      simp [this]
    have e2 : (x :: l2).filter (fun i => !(cacheKey present (d + 1)).contains i.val) = x :: l2 := by
      rw [List.filter_eq_self]
      intro a ha
      rw [mem_cacheKey_iff_of_last present (d + 1) x hlast a]
      have : ¬ a.val < x.val := by
        rcases List.mem_cons.mp ha with rfl | ha
        · exact lt_irrefl _
        · have := hpw2.1 a ha
          exact not_lt.mpr (le_of_lt this)
      simp [this]
    rw [e1, e2, ← hlen, List.take_length_add_append]
    rfl

theorem key_determines_valid (present present' : Fin n → Bool) (d : ℕ)
    (h : d ≤ countTrue present) (h' : d ≤ countTrue present')
    (hk : cacheKey present d = cacheKey present' d) :
    firstPresent present d = firstPresent present' d := by
  rw [firstPresent_eq_validOfKey present d h, firstPresent_eq_validOfKey present' d h', hk]

theorem cacheKey_pairwise (present : Fin n → Bool) (d : ℕ) :
    (cacheKey present d).Pairwise (· < ·) := by
  unfold cacheKey invalidBefore
  split
  · exact List.Pairwise.nil
  · rw [List.pairwise_map]
    exact ((List.pairwise_lt_finRange n).filter _).imp (fun h => h)

theorem cacheKey_strictInc (present : Fin n → Bool) (d : ℕ) : StrictInc (cacheKey present d) 0 :=
  (strictInc_iff _ _).mpr ⟨cacheKey_pairwise present d, fun _ _ => Nat.zero_le _⟩

theorem cacheKey_mem (present : Fin n → Bool) (d : ℕ) (x : ℕ) (hx : x ∈ cacheKey present d) :
    ∃ i last : Fin n, i.val = x ∧ present i = false ∧ last ∈ firstPresent present d ∧
      i.val < last.val := by
  unfold cacheKey invalidBefore at hx
  split at hx
  · simp at hx
  · next last hlast =>
    obtain ⟨i, hi, rfl⟩ := List.mem_map.mp hx
    have := (List.mem_filter.mp hi).2
    simp only [Bool.and_eq_true, Bool.not_eq_true', decide_eq_true_eq] at this
    exact ⟨i, last, rfl, this.2, List.mem_of_getLast? hlast, this.1⟩

theorem cacheKey_eq_nil_iff (present : Fin n → Bool) (d : ℕ) (h : d ≤ countTrue present) :
    cacheKey present d = [] ↔ ∀ i : Fin n, i.val < d → present i = true := by
  constructor
  · intro hk i hi
    have hfp := firstPresent_eq_validOfKey present d h
    rw [hk, validOfKey_nil] at hfp
    exact firstPresent_mem (hfp ▸ mem_take_finRange i hi)
  · intro hall
    rw [List.eq_nil_iff_forall_not_mem]
    intro x hx
    obtain ⟨i, last, -, hi, hl, hlt⟩ := cacheKey_mem present d x hx
    rw [firstPresent_of_prefix present d (le_trans h (countTrue_le present)) hall] at hl
    have := hall i (lt_trans hlt (lt_of_mem_take_finRange hl))
    rw [hi] at this
    cases this

end Key

section Codec
variable {F : Type} [Field F] [DecidableEq F] {d p len : ℕ}

def subOfKey (A : Mat F p d) (key : List ℕ) : Mat F d d :=
  Mat.ofFn fun j c =>
    genRow A (((validOfKey (d + p) key d)[j.val]?).getD ⟨j.val, by omega⟩) c

omit [DecidableEq F] in
theorem subMat_eq_subOfKey (A : Mat F p d) (present : Fin (d + p) → Bool)
    (h : d ≤ countTrue present) : subMat A present = subOfKey A (cacheKey present d) := by
  unfold subMat subOfKey validIdx
  rw [firstPresent_eq_validOfKey present d h]

omit [DecidableEq F] in
theorem subMat_congr_key (A : Mat F p d) (present present' : Fin (d + p) → Bool)
    (h : d ≤ countTrue present) (h' : d ≤ countTrue present')
    (hk : cacheKey present d = cacheKey present' d) : subMat A present = subMat A present' := by
  rw [subMat_eq_subOfKey A present h, subMat_eq_subOfKey A present' h', hk]

omit [DecidableEq F] in
theorem subOfKey_nil (A : Mat F p d) : subOfKey A [] = identity d := by
  apply Mat.ext_get
  intro j c
  have hj : ((List.finRange (d + p)).take d)[j.val]? = some ⟨j.val, by omega⟩ := by
    rw [List.getElem?_take, if_pos j.isLt,
      List.getElem?_eq_getElem (by rw [List.length_finRange]; omega)]
    simp
  unfold subOfKey identity
  rw [Mat.get_ofFn, Mat.get_ofFn, validOfKey_nil, hj, Option.getD_some]
  exact genRow_left A j c

/-- the empty key is the identity's: what a fresh tree holds is sound -/
theorem invert_subOfKey_nil (A : Mat F p d) : invert (subOfKey A []) = some (identity d) := by
  rw [subOfKey_nil]; exact invert_identity

omit [DecidableEq F] in
theorem newTree_get {k : List ℕ} {v : Mat F d d} (h : Tree.get (some (newTree d)) k = some v) :
    k = [] ∧ v = identity d := by
  cases k with
  | nil => exact ⟨rfl, (Option.some_injective _ h).symm⟩
  | cons i r =>
    rw [Tree.get_cons, show (newTree (F := F) d).root = Node.mk _ _ from rfl, Node.get_leaf] at h
    cases h

omit [DecidableEq F] in
/-- `reconstructWith` consults the inversion procedure at `subMat A present` only, and only when
at least `d` shards are present -/
theorem reconstructWith_congr (inv inv' : Mat F d d → Option (Mat F d d)) (A : Mat F p d)
    (sh : Fin (d + p) → Option (Shard F len)) (mode : ReconMode)
    (h : d ≤ countTrue (fun i => (sh i).isSome) →
      inv (subMat A fun i => (sh i).isSome) = inv' (subMat A fun i => (sh i).isSome)) :
    reconstructWith inv A sh mode = reconstructWith inv' A sh mode := by
  unfold reconstructWith
  extract_lets present numberPresent dataPresent dataOnly missingRequired isSome valid sub
  -- both sides branch alike; `inv` is met only past the `numberPresent < d` test, applied to `sub`
  refine ite_congr rfl (fun _ => rfl) fun _ => ite_congr rfl (fun _ => rfl) fun h2 => ?_
  have hd : d ≤ countTrue present := Nat.le_of_not_lt h2
  rw [show sub = subMat A present from sub_eq_subMat A present hd, h hd]

theorem reconStep_hit (A : Mat F p d) (t : Option (Tree (Mat F d d)))
    (sh : Fin (d + p) → Option (Shard F len)) (mode : ReconMode) (dec : Mat F d d)
    (h : Tree.get t (cacheKey (fun i => (sh i).isSome) d) = some dec) :
    reconStep A t sh mode = (reconstructWith (fun _ => some dec) A sh mode, t) := by
  unfold reconStep
  simp only [h]

theorem reconStep_miss_fst (A : Mat F p d) (t : Option (Tree (Mat F d d)))
    (sh : Fin (d + p) → Option (Shard F len)) (mode : ReconMode)
    (h : Tree.get t (cacheKey (fun i => (sh i).isSome) d) = none) :
    (reconStep A t sh mode).1 = reconstruct A sh mode := by
  unfold reconStep
  simp only [h]
  rfl

theorem reconStep_miss_snd (A : Mat F p d) (t : Option (Tree (Mat F d d)))
    (sh : Fin (d + p) → Option (Shard F len)) (mode : ReconMode)
    (h : Tree.get t (cacheKey (fun i => (sh i).isSome) d) = none) :
    (reconStep A t sh mode).2 = t ∨
      (d ≤ countTrue (fun i => (sh i).isSome) ∧ ∃ dec,
        invert (subMat A fun i => (sh i).isSome) = some dec ∧
        (reconStep A t sh mode).2 = Tree.insert t (cacheKey (fun i => (sh i).isSome) d) dec) := by
  unfold reconStep
  simp only [h]
  split
  · next filled hshape =>
    have hd : d ≤ countTrue (fun i => (sh i).isSome) := reconShape_fill_le hshape
    -- (the `match` here is another auxiliary matcher than the one in `sub_eq_subMat`)
    simp only [firstPresent_getElem? (fun i => (sh i).isSome) hd]
    rw [show (Mat.ofFn fun i c => genRow A (validIdx (fun i => (sh i).isSome) i) c) =
      subMat A (fun i => (sh i).isSome) from rfl]
    cases hinv : invert (subMat A fun i => (sh i).isSome) with
    | none => left; rfl
    | some dec => right; exact ⟨hd, dec, rfl, rfl⟩
  · left; rfl

end Codec

end RSV.Model.Memo
