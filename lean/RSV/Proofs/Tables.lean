import RSV.Spec.Lanes
import RSV.Gen.Tables
import RSV.Gen.Facts
import RSV.Proofs.Basics
/-!
The regenerated static GF(2^8) tables of `galois.go` against shift-and-reduce arithmetic.

The product is bilinear for xor, so a product table is determined by its eight basis rows: the kernel checks that
the table splits along the leading bit of the row index (255 xor comparisons of whole packed rows) and evaluates
`gmul` on the basis rows only; `BF.ext_of_split` gives every other entry.  The exponent, logarithm and inverse
tables are not linear in anything and are evaluated entry by entry.
-/
namespace RSV

theorem byteAt_lt (t i : Nat) : byteAt t i < 256 :=
  Nat.lt_of_le_of_lt Nat.and_le_right (by decide)

theorem byteAt_xor (s t i : Nat) : byteAt (s ^^^ t) i = byteAt s i ^^^ byteAt t i := by
  unfold byteAt; rw [Nat.shiftRight_xor_distrib, Nat.and_xor_distrib_right]

theorem parity8_xor (a b : Nat) : parity8 (a ^^^ b) = parity8 a ^^^ parity8 b := by
  simp only [parity8, Nat.shiftRight_xor_distrib, Nat.and_xor_distrib_right]
  ac_rfl

theorem affineBit_lt (m x i : Nat) : affineBit m x i < 2 :=
  Nat.lt_of_le_of_lt Nat.and_le_right (by decide)

/-- eight bits packed into a byte the way `affineByte` packs them -/
def packBits8 (p : Nat → Nat) : Nat :=
  p 0 ||| (p 1 <<< 1) ||| (p 2 <<< 2) ||| (p 3 <<< 3) ||| (p 4 <<< 4) ||| (p 5 <<< 5) ||| (p 6 <<< 6) ||| (p 7 <<< 7)

theorem testBit_packBits8 (p : Nat → Nat) (hp : ∀ i, p i < 2) (j : Nat) :
    (packBits8 p).testBit j = (decide (j < 8) && (p j).testBit 0) := by
  have h : ∀ i k, (p i).testBit k = (decide (k = 0) && (p i).testBit 0) := by
    intro i k
    cases k with
    | zero => simp
    | succ k =>
      have : p i / 2 = 0 := by have := hp i; omega
      simp [Nat.testBit_succ, this]
  simp only [packBits8, Nat.testBit_or, Nat.testBit_shiftLeft]
  rw [h 0, h 1, h 2, h 3, h 4, h 5, h 6, h 7]
  rcases j with _|_|_|_|_|_|_|_|j <;> simp <;> omega

theorem packBits8_xor (p q : Nat → Nat) (hp : ∀ i, p i < 2) (hq : ∀ i, q i < 2) :
    packBits8 (fun i => p i ^^^ q i) = packBits8 p ^^^ packBits8 q := by
  apply Nat.eq_of_testBit_eq; intro j
  rw [Nat.testBit_xor, testBit_packBits8 p hp, testBit_packBits8 q hq,
    testBit_packBits8 _ (fun i => Nat.xor_lt_two_pow (n := 1) (hp i) (hq i)), Nat.testBit_xor]
  cases decide (j < 8) <;> rfl

theorem affineByte_xor_left (m m' x : Nat) :
    affineByte (m ^^^ m') x = affineByte m x ^^^ affineByte m' x := by
  show packBits8 _ = packBits8 _ ^^^ packBits8 _
  rw [← packBits8_xor _ _ (affineBit_lt m x) (affineBit_lt m' x)]
  congr 1; funext i
  rw [affineBit, byteAt_xor, Nat.and_xor_distrib_right, parity8_xor]; rfl

theorem affineByte_zero_left (x : Nat) : affineByte 0 x = 0 := by
  simpa using affineByte_xor_left 0 0 x

theorem affineByte_xor_right (m x y : Nat) :
    affineByte m (x ^^^ y) = affineByte m x ^^^ affineByte m y := by
  show packBits8 _ = packBits8 _ ^^^ packBits8 _
  rw [← packBits8_xor _ _ (affineBit_lt m x) (affineBit_lt m y)]
  congr 1; funext i
  rw [affineBit, Nat.and_xor_distrib_left, parity8_xor]; rfl

end RSV

namespace RSV.Tables
open RSV.Gen

/-- `rows` has `2^k` rows, row 0 is zero, and the rows split along the leading bit of their index
(`rows[2^i + r] = rows[2^i] ^^^ rows[r]` for `r < 2^i`).  Stated on whole lists so that the kernel walks the
table once per `i`: random access into a literal array is slow there. -/
def SplitRows (rows : Array Nat) (k : Nat) : Prop :=
  rows.toList.length = 2^k ∧ rows[0]! = 0 ∧ ∀ i, i < k →
    (rows.toList.drop (2^i)).take (2^i) = (rows.toList.take (2^i)).map (rows.toList.getD (2^i) 0 ^^^ ·)

instance (rows : Array Nat) (k : Nat) : Decidable (SplitRows rows k) := by unfold SplitRows; infer_instance

theorem SplitRows.get {rows : Array Nat} {k : Nat} (h : SplitRows rows k)
    (i : Nat) (hi : i < k) (r : Nat) (hr : r < 2^i) : rows[2^i + r]! = rows[2^i]! ^^^ rows[r]! := by
  have h2 : 2^i + 2^i ≤ 2^k := by
    have := Nat.pow_le_pow_right (n := 2) (by decide) (Nat.succ_le_of_lt hi)
    rw [Nat.pow_succ] at this; omega
  have := congrArg (·[r]?) (h.2.2 i hi)
  simp only [List.getElem?_take, hr, if_true, List.getElem?_drop, List.getElem?_map] at this
  simp only [Array.getElem!_eq_getD, Array.getD_eq_getD_getElem?, ← Array.getElem?_toList,
    List.getD_eq_getElem?_getD] at this ⊢
  rw [this, List.getElem?_eq_getElem (l := rows.toList) (i := r) (by have := h.1; omega)]
  rfl

theorem SplitRows.ok {rows : Array Nat} (h : SplitRows rows 8) (n : Nat) (c : Nat → Nat)
    (hb : ∀ i, i < 8 → ∀ b, b < n → byteAt (rows[2^i]!) b = gmul (2^i) (c b))
    (a : Nat) (ha : a < 256) (b : Nat) (hb' : b < n) : byteAt (rows[a]!) b = gmul a (c b) :=
  BF.ext_of_split (fun a => byteAt (rows[a]!) b) (fun a => gmul a (c b)) 8 (by simp [h.2.1, byteAt])
    (fun i hi r hr => by simp only [h.get i hi r hr, byteAt_xor])
    (fun a a' => BF.pmul_xor_left 8 poly8 a a' (c b)) (fun i hi => hb i hi b hb') a ha

theorem gmul_nibbles (a x : Nat) : gmul a (x &&& 15) ^^^ gmul a ((x >>> 4) * 16) = gmul a x := by
  have h := BF.split_low x 4
  rw [Nat.shiftLeft_eq] at h
  exact (BF.pmul_xor_right 8 poly8 a _ _).symm.trans (congrArg (gmul a) h)

theorem mulTable_split : SplitRows mulTableRows 8 := by decide +kernel

theorem mulTable_basis : ∀ i, i < 8 → ∀ b, b < 256 → byteAt (mulTableRows[2^i]!) b = gmul (2^i) b := by
  decide +kernel

theorem mulTable_ok (a b : Nat) (ha : a < 256) (hb : b < 256) : byteAt (mulTableRows[a]!) b = gmul a b :=
  mulTable_split.ok 256 id mulTable_basis a ha b hb

theorem mulTableLow_split : SplitRows mulTableLowRows 8 := by decide +kernel

theorem mulTableLow_basis :
    ∀ i, i < 8 → ∀ n, n < 16 → byteAt (mulTableLowRows[2^i]!) n = gmul (2^i) n := by decide +kernel

theorem mulTableLow_ok : ∀ a, a < 256 → ∀ n, n < 16 → byteAt (mulTableLowRows[a]!) n = gmul a n :=
  fun a ha n hn => mulTableLow_split.ok 16 id mulTableLow_basis a ha n hn

theorem mulTableHigh_split : SplitRows mulTableHighRows 8 := by decide +kernel

theorem mulTableHigh_basis :
    ∀ i, i < 8 → ∀ n, n < 16 → byteAt (mulTableHighRows[2^i]!) n = gmul (2^i) (n * 16) := by decide +kernel

theorem mulTableHigh_ok : ∀ a, a < 256 → ∀ n, n < 16 → byteAt (mulTableHighRows[a]!) n = gmul a (n * 16) :=
  fun a ha n hn => mulTableHigh_split.ok 16 (· * 16) mulTableHigh_basis a ha n hn

theorem gfni_split : wordAt gf2p811dMulMatrices 0 = 0 ∧ ∀ i, i < 8 → ∀ r, r < 2^i →
    wordAt gf2p811dMulMatrices (2^i + r) = wordAt gf2p811dMulMatrices (2^i) ^^^ wordAt gf2p811dMulMatrices r := by
  decide +kernel

theorem gfni_basis : ∀ i, i < 8 → ∀ j, j < 8 →
    affineByte (wordAt gf2p811dMulMatrices (2^i)) (2^j) = gmul (2^i) (2^j) := by decide +kernel

theorem gfni_ok (a x : Nat) (ha : a < 256) (hx : x < 256) :
    affineByte (wordAt gf2p811dMulMatrices a) x = gmul a x :=
  BF.ext_of_basis _ _ (affineByte_xor_right _) (BF.pmul_xor_right 8 poly8 a) 8
    (fun j hj => BF.ext_of_split (fun a => affineByte (wordAt gf2p811dMulMatrices a) (2^j)) (gmul · (2^j)) 8
      (by rw [gfni_split.1, affineByte_zero_left])
      (fun i hi r hr => by simp only [gfni_split.2 i hi r hr, affineByte_xor_left])
      (fun a a' => BF.pmul_xor_left 8 poly8 a a' _) (fun i hi => gfni_basis i hi j hj) a ha) x hx

/-- the generating polynomial constant of galois.go is the low byte of 0x11D -/
theorem generatingPolynomial_ok : generatingPolynomial + 256 = poly8 := by decide

theorem fieldSize_ok : fieldSize = 256 := by decide

theorem expTable_rec : byteAt expTable 0 = 1 ∧ ∀ i, i < 255 → byteAt expTable (i+1) = gmul (byteAt expTable i) 2 := by
  decide +kernel

theorem expTable_pow (i : Nat) (hi : i < 256) : byteAt expTable i = gpow 2 i := by
  induction i with
  | zero => exact expTable_rec.1
  | succ n ih =>
    rw [expTable_rec.2 n (by omega), ih (by omega)]
    rfl

/-- `logTable` inverts `expTable` on exponents below 255, so the powers `x^0 … x^254` of `x` are pairwise
distinct: `x` has order 255 -/
theorem logTable_exp : ∀ i, i < 255 → byteAt logTable (byteAt expTable i) = i := by decide +kernel

theorem expTable_log : ∀ a, a < 256 → a ≠ 0 → byteAt expTable (byteAt logTable a) = a := by decide +kernel

theorem gpow_log (a : Nat) (ha : a < 256) (h0 : a ≠ 0) : gpow 2 (byteAt logTable a) = a := by
  rw [← expTable_pow _ (byteAt_lt _ _)]; exact expTable_log a ha h0

theorem expTable_255 : byteAt expTable 255 = 1 := by decide +kernel

theorem invTable_ok : byteAt invTable 0 = 0 ∧ ∀ a, a < 256 → a ≠ 0 → gmul a (byteAt invTable a) = 1 := by
  decide +kernel

end RSV.Tables
