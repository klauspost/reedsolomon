import RSV.Model.Asm
/-!
The machine of `RSV.Model.Asm` on program segments, independent of any checker: `run` (a fixed
number of non-halting steps) against the fuel interpreter `exec`, fetching at a known position,
label resolution, straight-line segments driven by an abstract symbolic step, and counted loops.
-/
namespace RSV.Asm

/-- everything but `RET` and the jumps: executed by `stepInstr`, then `pc + 1` -/
def isPlain : Instr → Bool
  | .ret | .jz _ | .jnz _ | .ja _ | .jmp _ => false
  | _ => true

def run (env : Env) (prog : Program) : Nat → State → Option State
  | 0, s => some s
  | k + 1, s =>
    match step env prog s with
    | .cont s' => run env prog k s'
    | _ => none

theorem run_add (env : Env) (prog : Program) (a b : Nat) (s : State) :
    run env prog (a + b) s = (run env prog a s).bind (run env prog b) := by
  induction a generalizing s with
  | zero => simp [run]
  | succ a ih =>
    rw [Nat.add_right_comm]
    simp only [run]
    cases step env prog s with
    | cont s' => exact ih s'
    | halt s' => rfl
    | fault => rfl

theorem run_trans {env : Env} {prog : Program} {a b : Nat} {s s1 s2 : State}
    (h1 : run env prog a s = some s1) (h2 : run env prog b s1 = some s2) :
    run env prog (a + b) s = some s2 := by
  rw [run_add, h1]; exact h2

theorem exec_of_run {env : Env} {prog : Program} {k : Nat} {s s' : State}
    (h : run env prog k s = some s') (f : Nat) : exec env prog (k + f) s = exec env prog f s' := by
  induction k generalizing s with
  | zero => cases h; simp
  | succ k ih =>
    rw [Nat.add_right_comm]
    simp only [run] at h
    simp only [exec]
    cases hst : step env prog s with
    | cont s1 => rw [hst] at h; exact ih h
    | halt s1 => rw [hst] at h; cases h
    | fault => rw [hst] at h; cases h

theorem exec_mono {env : Env} {prog : Program} {f : Nat} {s r : State}
    (h : exec env prog f s = some r) (f' : Nat) (hf : f ≤ f') : exec env prog f' s = some r := by
  induction f generalizing s f' with
  | zero => cases h
  | succ f ih =>
    obtain ⟨f'', rfl⟩ : ∃ f'', f' = f'' + 1 := ⟨f' - 1, by omega⟩
    simp only [exec] at h ⊢
    cases hst : step env prog s with
    | cont s1 => rw [hst] at h; exact ih h f'' (by omega)
    | halt s1 => rw [hst] at h; exact h
    | fault => rw [hst] at h; cases h

theorem run_one {env : Env} {prog : Program} {s s' : State} (h : step env prog s = .cont s') :
    run env prog 1 s = some s' := by simp [run, h]

theorem exec_halt {env : Env} {prog : Program} {k : Nat} {s s' sf : State}
    (h : run env prog k s = some s') (hh : step env prog s' = .halt sf) :
    exec env prog (k + 1) s = some sf := by
  rw [exec_of_run h]; simp [exec, hh]

def State.setPc (s : State) (p : Nat) : State := { s with pc := p }

/- Used instead of `rfl` at call sites where `p` is the length of a long program prefix: there the
defeq check would start evaluating that length. -/
theorem State.setPc_pc (s : State) (p : Nat) : (s.setPc p).pc = p := rfl
theorem State.setPc_mem (s : State) (p : Nat) : (s.setPc p).mem = s.mem := rfl

/-! ## positions: `prog = A ++ i :: C` says that `i` sits at `A.length` -/

theorem at_next {prog A C : List Instr} {i : Instr} (hp : prog = A ++ i :: C) : prog = (A ++ [i]) ++ C := by
  simp [hp]

theorem at_skip {prog A C seg : List Instr} (hp : prog = A ++ (seg ++ C)) : prog = A ++ seg ++ C := by
  simp [hp]

theorem fetch_at {prog A C : List Instr} {i : Instr} (hp : prog = A ++ i :: C) : prog[A.length]? = some i := by
  subst hp; simp

theorem step_plain {env : Env} {prog : Program} {i : Instr} {s : State} (hf : prog[s.pc]? = some i)
    (hpl : isPlain i = true) :
    step env prog s = match stepInstr env i s with
      | some s' => .cont (s'.setPc (s.pc + 1))
      | none => .fault := by
  unfold step
  rw [hf]
  cases i with
  | ret | jz | jnz | ja | jmp => cases hpl
  | _ => rfl

theorem step_at_plain {env : Env} {prog A C : List Instr} {i : Instr} {s s' : State}
    (hp : prog = A ++ i :: C) (hpc : s.pc = A.length) (hpl : isPlain i = true)
    (hst : stepInstr env i s = some s') : step env prog s = .cont (s'.setPc (A.length + 1)) := by
  rw [step_plain (hpc ▸ fetch_at hp) hpl, hst, hpc]

theorem step_at_ret {env : Env} {prog A C : List Instr} {s : State}
    (hp : prog = A ++ .ret :: C) (hpc : s.pc = A.length) : step env prog s = .halt s := by
  unfold step
  rw [hpc, fetch_at hp]

theorem step_at_jz {env : Env} {prog A C : List Instr} {l : Nat} {s : State} {b : Bool}
    (hp : prog = A ++ .jz l :: C) (hpc : s.pc = A.length) (hz : s.zf = some b) :
    step env prog s = if b then jump prog s l else .cont (s.setPc (A.length + 1)) := by
  unfold step
  rw [hpc, fetch_at hp]
  simp only [State.setPc, hz]
  cases b <;> rfl

theorem step_at_jnz {env : Env} {prog A C : List Instr} {l : Nat} {s : State} {b : Bool}
    (hp : prog = A ++ .jnz l :: C) (hpc : s.pc = A.length) (hz : s.zf = some b) :
    step env prog s = if b then .cont (s.setPc (A.length + 1)) else jump prog s l := by
  unfold step
  rw [hpc, fetch_at hp]
  simp only [State.setPc, hz]
  cases b <;> rfl

theorem step_at_ja {env : Env} {prog A C : List Instr} {l : Nat} {s : State} {z cf : Bool}
    (hp : prog = A ++ .ja l :: C) (hpc : s.pc = A.length) (hz : s.zf = some z) (hc : s.cf = some cf) :
    step env prog s = if !z && !cf then jump prog s l else .cont (s.setPc (A.length + 1)) := by
  unfold step
  rw [hpc, fetch_at hp]
  simp only [State.setPc, hz, hc]

theorem step_at_jmp {env : Env} {prog A C : List Instr} {l : Nat} {s : State}
    (hp : prog = A ++ .jmp l :: C) (hpc : s.pc = A.length) : step env prog s = jump prog s l := by
  unfold step
  rw [hpc, fetch_at hp]

theorem findLabel_at {prog A C : List Instr} {l : Nat} (hp : prog = A ++ .label l :: C)
    (hA : Instr.label l ∉ A) : findLabel prog l = some A.length := by
  subst hp
  induction A with
  | nil => simp [findLabel]
  | cons a A ih =>
    have ha : a ≠ .label l := fun e => hA (e ▸ List.mem_cons_self)
    simp only [List.cons_append, findLabel, if_neg ha]
    rw [ih (fun hi => hA (List.mem_cons_of_mem _ hi))]
    simp

theorem jump_eq {prog : Program} {s : State} {l p : Nat} (h : findLabel prog l = some p) :
    jump prog s l = .cont (s.setPc p) := by simp [jump, h, State.setPc]

/-- an early exit `i0 ; JZ l` where `i0` sets `ZF` iff the count is zero: at `l`, or behind the `JZ` -/
theorem jz_guard {env : Env} {prog A C : List Instr} {i0 : Instr} {l E cnt : Nat} {s1 s2 : State}
    (hp : prog = A ++ i0 :: .jz l :: C) (hpl : isPlain i0 = true) (hfind : findLabel prog l = some E)
    (hpc : s1.pc = A.length) (hst : stepInstr env i0 s1 = some s2) (hz : s2.zf = some (cnt == 0)) :
    run env prog 2 s1 = some ((s2.setPc (A.length + 1)).setPc
      (if cnt = 0 then E else (A ++ [i0] ++ [Instr.jz l]).length)) := by
  have hs2 := step_at_plain hp hpc hpl hst
  have hs3 := step_at_jz (env := env) (s := s2.setPc (A.length + 1)) (b := cnt == 0) (at_next hp)
    (by simp [State.setPc]) hz
  rw [jump_eq hfind] at hs3
  refine run_trans (run_one hs2) (run_one (hs3.trans ?_))
  by_cases h : cnt = 0 <;> simp [h]

/-- the usual end of a kernel: the end label, then `RET` -/
theorem exec_finish {env : Env} {prog A C : List Instr} {l k : Nat} {s0 s : State}
    (hrun : run env prog k s0 = some s) (hp : prog = A ++ .label l :: .ret :: C) (hpc : s.pc = A.length) :
    ∃ sf, (∀ fuel, k + 2 ≤ fuel → exec env prog fuel s0 = some sf) ∧ sf.mem = s.mem :=
  ⟨_, fun fuel hf => exec_mono ((exec_of_run hrun 2).trans (exec_halt (run_one (step_at_plain hp hpc rfl rfl))
    (step_at_ret (at_next hp) (by simp [State.setPc])))) fuel hf, rfl⟩

theorem run_vz {env : Env} {prog : Program} (L : List Instr) :
    ∀ (A C : List Instr) (s : State), (∀ i, i ∈ L → i = .vzeroupper) → prog = A ++ L ++ C → s.pc = A.length →
      ∃ s', run env prog L.length s = some s' ∧ s'.pc = A.length + L.length ∧ s'.mem = s.mem := by
  induction L with
  | nil => intro A C s _ _ hpc; exact ⟨s, rfl, by simpa using hpc, rfl⟩
  | cons i L ih =>
    intro A C s hall hp hpc
    have hi : i = .vzeroupper := hall i (by simp)
    subst hi
    have hp' : prog = A ++ Instr.vzeroupper :: (L ++ C) := by rw [hp]; simp
    have hstep := step_at_plain (env := env) (s := s) (s' := zeroUpper s) hp' hpc rfl rfl
    obtain ⟨s2, hrun, hpc2, hmem2⟩ := ih (A ++ [Instr.vzeroupper]) C ((zeroUpper s).setPc (A.length + 1))
      (fun j hj => hall j (by simp [hj])) (by rw [hp]; simp) (by simp [State.setPc])
    refine ⟨s2, ?_, ?_, ?_⟩
    · simp only [List.length_cons, run, hstep]; exact hrun
    · rw [hpc2]; simp; omega
    · rw [hmem2]; rfl

/-- the symbolic run both checkers define: fold of the symbolic step -/
def runSym {S : Type} (stepS : Instr → S → Option S) : List Instr → S → Option S
  | [], σ => some σ
  | i :: is, σ =>
    match stepS i σ with
    | some σ' => runSym stepS is σ'
    | none => none

theorem runSym_forall {S : Type} {stepS : Instr → S → Option S} {P : Instr → Prop}
    (hP : ∀ i σ σ', stepS i σ = some σ' → P i) {seg : List Instr} {σ σ' : S}
    (h : runSym stepS seg σ = some σ') : ∀ i, i ∈ seg → P i := by
  induction seg generalizing σ with
  | nil => intro i hi; cases hi
  | cons a seg ih =>
    simp only [runSym] at h
    split at h
    · rename_i σ1 heq
      intro i hi
      rcases List.mem_cons.mp hi with rfl | hi'
      · exact hP _ _ _ heq
      · exact ih h i hi'
    · cases h

theorem runSym_sound {S : Type} {env : Env} {stepS : Instr → S → Option S} {R : S → State → Prop}
    (hpc : ∀ σ s p, R σ s → R σ (s.setPc p))
    (hstep : ∀ i σ σ' s, stepS i σ = some σ' → R σ s →
      isPlain i = true ∧ ∃ s', stepInstr env i s = some s' ∧ R σ' s')
    {prog : Program} (seg : List Instr) :
    ∀ (A C : List Instr) (σ σ' : S) (s : State), prog = A ++ seg ++ C → s.pc = A.length →
      R σ s → runSym stepS seg σ = some σ' →
      ∃ s', run env prog seg.length s = some s' ∧ s'.pc = A.length + seg.length ∧ R σ' s' := by
  induction seg with
  | nil =>
    intro A C σ σ' s _ hpc' h hs
    cases hs
    exact ⟨s, rfl, by simpa using hpc', h⟩
  | cons i seg ih =>
    intro A C σ σ' s hp hpc' h hs
    simp only [runSym] at hs
    split at hs
    · rename_i σ1 heq
      obtain ⟨hpl, s1, hst, hsim1⟩ := hstep i σ σ1 s heq h
      have hstep' := step_at_plain (prog := prog) (C := seg ++ C) (by rw [hp]; simp) hpc' hpl hst
      obtain ⟨s2, hrun, hpc2, hsim2⟩ := ih (A ++ [i]) C σ1 σ' (s1.setPc (A.length + 1)) (by rw [hp]; simp)
        (by simp [State.setPc]) (hpc _ _ _ hsim1) hs
      refine ⟨s2, ?_, ?_, hsim2⟩
      · simp only [List.length_cons, run, hstep']; exact hrun
      · rw [hpc2]; simp; omega
    · cases hs

/-- `n` steps per trip; `m = cnt - it` trips remain (the induction variable) -/
theorem run_iterate {env : Env} {prog : Program} {Inv : Nat → State → Prop} {n cnt head exit : Nat}
    (hstep : ∀ it s, it < cnt → s.pc = head → Inv it s →
      ∃ s', run env prog n s = some s' ∧ Inv (it + 1) s' ∧ s'.pc = if it + 1 < cnt then head else exit) :
    ∀ (m it : Nat) (s : State), cnt - it = m → it < cnt → s.pc = head → Inv it s →
      ∃ s', run env prog (m * n) s = some s' ∧ Inv cnt s' ∧ s'.pc = exit := by
  intro m
  induction m with
  | zero => intro it s hm hit; omega
  | succ m ih =>
    intro it s hm hit hpc h
    obtain ⟨s1, hrun1, hsim1, hpc1⟩ := hstep it s hit hpc h
    by_cases hlast : it + 1 < cnt
    · rw [if_pos hlast] at hpc1
      obtain ⟨s2, hrun2, hsim2, hpc2⟩ := ih (it + 1) s1 (by omega) hlast hpc1 hsim1
      exact ⟨s2, by rw [Nat.succ_mul, Nat.add_comm]; exact run_trans hrun1 hrun2, hsim2, hpc2⟩
    · rw [if_neg hlast] at hpc1
      obtain rfl : m = 0 := by omega
      obtain rfl : it + 1 = cnt := by omega
      exact ⟨s1, by simpa using hrun1, hsim1, hpc1⟩

/-- one trip through `label ; body ; dec ; jcc` where `dec` sets `ZF` exactly on the last iteration
(and leaves `CF` clear if `jcc` is `JA`): back at the label, or just behind `jcc` -/
theorem loop_trip {env : Env} {prog A body C : List Instr} {l cnt : Nat} {dec jcc : Instr}
    {Inv Mid : Nat → State → Prop}
    (hasm : prog = A ++ .label l :: (body ++ (dec :: jcc :: C)))
    (hfind : findLabel prog l = some A.length)
    (hInv : ∀ it s p, Inv it s → Inv it (s.setPc p))
    (hbody : ∀ it s, it < cnt → s.pc = (A ++ [Instr.label l]).length → Inv it s →
      ∃ s2, run env prog body.length s = some s2 ∧ s2.pc = (A ++ [Instr.label l]).length + body.length ∧ Mid it s2)
    (hpl : isPlain dec = true)
    (hdec : ∀ it s2, it < cnt → Mid it s2 → ∃ s3, stepInstr env dec s2 = some s3 ∧ Inv (it + 1) s3 ∧
      s3.zf = some (!decide (it + 1 < cnt)) ∧ (jcc = .ja l → s3.cf = some false))
    (hj : jcc = .jnz l ∨ jcc = .ja l)
    {it : Nat} {s : State} (hit : it < cnt) (hpc : s.pc = A.length) (h : Inv it s) :
    ∃ s', run env prog (body.length + 3) s = some s' ∧ Inv (it + 1) s' ∧
      s'.pc = if it + 1 < cnt then A.length else A.length + 1 + body.length + 2 := by
  have hs1 : step env prog s = .cont (s.setPc (A.length + 1)) := step_at_plain hasm hpc rfl rfl
  have hasm1 := at_skip (at_next hasm)
  obtain ⟨s2, hrun2, hpc2, hmid⟩ := hbody it (s.setPc (A.length + 1)) hit (by simp [State.setPc]) (hInv _ _ _ h)
  obtain ⟨s3, hst3, hinv3, hz3, hcf3⟩ := hdec it s2 hit hmid
  have hasm2 : prog = (A ++ [Instr.label l] ++ body) ++ dec :: (jcc :: C) := hasm1
  have hs3 := step_at_plain hasm2 (by rw [hpc2]; simp only [List.length_append]) hpl hst3
  have hasm3 := at_next hasm2
  have hpc3 : (s3.setPc ((A ++ [Instr.label l] ++ body).length + 1)).pc = (A ++ [Instr.label l] ++ body ++ [dec]).length := by
    simp only [State.setPc, List.length_append, List.length_singleton]
  have hcount : body.length + 3 = 1 + body.length + 1 + 1 := by omega
  rw [hcount]
  by_cases hlast : it + 1 < cnt
  · have hs4 : step env prog (s3.setPc ((A ++ [Instr.label l] ++ body).length + 1)) =
        .cont ((s3.setPc ((A ++ [Instr.label l] ++ body).length + 1)).setPc A.length) := by
      rcases hj with rfl | rfl
      · rw [step_at_jnz hasm3 hpc3 hz3, jump_eq hfind]; simp [hlast]
      · rw [step_at_ja hasm3 hpc3 hz3 (hcf3 rfl), jump_eq hfind]; simp [hlast]
    exact ⟨_, run_trans (run_trans (run_trans (run_one hs1) hrun2) (run_one hs3)) (run_one hs4),
      hInv _ _ _ (hInv _ _ _ hinv3), by simp [hlast, State.setPc]⟩
  · have hs4 : step env prog (s3.setPc ((A ++ [Instr.label l] ++ body).length + 1)) =
        .cont ((s3.setPc ((A ++ [Instr.label l] ++ body).length + 1)).setPc
          ((A ++ [Instr.label l] ++ body ++ [dec]).length + 1)) := by
      rcases hj with rfl | rfl
      · rw [step_at_jnz hasm3 hpc3 hz3]; simp [hlast]
      · rw [step_at_ja hasm3 hpc3 hz3 (hcf3 rfl)]; simp [hlast]
    refine ⟨_, run_trans (run_trans (run_trans (run_one hs1) hrun2) (run_one hs3)) (run_one hs4),
      hInv _ _ _ (hInv _ _ _ hinv3), ?_⟩
    simp [hlast, State.setPc]; omega

end RSV.Asm
