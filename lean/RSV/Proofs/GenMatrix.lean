import RSV.Model.MatrixGoAgree
import RSV.Proofs.GenFuncs
/-!
# The regenerated `matrix.go` / `reedsolomon.go` code (`RSV.Gen.MatrixGo`) in closed form

The translated Go loops are `forIn` loops over ranges in the `Option` monad.  `forIn_range_yield` turns a
loop whose body never exits early into its closed form, given a closed form `g i` of the state before
iteration `i`.  Matrix states are written `arr n w E` (`n` rows of width `w`, entry function `E`), which makes
`a[i][j] = v` a pointwise update; `forIn_rows` / `forIn_cols` are the closed forms of a loop that rewrites
one row, resp. one entry of a row, per iteration.  On these rest the closed forms, on `arr`, of `newMatrix`, the
four matrix builders, `SwapRows`, `identityMatrix`, `Augment` and `Multiply`.
-/
namespace RSV.GenMatrix
open RSV.Gen RSV.Model RSV.GenFuncs

theorem forIn_range'_prefix {β : Type} (f : Nat → β → Option (ForInStep β)) (g : Nat → β) :
    ∀ (j s r : Nat), (∀ i, s ≤ i → i < s + j → f i (g i) = some (ForInStep.yield (g (i + 1)))) →
      forIn (List.range' s (j + r) 1) (g s) f = forIn (List.range' (s + j) r 1) (g (s + j)) f := by
  intro j
  induction j with
  | zero => intro s r _; rw [Nat.zero_add]; rfl
  | succ j ih =>
    intro s r h
    rw [show j + 1 + r = j + r + 1 by omega, List.range'_succ, List.forIn_cons,
      h s (Nat.le_refl _) (by omega)]
    simp only [Option.bind_eq_bind, Option.bind_some]
    rw [ih (s + 1) r (fun i h1 h2 => h i (by omega) (by omega)), show s + 1 + j = s + (j + 1) by omega]

theorem forIn_range_yield {β : Type} (n : Nat) (f : Nat → β → Option (ForInStep β)) (g : Nat → β)
    (h : ∀ i, i < n → f i (g i) = some (ForInStep.yield (g (i + 1)))) :
    forIn [:n] (g 0) f = some (g n) := by
  rw [Std.Legacy.Range.forIn_eq_forIn_range']
  simp only [Std.Legacy.Range.size]
  have := forIn_range'_prefix f g n 0 0 (fun i _ h2 => h i (by omega))
  simpa using this

theorem forIn_range_stop {β : Type} (n : Nat) (f : Nat → β → Option (ForInStep β)) (g : Nat → β) (b : β)
    (k : Nat) (hk : k < n)
    (hy : ∀ i, i < k → f i (g i) = some (ForInStep.yield (g (i + 1))))
    (hd : f k (g k) = some (ForInStep.done b)) :
    forIn [:n] (g 0) f = some b := by
  rw [Std.Legacy.Range.forIn_eq_forIn_range']
  simp only [Std.Legacy.Range.size]
  have := forIn_range'_prefix f g k 0 (n - k - 1 + 1) (fun i _ h2 => hy i (by omega))
  rw [List.range'_succ, List.forIn_cons, Nat.zero_add, hd] at this
  simpa [show k + (n - k - 1 + 1) = n by omega] using this

/-- `count` steps starting at index `k`; `.error s` = the step at state `s` failed -/
def runSteps {σ : Type} (step : Nat → σ → Option σ) : Nat → Nat → σ → Except σ σ
  | _, 0, s => .ok s
  | k, m + 1, s =>
    match step k s with
    | none => .error s
    | some s' => runSteps step (k + 1) m s'

theorem forIn_range'_steps {β σ : Type} (f : Nat → β → Option (ForInStep β)) (st fin : σ → β)
    (step : Nat → σ → Option σ) :
    ∀ (m k : Nat) (s : σ),
      (∀ i s s', k ≤ i → i < k + m → step i s = some s' → f i (st s) = some (ForInStep.yield (st s'))) →
      (∀ i s, k ≤ i → i < k + m → step i s = none → f i (st s) = some (ForInStep.done (fin s))) →
      forIn (List.range' k m 1) (st s) f =
        some (match runSteps step k m s with | .ok s' => st s' | .error s' => fin s') := by
  intro m
  induction m with
  | zero => intro k s _ _; rfl
  | succ m ih =>
    intro k s hy hd
    rw [List.range'_succ, List.forIn_cons]
    unfold runSteps
    cases hs : step k s with
    | none =>
      rw [hd k s (Nat.le_refl _) (by omega) hs]
      rfl
    | some s' =>
      rw [hy k s s' (Nat.le_refl _) (by omega) hs]
      simp only [Option.bind_eq_bind, Option.bind_some]
      exact ih (k + 1) s' (fun i a b h1 h2 => hy i a b (by omega) (by omega))
        (fun i a h1 h2 => hd i a (by omega) (by omega))

theorem forIn_range_steps {β σ : Type} (n : Nat) (f : Nat → β → Option (ForInStep β)) (st fin : σ → β)
    (step : Nat → σ → Option σ) (s : σ)
    (hy : ∀ i s s', i < n → step i s = some s' → f i (st s) = some (ForInStep.yield (st s')))
    (hd : ∀ i s, i < n → step i s = none → f i (st s) = some (ForInStep.done (fin s))) :
    forIn [:n] (st s) f = some (match runSteps step 0 n s with | .ok s' => st s' | .error s' => fin s') := by
  rw [Std.Legacy.Range.forIn_eq_forIn_range']
  simp only [Std.Legacy.Range.size]
  have := forIn_range'_steps f st fin step n 0 s (fun i a b _ h2 => hy i a b (by omega))
    (fun i a _ h2 => hd i a (by omega))
  simpa using this

/-- `runSteps` peels steps off the front; here the last step is split off instead -/
theorem runSteps_snoc {σ : Type} (step : Nat → σ → Option σ) : ∀ (m k : Nat) (s : σ),
    runSteps step k (m + 1) s =
      match runSteps step k m s with
      | .ok s' => (match step (k + m) s' with | none => .error s' | some s'' => .ok s'')
      | .error e => .error e := by
  intro m
  induction m with
  | zero =>
    intro k s
    simp only [runSteps, Nat.add_zero]
  | succ m ih =>
    intro k s
    rw [runSteps]
    conv_rhs => rw [runSteps]
    cases step k s with
    | none => rfl
    | some s' =>
      simp only []
      rw [ih (k + 1) s', show k + 1 + m = k + (m + 1) by omega]

theorem gidx_nat {α : Type} [Inhabited α] (a : Array α) (i : Nat) (h : i < a.size) :
    gidx a (i : Int) = some a[i] := by
  unfold gidx
  have h0 : (0 : Int) ≤ (i : Int) := by omega
  simp only [h0, Int.toNat_natCast, h, and_self, if_true]
  rw [getElem!_pos a i h]

theorem gset_nat {α : Type} (a : Array α) (i : Nat) (v : α) (h : i < a.size) :
    gset a (i : Int) v = some (a.set! i v) := by
  unfold gset
  have h0 : (0 : Int) ≤ (i : Int) := by omega
  simp only [h0, Int.toNat_natCast, h, and_self, if_true]

theorem gset2_nat (a : Array (Array Nat)) (i j v : Nat) (hi : i < a.size) (hj : j < a[i].size) :
    gset2 a (i : Int) (j : Int) v = some (a.set! i (a[i].set! j v)) := by
  unfold gset2
  rw [gidx_nat a i hi]
  simp only [Option.bind_eq_bind, Option.bind_some]
  rw [gset_nat _ j v hj]
  simp only [Option.bind_some]
  rw [gset_nat a i _ hi]

def mk (n : Nat) (row : Nat → Array Nat) : Array (Array Nat) := Array.ofFn (n := n) fun k => row k.val

def mkRow (w : Nat) (e : Nat → Nat) : Array Nat := Array.ofFn (n := w) fun j => e j.val

theorem ofFn_val_congr {α : Type} {n : Nat} {f g : Nat → α} (h : ∀ k, k < n → f k = g k) :
    (Array.ofFn (n := n) fun k => f k.val) = Array.ofFn (n := n) fun k => g k.val := by
  congr 1; funext k; exact h k.val k.isLt

theorem set!_ofFn_val {α : Type} (n : Nat) (f : Nat → α) (i : Nat) (v : α) :
    (Array.ofFn (n := n) fun k => f k.val).set! i v = Array.ofFn (n := n) fun k => if k.val = i then v else f k.val := by
  apply Array.ext
  · simp
  · intro k h1 h2
    have hk : k < (Array.ofFn (n := n) fun k => f k.val).size := by simpa using h2
    simp only [Array.set!_eq_setIfInBounds]
    rw [Array.getElem_setIfInBounds hk]
    by_cases h : i = k
    · subst h; simp
    · have h' : ¬ k = i := fun e => h e.symm
      simp [h, h']

theorem replicate_eq_ofFn_val {α : Type} (n : Nat) (v : α) :
    Array.replicate n v = Array.ofFn (n := n) fun _ => v := by
  apply Array.ext
  · simp
  · intro k h1 h2; simp

@[simp] theorem size_mk (n : Nat) (row : Nat → Array Nat) : (mk n row).size = n := by simp [mk]
@[simp] theorem size_mkRow (w : Nat) (e : Nat → Nat) : (mkRow w e).size = w := by simp [mkRow]

theorem getElem_mk (n : Nat) (row : Nat → Array Nat) (k : Nat) (h : k < (mk n row).size) :
    (mk n row)[k] = row k := by simp [mk]

theorem getElem_mkRow (w : Nat) (e : Nat → Nat) (j : Nat) (h : j < (mkRow w e).size) :
    (mkRow w e)[j] = e j := by simp [mkRow]

theorem mk_congr {n : Nat} {r1 r2 : Nat → Array Nat} (h : ∀ k, k < n → r1 k = r2 k) : mk n r1 = mk n r2 :=
  ofFn_val_congr h

theorem mkRow_congr {w : Nat} {e1 e2 : Nat → Nat} (h : ∀ j, j < w → e1 j = e2 j) : mkRow w e1 = mkRow w e2 :=
  ofFn_val_congr h

theorem set_mk (n : Nat) (row : Nat → Array Nat) (i : Nat) (v : Array Nat) :
    (mk n row).set! i v = mk n (fun k => if k = i then v else row k) := set!_ofFn_val n row i v

theorem set_mkRow (w : Nat) (e : Nat → Nat) (j v : Nat) :
    (mkRow w e).set! j v = mkRow w (fun k => if k = j then v else e k) := set!_ofFn_val w e j v

theorem replicate_eq_mk (n : Nat) (v : Array Nat) : Array.replicate n v = mk n (fun _ => v) :=
  replicate_eq_ofFn_val n v

theorem replicate_eq_mkRow (w v : Nat) : Array.replicate w v = mkRow w (fun _ => v) :=
  replicate_eq_ofFn_val w v

/-- under the name the C17 statements (`Props/C17submatrix`) use -/
def _root_.RSV.GenGauss.arr (n w : Nat) (E : Nat → Nat → Nat) : Array (Array Nat) := mk n (fun k => mkRow w (E k))

open RSV.GenGauss

theorem arr_congr {n w : Nat} {E E' : Nat → Nat → Nat} (h : ∀ i j, i < n → j < w → E i j = E' i j) :
    arr n w E = arr n w E' :=
  mk_congr fun i hi => mkRow_congr fun j hj => h i j hi hj

@[simp] theorem size_arr (n w : Nat) (E : Nat → Nat → Nat) : (arr n w E).size = n := by simp [arr]

theorem getElem_arr {n w : Nat} {E : Nat → Nat → Nat} {i : Nat} (hi : i < (arr n w E).size) :
    (arr n w E)[i] = mkRow w (E i) := getElem_mk _ _ _ hi

theorem gidx_arr {n w : Nat} {E : Nat → Nat → Nat} {i : Nat} (hi : i < n) :
    gidx (arr n w E) (i : Int) = some (mkRow w (E i)) := by
  rw [gidx_nat _ i (by simpa using hi), getElem_arr]

theorem gidx_mkRow {w : Nat} {e : Nat → Nat} {j : Nat} (hj : j < w) :
    gidx (mkRow w e) (j : Int) = some (e j) := by
  rw [gidx_nat _ j (by simpa using hj), getElem_mkRow]

/-- the read `m[i][j]` followed by its continuation -/
theorem gidx2_arr {β : Type} {n w : Nat} {E : Nat → Nat → Nat} {i j : Nat} (hi : i < n) (hj : j < w)
    (k : Nat → Option β) :
    ((gidx (arr n w E) (i : Int)).bind fun a => (gidx a (j : Int)).bind k) = k (E i j) := by
  rw [gidx_arr hi, Option.bind_some, gidx_mkRow hj, Option.bind_some]

theorem gset2_arr {n w : Nat} {E : Nat → Nat → Nat} {i j : Nat} (v : Nat) (hi : i < n) (hj : j < w) :
    gset2 (arr n w E) (i : Int) (j : Int) v = some (arr n w (fun a b => if a = i ∧ b = j then v else E a b)) := by
  have hsz : i < (arr n w E).size := by simpa using hi
  rw [gset2_nat _ i j v hsz (by rw [getElem_arr]; simpa using hj), getElem_arr]
  congr 1
  simp only [arr, set_mk, set_mkRow]
  apply mk_congr
  intro a _
  by_cases h : a = i
  · subst h
    simp only [if_true, true_and]
  · simp [h]

theorem getElem!_arr {n w : Nat} {E : Nat → Nat → Nat} {i j : Nat} (hi : i < n) (hj : j < w) :
    ((arr n w E)[i]!)[j]! = E i j := by
  have h1 : i < (arr n w E).size := by simpa using hi
  rw [getElem!_pos _ i h1, getElem_arr, getElem!_pos _ j (by simpa using hj), getElem_mkRow]

theorem arr_of_array (n : Nat) (a : Array (Array Nat)) (hsz : a.size = n) (hrow : ∀ i, i < n → (a[i]!).size = n) :
    a = arr n n (fun i j => (a[i]!)[j]!) := by
  apply Array.ext
  · simp [hsz]
  · intro i h1 h2
    have hi : i < n := by omega
    have hget : a[i]! = a[i] := getElem!_pos a i h1
    have hs : a[i].size = n := by rw [← hget]; exact hrow i hi
    rw [getElem_arr]
    apply Array.ext
    · simp [hs]
    · intro j h3 h4
      rw [getElem_mkRow, hget, getElem!_pos a[i] j h3]

/-! In `forIn_rows` and `forIn_cols` the state before iteration `k` is only known to agree with the initial
matrix outside what the earlier iterations have written; what an iteration writes may be read off the
initial matrix there. -/

theorem forIn_rows (n w lo cnt : Nat) (E0 R : Nat → Nat → Nat)
    (f : Nat → Array (Array Nat) → Option (ForInStep (Array (Array Nat))))
    (hstep : ∀ k, k < cnt → ∀ E, (∀ i j, ¬ (lo ≤ i ∧ i < lo + k) → E i j = E0 i j) →
      ∃ E', f k (arr n w E) = some (ForInStep.yield (arr n w E')) ∧
        ∀ i j, i < n → j < w → E' i j = if i = lo + k then R i j else E i j) :
    forIn [:cnt] (arr n w E0) f
      = some (arr n w (fun i j => if lo ≤ i ∧ i < lo + cnt then R i j else E0 i j)) := by
  let g : Nat → Array (Array Nat) := fun k =>
    arr n w (fun i j => if lo ≤ i ∧ i < lo + k then R i j else E0 i j)
  have hg0 : arr n w E0 = g 0 := arr_congr (by
    intro i j _ _
    have : ¬ (lo ≤ i ∧ i < lo + 0) := by omega
    rw [if_neg this])
  rw [hg0]
  apply forIn_range_yield cnt _ g
  intro k hk
  obtain ⟨E', hf, hE'⟩ := hstep k hk _ (fun i j h => if_neg h)
  rw [hf]
  congr 2
  apply arr_congr
  intro i j hi hj
  rw [hE' i j hi hj]
  by_cases h : i = lo + k
  · subst h
    have : lo ≤ lo + k ∧ lo + k < lo + (k + 1) := by omega
    simp [this]
  · have : (lo ≤ i ∧ i < lo + (k + 1)) ↔ (lo ≤ i ∧ i < lo + k) := by omega
    simp [h, this]

theorem forIn_rows_all (n w : Nat) (E0 R : Nat → Nat → Nat)
    (f : Nat → Array (Array Nat) → Option (ForInStep (Array (Array Nat))))
    (hstep : ∀ k, k < n → ∀ E, (∀ i j, ¬ i < k → E i j = E0 i j) →
      ∃ E', f k (arr n w E) = some (ForInStep.yield (arr n w E')) ∧
        ∀ i j, i < n → j < w → E' i j = if i = k then R i j else E i j) :
    forIn [:n] (arr n w E0) f = some (arr n w R) := by
  rw [forIn_rows n w 0 n E0 R f]
  · exact congrArg some (arr_congr fun i j hi _ => by simp [hi])
  · intro k hk E hE
    obtain ⟨E', hf, hE'⟩ := hstep k hk E (fun i j h => hE i j (by omega))
    exact ⟨E', hf, fun i j hi hj => by rw [hE' i j hi hj, Nat.zero_add]⟩

theorem forIn_cols (n w r off cnt : Nat) (E0 : Nat → Nat → Nat) (v : Nat → Nat)
    (f : Nat → Array (Array Nat) → Option (ForInStep (Array (Array Nat))))
    (hstep : ∀ c, c < cnt → ∀ E, (∀ i j, ¬ (i = r ∧ off ≤ j ∧ j < off + c) → E i j = E0 i j) →
      f c (arr n w E) = some (ForInStep.yield (arr n w (fun i j => if i = r ∧ j = off + c then v c else E i j)))) :
    forIn [:cnt] (arr n w E0) f
      = some (arr n w (fun i j => if i = r ∧ off ≤ j ∧ j < off + cnt then v (j - off) else E0 i j)) := by
  let g : Nat → Array (Array Nat) := fun c =>
    arr n w (fun i j => if i = r ∧ off ≤ j ∧ j < off + c then v (j - off) else E0 i j)
  have hg0 : arr n w E0 = g 0 := arr_congr (by
    intro i j _ _
    have : ¬ (i = r ∧ off ≤ j ∧ j < off + 0) := by omega
    rw [if_neg this])
  rw [hg0]
  apply forIn_range_yield cnt _ g
  intro c hc
  rw [hstep c hc _ (fun i j h => if_neg h)]
  congr 2
  apply arr_congr
  intro i j _ _
  by_cases hi : i = r
  · subst hi
    by_cases hj : j = off + c
    · subst hj
      have : off ≤ off + c ∧ off + c < off + (c + 1) := by omega
      simp [this]
    · have : (off ≤ j ∧ j < off + (c + 1)) ↔ (off ≤ j ∧ j < off + c) := by omega
      simp [hj, this]
  · simp [hi]

theorem forIn_cols_all (n w r : Nat) (E0 : Nat → Nat → Nat) (v : Nat → Nat)
    (f : Nat → Array (Array Nat) → Option (ForInStep (Array (Array Nat))))
    (hstep : ∀ c, c < w → ∀ E, (∀ i j, ¬ (i = r ∧ j < c) → E i j = E0 i j) →
      f c (arr n w E) = some (ForInStep.yield (arr n w (fun i j => if i = r ∧ j = c then v c else E i j)))) :
    forIn [:w] (arr n w E0) f = some (arr n w (fun i j => if i = r then v j else E0 i j)) := by
  rw [forIn_cols n w r 0 w E0 v f]
  · exact congrArg some (arr_congr fun i j _ hj => by simp [hj])
  · intro c hc E hE
    rw [hstep c hc E (fun i j h => hE i j (by omega)), Nat.zero_add]

theorem newMatrix_eq (n w : Nat) (hn : 0 < n) (hw : 0 < w) :
    newMatrix (n : Int) (w : Int) = some (arr n w (fun _ _ => 0), none) := by
  unfold newMatrix
  have h1 : ¬ ((n : Int) ≤ 0) := by omega
  have h2 : ¬ ((w : Int) ≤ 0) := by omega
  have h3 : (0:Int) ≤ n := by omega
  have h4 : (0:Int) ≤ w := by omega
  simp only [h1, h2, h3, h4, if_false, not_true_eq_false, Int.toNat_natCast]
  rw [replicate_eq_mk, size_mk, replicate_eq_mkRow]
  -- rows `< i` are allocated, the others still empty
  let g : Nat → Array (Array Nat) := fun i => mk n (fun k => if k < i then mkRow w (fun _ => 0) else #[])
  have hg0 : mk n (fun _ => (#[] : Array Nat)) = g 0 := mk_congr (by intro k _; simp)
  rw [hg0, forIn_range_yield n _ g]
  · simp only [Option.bind_eq_bind, Option.bind_some, Option.pure_def]
    congr 2
    exact mk_congr (by intro k hk; simp [hk])
  · intro i hi
    simp only [g, Int.ofNat_eq_natCast]
    rw [gset_nat _ i _ (by simpa using hi), set_mk]
    simp only [Option.bind_eq_bind, Option.bind_some, Option.pure_def]
    congr 2
    apply mk_congr
    intro k _
    by_cases h : k = i
    · subst h; simp
    · have : k < i + 1 ↔ k < i := by omega
      simp [h, this]

/-- The two nested loops shared by the Cauchy, PAR1 and Xor builders: `1` on the diagonal of the
first `d` rows, the entry `e r c` below.  The left side is the translator's output as it stands
after `unfold` + `simp only`; `rw` needs it to match syntactically. -/
theorem fill_loops (n d : Nat) (e : Nat → Nat → Option Nat) (v : Nat → Nat → Nat)
    (he : ∀ r c, d ≤ r → r < n → c < d → e r c = some (v r c)) :
    (forIn [:n] (arr n d fun _ _ => 0) fun r'k __s =>
        (gidx __s (Int.ofNat r'k)).bind fun row =>
          if Int.ofNat r'k < (d : Int) then
            (gset2 __s (Int.ofNat r'k) (Int.ofNat r'k) 1).bind fun result => pure (ForInStep.yield result)
          else
            (forIn [:row.size] __s fun c'k __s =>
                (e r'k c'k).bind fun x =>
                (gset2 __s (Int.ofNat r'k) (Int.ofNat c'k) x).bind fun result => pure (ForInStep.yield result)).bind
              fun result => pure (ForInStep.yield result))
      = some (arr n d fun i j => if i < d then (if j = i then 1 else 0) else v i j) := by
  apply forIn_rows_all
  intro r hr E hE
  have hrow : ∀ j, E r j = 0 := fun j => hE r j (Nat.lt_irrefl r)
  simp only [Int.ofNat_eq_natCast]
  rw [gidx_arr hr, Option.bind_some, size_mkRow]
  by_cases hrd : r < d
  · rw [if_pos (by omega), gset2_arr 1 hr (by omega), Option.bind_some]
    refine ⟨_, rfl, fun i j _ _ => ?_⟩
    by_cases hi : i = r
    · subst hi
      by_cases hj : j = i <;> simp [hj, hrd, hrow]
    · simp [hi]
  · rw [if_neg (by omega), forIn_cols_all n d r E (v r), Option.bind_some]
    · refine ⟨_, rfl, fun i j _ _ => ?_⟩
      by_cases hi : i = r
      · subst hi; simp [hrd]
      · simp [hi]
    · intro c hc E' _
      rw [he r c (by omega) hr hc, Option.bind_some, gset2_arr _ hr hc, Option.bind_some]
      rfl

/-- every row filled by the inner loop (no identity block): `vandermonde` -/
theorem fill_all (n w : Nat) (e : Nat → Nat → Option Nat) (v : Nat → Nat → Nat)
    (he : ∀ r c, r < n → c < w → e r c = some (v r c)) :
    (forIn [:n] (arr n w fun _ _ => 0) fun r'k __s =>
        (gidx __s (Int.ofNat r'k)).bind fun row =>
            (forIn [:row.size] __s fun c'k __s =>
                (e r'k c'k).bind fun x =>
                (gset2 __s (Int.ofNat r'k) (Int.ofNat c'k) x).bind fun result => pure (ForInStep.yield result)).bind
              fun result => pure (ForInStep.yield result))
      = some (arr n w v) := by
  apply forIn_rows_all
  intro r hr E _
  simp only [Int.ofNat_eq_natCast]
  rw [gidx_arr hr, Option.bind_some, size_mkRow, forIn_cols_all n w r E (v r), Option.bind_some]
  · refine ⟨_, rfl, fun i j _ _ => ?_⟩
    by_cases hi : i = r
    · subst hi; rfl
    · simp [hi]
  · intro c hc E' _
    rw [he r c hr hc, Option.bind_some, gset2_arr _ hr hc, Option.bind_some]
    rfl

theorem arr_eq_rowsOfMat {n m : Nat} (A : Mat GF256 n m) (V : Nat → Nat → Nat)
    (h : ∀ (i : Fin n) (j : Fin m), V i.val j.val = (A.get i j).val) : arr n m V = rowsOfMat A := by
  simp only [arr, mk, mkRow, rowsOfMat]
  congr 1; funext i
  congr 1; funext j
  exact h i j

theorem arr_systematic_eq_rowsOfMat {total d : Nat} (M : Mat GF256 total d) (v : Nat → Nat → Nat)
    (htop : ∀ (i : Fin total) (c : Fin d), i.val < d → M.get i c = if i.val = c.val then 1 else 0)
    (hbot : ∀ (i : Fin total) (c : Fin d), ¬ i.val < d → v i.val c.val = (M.get i c).val) :
    arr total d (fun i j => if i < d then (if j = i then 1 else 0) else v i j) = rowsOfMat M := by
  apply arr_eq_rowsOfMat
  intro i c
  by_cases h : i.val < d
  · rw [if_pos h, htop i c h]
    by_cases e : c.val = i.val
    · rw [if_pos e, if_pos e.symm]; rfl
    · rw [if_neg e, if_neg (fun e' => e e'.symm)]; rfl
  · rw [if_neg h, hbot i c h]

theorem buildMatrixCauchy_eq (d total : Nat) (hd : 0 < d) (ht : 0 < total) (ht63 : total < 2 ^ 63) :
    Gen.buildMatrixCauchy (d : Int) (total : Int) =
      some (rowsOfMat (Model.buildMatrixCauchy xByte d total), none) := by
  unfold Gen.buildMatrixCauchy
  rw [newMatrix_eq total d ht hd]
  simp only [Option.bind_eq_bind, Option.bind_some, ne_eq, not_true_eq_false, if_false, size_arr]
  have hX := fill_loops total d
    (fun r c => some (Gen.invTable >>> (8 * (ixor64 (Int.ofNat r) (Int.ofNat c) % 256).toNat) &&& 255))
    (fun r c => byteAt Gen.invTable ((r ^^^ c) % 256))
    (by
      intro r c _ hr hc
      simp only [Int.ofNat_eq_natCast]
      rw [ixor64_natCast r c (by omega) (by omega)]
      have : Int.toNat (((r ^^^ c : Nat) : Int) % 256) = (r ^^^ c) % 256 := by omega
      rw [this]; rfl)
  simp only [Option.bind_some] at hX
  rw [hX]
  simp only [Option.bind_some, Option.pure_def]
  congr 2
  apply arr_systematic_eq_rowsOfMat
  · intro i c h; simp [Model.buildMatrixCauchy, h]
  · intro i c h
    simp only [Model.buildMatrixCauchy, Mat.get_ofFn, h, if_false]
    rw [← invTable_inv]
    congr 1
    show _ = (i.val % 256) ^^^ (c.val % 256)
    exact Nat.xor_mod_two_pow (n := 8)

theorem npow_val (a : GF256) (n : Nat) : (Model.npow a n).val = gpow a.val n := by
  induction n with
  | zero => rfl
  | succ n ih => show gmul (Model.npow a n).val a.val = _; rw [ih]; rfl

theorem buildXorMatrix_eq (d : Nat) (hd : 0 < d) (hd63 : d < 9223372036854775807) :
    Gen.buildXorMatrix (d : Int) ((d + 1 : Nat) : Int) =
      some (rowsOfMat (Model.buildXorMatrix (F := GF256) d (d + 1)), none) := by
  unfold Gen.buildXorMatrix
  have h1 : i64 ((d:Int) + 1) = ((d + 1 : Nat) : Int) := by rw [i64_id (by omega) (by omega)]; omega
  rw [h1, if_neg (fun h => h rfl)]
  rw [newMatrix_eq (d+1) d (by omega) hd]
  simp only [Option.bind_eq_bind, Option.bind_some, size_arr]
  have hX := fill_loops (d+1) d (fun _ _ => some 1) (fun _ _ => 1) (by intros; rfl)
  simp only [Option.bind_some] at hX
  rw [hX]
  simp only [Option.bind_some, Option.pure_def]
  rw [if_neg (fun h => h rfl)]
  refine congrArg (fun a => some (a, (none : Option String))) ?_
  apply arr_systematic_eq_rowsOfMat
  · intro i c h; simp [Model.buildXorMatrix, h]
  · intro i c h; simp only [Model.buildXorMatrix, Mat.get_ofFn, h, if_false]; rfl

theorem buildMatrixPAR1_eq (d total : Nat) (hd : 0 < d) (ht : 0 < total)
    (hd55 : d < 2 ^ 55) (ht55 : total < 2 ^ 55) :
    Gen.buildMatrixPAR1 (d : Int) (total : Int) =
      some (rowsOfMat (Model.buildMatrixPAR1 xByte d total), none) := by
  unfold Gen.buildMatrixPAR1
  rw [newMatrix_eq total d ht hd]
  simp only [Option.bind_eq_bind, Option.bind_some, ne_eq, not_true_eq_false, if_false, size_arr]
  have hX := fill_loops total d
    (fun r c => galExp (i64 (Int.ofNat c + 1) % 256).toNat (i64 (Int.ofNat r - (d : Int))))
    (fun r c => gpow ((c + 1) % 256) (r - d))
    (by
      intro r c hdr hr hc
      simp only [Int.ofNat_eq_natCast]
      rw [i64_id (by omega) (by omega), i64_id (by omega) (by omega)]
      have e1 : Int.toNat (((c : Int) + 1) % 256) = (c + 1) % 256 := by omega
      have e2 : (r : Int) - (d : Int) = ((r - d : Nat) : Int) := by omega
      rw [e1, e2]
      exact galExp_eq _ _ (Nat.mod_lt _ (by decide)) (by omega))
  rw [hX]
  simp only [Option.bind_some, Option.pure_def]
  congr 2
  apply arr_systematic_eq_rowsOfMat
  · intro i c h; simp [Model.buildMatrixPAR1, h]
  · intro i c h
    simp only [Model.buildMatrixPAR1, Mat.get_ofFn, h, if_false]
    rw [npow_val]; rfl

theorem vandermonde_eq (rows cols : Nat) (hr : 0 < rows) (hc : 0 < cols) (hc55 : cols < 2 ^ 55) :
    Gen.vandermonde (rows : Int) (cols : Int) =
      some (rowsOfMat (Model.vandermonde xByte rows cols), none) := by
  unfold Gen.vandermonde
  rw [newMatrix_eq rows cols hr hc]
  simp only [Option.bind_eq_bind, Option.bind_some, ne_eq, not_true_eq_false, if_false, size_arr]
  have hX := fill_all rows cols
    (fun r c => galExp (Int.ofNat r % 256).toNat (Int.ofNat c))
    (fun r c => gpow (r % 256) c)
    (by
      intro r c hr' hc'
      simp only [Int.ofNat_eq_natCast]
      have e1 : Int.toNat ((r : Int) % 256) = r % 256 := by omega
      rw [e1]
      exact galExp_eq _ _ (Nat.mod_lt _ (by decide)) (by omega))
  rw [hX]
  simp only [Option.bind_some, Option.pure_def]
  congr 2
  apply arr_eq_rowsOfMat
  intro i j
  simp only [Model.vandermonde, Mat.get_ofFn]
  rw [npow_val]; rfl

/-- the transposition of rows `a`, `b`, under the name the C17 statements use -/
def _root_.RSV.GenGauss.swp (a b i : Nat) : Nat := if i = a then b else if i = b then a else i

theorem swp_same (a i : Nat) : swp a a i = i := by
  unfold swp
  by_cases h : i = a <;> simp [h]

theorem swp_self_left (a b : Nat) : swp a b a = b := by simp [swp]

theorem swapRows_arr (n w : Nat) (E : Nat → Nat → Nat) (a b : Nat) (ha : a < n) (hb : b < n) :
    matrix_SwapRows (arr n w E) (a : Int) (b : Int) = some (arr n w (fun i j => E (swp a b i) j), none) := by
  unfold matrix_SwapRows
  have hc : ¬ (((((a : Int) < 0) ∨ (Int.ofNat (arr n w E).size ≤ (a : Int))) ∨ ((b : Int) < 0)) ∨
      (Int.ofNat (arr n w E).size ≤ (b : Int))) := by
    simp only [size_arr, Int.ofNat_eq_natCast]; omega
  simp only [hc, if_false]
  rw [gidx_arr ha, gidx_arr hb]
  simp only [Option.bind_eq_bind, Option.bind_some]
  rw [gset_nat _ b _ (by simpa using hb)]
  simp only [Option.bind_some]
  rw [gset_nat _ a _ (by simpa using ha)]
  simp only [Option.bind_some, Option.pure_def]
  congr 2
  simp only [arr, set_mk]
  apply mk_congr
  intro i _
  unfold swp
  by_cases h1 : i = a
  · subst h1; simp
  · by_cases h2 : i = b
    · subst h2; simp [h1]
    · simp [h1, h2]


theorem identity_arr (n : Nat) (hn : 0 < n) :
    identityMatrix (n : Int) = some (arr n n (fun i j => if i = j then 1 else 0), none) := by
  unfold identityMatrix
  rw [newMatrix_eq n n hn hn]
  simp only [Option.bind_eq_bind, Option.bind_some, ne_eq, not_true_eq_false, if_false, size_arr,
    Int.ofNat_eq_natCast]
  rw [forIn_rows_all n n (fun _ _ => 0) (fun i j => if i = j then 1 else 0)]
  · rfl
  · intro k hk E hE
    rw [gset2_arr _ hk hk, Option.bind_some]
    refine ⟨_, rfl, fun i j _ _ => ?_⟩
    by_cases h1 : i = k
    · subst h1
      rw [hE i j (Nat.lt_irrefl i)]
      by_cases h2 : j = i
      · subst h2; simp
      · have : ¬ i = j := fun e => h2 e.symm
        simp [h2, this]
    · simp [h1]

def augF (w1 : Nat) (A B : Nat → Nat → Nat) : Nat → Nat → Nat := fun i j => if j < w1 then A i j else B i (j - w1)

theorem augment_arr (n w1 w2 : Nat) (A B : Nat → Nat → Nat) (hn : 0 < n) (h1 : 0 < w1) (h2 : 0 < w2)
    (hb : w1 + w2 < 2 ^ 63) :
    matrix_Augment (arr n w1 A) (arr n w2 B) = some (arr n (w1 + w2) (augF w1 A B), none) := by
  unfold matrix_Augment
  simp only [size_arr, ne_eq, not_true_eq_false, if_false, Option.bind_eq_bind, Int.ofNat_eq_natCast]
  rw [show ((0:Int)) = ((0:Nat):Int) from rfl, gidx_arr hn, gidx_arr hn]
  simp only [Option.bind_some, size_mkRow]
  rw [i64_id (by omega) (by omega), show ((w1:Int) + (w2:Int)) = ((w1 + w2 : Nat) : Int) by omega,
    newMatrix_eq n (w1 + w2) hn (by omega)]
  simp only [Option.bind_some]
  rw [forIn_rows_all n (w1 + w2) (fun _ _ => 0) (augF w1 A B)]
  · rfl
  · intro r hr E _
    rw [gidx_arr hr, Option.bind_some, size_mkRow]
    simp only [gidx_arr hr, Option.bind_some]
    -- columns `[0, w1)` from the receiver, then `[w1, w1 + w2)` from `right`
    rw [forIn_cols n (w1 + w2) r 0 w1 E (A r), Option.bind_some,
      forIn_cols n (w1 + w2) r w1 w2 _ (B r), Option.bind_some]
    · refine ⟨_, rfl, fun i j _ hj => ?_⟩
      unfold augF
      by_cases hi : i = r
      · subst hi
        by_cases hj1 : j < w1
        · have : ¬ (w1 ≤ j ∧ j < w1 + w2) := by omega
          simp [hj1, this]
        · have : (w1 ≤ j ∧ j < w1 + w2) := by omega
          simp [hj1, this]
      · simp [hi]
    · intro c hc E' _
      rw [gidx_mkRow hc, Option.bind_some, i64_id (by omega) (by omega),
        show ((w1 : Int) + (c : Int)) = ((w1 + c : Nat) : Int) by omega, gset2_arr _ hr (by omega),
        Option.bind_some]
      rfl
    · intro c hc E' _
      rw [gidx_mkRow hc, Option.bind_some, gset2_arr _ hr (by omega), Option.bind_some, Nat.zero_add]
      rfl

/-- `f 0 ^^^ … ^^^ f (k-1)` in the order the Go loop accumulates -/
def xsum (f : Nat → Nat) : Nat → Nat
  | 0 => 0
  | k + 1 => xsum f k ^^^ f k

theorem xsum_congr {f g : Nat → Nat} : ∀ (k : Nat), (∀ i, i < k → f i = g i) → xsum f k = xsum g k := by
  intro k
  induction k with
  | zero => intro _; rfl
  | succ k ih =>
    intro h
    show xsum f k ^^^ f k = xsum g k ^^^ g k
    rw [ih (fun i hi => h i (by omega)), h k (by omega)]

/-- the inner product loop of `Multiply` -/
theorem dot_loop (n k c : Nat) (V W : Nat → Nat → Nat) (r j : Nat) (hr : r < n) (hj : j < c) :
    (forIn [:k] (0 : Nat) fun (i'k : Nat) (s : Nat) =>
      (gidx (arr n k V) (r : Int)).bind fun a => (gidx a (i'k : Int)).bind fun x =>
      (gidx (arr k c W) (i'k : Int)).bind fun b => (gidx b (j : Int)).bind fun y =>
        pure (ForInStep.yield (s ^^^ galMultiply x y)))
    = some (xsum (fun i => galMultiply (V r i) (W i j)) k) := by
  apply forIn_range_yield k _ (fun i => xsum (fun i => galMultiply (V r i) (W i j)) i)
  intro i hi
  rw [gidx2_arr hr hi, gidx2_arr hi hj]
  rfl

theorem multiply_arr (n k c : Nat) (V W : Nat → Nat → Nat) (hn : 0 < n) (hk : 0 < k) (hc : 0 < c) :
    matrix_Multiply (arr n k V) (arr k c W) =
      some (arr n c (fun r j => xsum (fun i => galMultiply (V r i) (W i j)) k), none) := by
  unfold matrix_Multiply
  have h0 : gidx (arr n k V) (0 : Int) = some (mkRow k (V 0)) := gidx_arr (i := 0) hn
  have h1 : gidx (arr k c W) (0 : Int) = some (mkRow c (W 0)) := gidx_arr (i := 0) hk
  rw [h0, h1]
  simp only [Option.bind_eq_bind, Option.bind_some, size_arr, size_mkRow, ne_eq, not_true_eq_false, if_false,
    Int.ofNat_eq_natCast]
  rw [newMatrix_eq n c hn hc]
  simp only [Option.bind_some, size_arr]
  rw [forIn_rows_all n c (fun _ _ => 0) (fun r j => xsum (fun i => galMultiply (V r i) (W i j)) k)]
  · rfl
  · intro r hr E _
    rw [gidx_arr hr, Option.bind_some, size_mkRow,
      forIn_cols_all n c r E (fun j => xsum (fun i => galMultiply (V r i) (W i j)) k), Option.bind_some]
    · refine ⟨_, rfl, fun i j _ _ => ?_⟩
      by_cases hi : i = r
      · subst hi; simp
      · simp [hi]
    · intro j hj E' _
      rw [dot_loop n k c V W r j hr hj, Option.bind_some, gset2_arr _ hr hj, Option.bind_some]
      rfl

end RSV.GenMatrix
