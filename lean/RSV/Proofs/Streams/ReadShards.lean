import RSV.Proofs.Streams.Basic
/-!
# `readShards` — core Lean only

On fault-free readers `readShards` is `scan` on the remaining lengths: it succeeds exactly when the
blocks `min B length` of the present streams have one length (`scan_uniform`, `scan_inv`).  A reader that
faults inside its block is reported if no lower-index reader stops the scan first.
-/
namespace RSV.Proofs.Streams
open RSV.Model.St

/-- the final decision of `readShardsAux` -/
def fin (size : Option Nat) (full : Bool) (accB : List (List Nat)) (accR : List (Option Rd)) : ReadShards :=
  if full && size.isSome then .err .shardSize
  else if size = some 0 then .eof accR
  else .ok accB accR

theorem readShardsAux_nil (i : Nat) (size : Option Nat) (full : Bool) (accB accR) :
    readShardsAux [] [] i size full accB accR = fin size full accB accR := by
  simp [readShardsAux, fin]

theorem readShardsAux_cons_none (l : Nat) (ls : List Nat) (rs : List (Option Rd)) (i : Nat) (size : Option Nat)
    (full : Bool) (accB accR) :
    readShardsAux (l :: ls) (none :: rs) i size full accB accR =
      readShardsAux ls rs (i + 1) size full (accB ++ [[]]) (accR ++ [none]) := by
  rw [readShardsAux]

theorem readShardsAux_cons_clean (B : Nat) (s : List Nat) (ls : List Nat) (rs : List (Option Rd)) (i : Nat)
    (size : Option Nat) (full : Bool) (accB accR) :
    readShardsAux (B :: ls) (some (cleanRd s) :: rs) i size full accB accR =
      if B ≤ s.length then
        readShardsAux ls rs (i + 1) size true (accB ++ [s.take B]) (accR ++ [some (cleanRd (s.drop B))])
      else match size with
        | none =>
          readShardsAux ls rs (i + 1) (some s.length) full (accB ++ [s.take B]) (accR ++ [some (cleanRd (s.drop B))])
        | some sz =>
          if s.length = sz then
            readShardsAux ls rs (i + 1) size full (accB ++ [s.take B]) (accR ++ [some (cleanRd (s.drop B))])
          else .err .shardSize := by
  rw [readShardsAux, readFull_clean]
  by_cases hB : B ≤ s.length
  · simp only [hB, if_true]
  · have hlen : (s.take B).length = s.length := by rw [List.length_take]; omega
    rw [if_neg hB, if_neg hB]
    simp only [hlen]
    -- `eof` and `unexpectedEOF` take the same branch
    by_cases hs : s = [] <;> cases size <;> simp only [hs, if_false, if_true, ne_eq, ite_not]

/-- the `size` / `full` bookkeeping of `readShardsAux` on the remaining lengths of fault-free
readers (`none` = nil reader); result `none` = `ErrShardSize` -/
def scan (B : Nat) : List (Option Nat) → Option Nat → Bool → Option (Option Nat × Bool)
  | [], size, full => some (size, full)
  | none :: ns, size, full => scan B ns size full
  | some n :: ns, size, full =>
    if B ≤ n then scan B ns size true
    else match size with
      | none => scan B ns (some n) full
      | some sz => if n = sz then scan B ns size full else none

abbrev lensOf (os : List (Option (List Nat))) : List (Option Nat) := os.map (Option.map List.length)

theorem mem_lensOf {os : List (Option (List Nat))} {n : Nat} :
    some n ∈ lensOf os ↔ ∃ s, some s ∈ os ∧ s.length = n := by
  constructor
  · intro h
    obtain ⟨o, ho, hon⟩ := List.mem_map.1 h
    cases o with
    | none => cases hon
    | some s => exact ⟨s, ho, Option.some.inj hon⟩
  · rintro ⟨s, hs, rfl⟩
    exact List.mem_map.2 ⟨some s, hs, rfl⟩

theorem readShardsAux_clean (B : Nat) {lens os} (h : LensOK B lens os) :
    ∀ (ls : List Nat) (rs : List (Option Rd)) (i : Nat) (size : Option Nat) (full : Bool) accB accR,
    readShardsAux (lens ++ ls) (rdsOf os ++ rs) i size full accB accR =
      match scan B (lensOf os) size full with
      | none => .err .shardSize
      | some (sz, fl) =>
        readShardsAux ls rs (i + os.length) sz fl (accB ++ takeB B os) (accR ++ rdsOf (dropB B os)) := by
  induction h with
  | nil => intro ls rs i size full accB accR; simp [scan]
  | consNone l _ ih =>
    intro ls rs i size full accB accR
    simp only [rdsOf_cons_none, List.cons_append, readShardsAux_cons_none, ih, lensOf, List.map_cons,
      Option.map_none, scan, takeB_cons_none, dropB_cons_none, List.length_cons, List.append_assoc,
      List.nil_append, Nat.add_assoc, Nat.add_comm 1]
  | consSome s _ ih =>
    intro ls rs i size full accB accR
    simp only [rdsOf_cons_some, List.cons_append, readShardsAux_cons_clean, lensOf, List.map_cons,
      Option.map_some, scan, takeB_cons_some, dropB_cons_some, List.length_cons]
    by_cases hB : B ≤ s.length
    · simp only [hB, if_true, ih, lensOf, List.append_assoc, List.singleton_append, Nat.add_assoc,
        Nat.add_comm 1]
    · cases size with
      | none =>
        simp only [hB, if_false, ih, lensOf, List.append_assoc, List.singleton_append, Nat.add_assoc,
          Nat.add_comm 1]
      | some sz =>
        by_cases hz : s.length = sz
        · subst hz
          simp only [hB, if_false, if_true, ih, lensOf, List.append_assoc, List.singleton_append,
            Nat.add_assoc, Nat.add_comm 1]
        · simp only [hB, hz, if_false]

/-- all present streams deliver blocks of one length `m` (`= B`: full blocks; `< B`: the streams end) -/
theorem scan_uniform (B m : Nat) : ∀ (ns : List (Option Nat)) (size : Option Nat) (full : Bool),
    (∀ n, some n ∈ ns → min B n = m) → (size = none ∨ (size = some m ∧ m < B)) →
    scan B ns size full =
      some (if m < B ∧ ns.any Option.isSome = true then some m else size,
            full || (decide (B ≤ m) && ns.any Option.isSome))
  | [], size, full, _, _ => by simp [scan]
  | none :: ns, size, full, h, hs => by
    have := scan_uniform B m ns size full (fun n hn => h n (List.mem_cons_of_mem _ hn)) hs
    simpa [scan] using this
  | some n :: ns, size, full, h, hs => by
    have hn : min B n = m := h n (List.mem_cons_self ..)
    have ht := fun n hn => h n (List.mem_cons_of_mem _ hn)
    by_cases hB : B ≤ n
    · have hm : B ≤ m := by omega
      have hm' : ¬ m < B := by omega
      have := scan_uniform B m ns size true ht hs
      simp [scan, hB, this, hm, hm']
    · have hm : n = m := by omega
      subst hm
      have hlt : n < B := by omega
      have := scan_uniform B n ns (some n) full ht (Or.inr ⟨rfl, hlt⟩)
      rcases hs with rfl | ⟨rfl, _⟩ <;> simp [scan, hB, this, hlt]

theorem scan_inv (B : Nat) : ∀ (ns : List (Option Nat)) (size : Option Nat) (full : Bool) (sz' : Option Nat) (fl' : Bool),
    scan B ns size full = some (sz', fl') →
      (fl' = true ↔ (full = true ∨ ∃ n, some n ∈ ns ∧ B ≤ n)) ∧
      (∀ n, some n ∈ ns → n < B → sz' = some n) ∧
      (∀ z, size = some z → sz' = some z) ∧
      (sz' = none → size = none ∧ ∀ n, some n ∈ ns → B ≤ n)
  | [], size, full, sz', fl', h => by
    simp [scan] at h
    obtain ⟨rfl, rfl⟩ := h
    simp
  | none :: ns, size, full, sz', fl', h => by
    simp only [scan] at h
    have := scan_inv B ns size full sz' fl' h
    simpa using this
  | some n :: ns, size, full, sz', fl', h => by
    simp only [scan] at h
    by_cases hB : B ≤ n
    · simp only [hB, if_true] at h
      obtain ⟨h1, h2, h3, h4⟩ := scan_inv B ns size true sz' fl' h
      refine ⟨?_, ?_, h3, ?_⟩
      · simp only [true_or, iff_true] at h1
        simp only [h1, true_iff]
        exact Or.inr ⟨n, List.mem_cons_self .., hB⟩
      · intro k hk hk'
        rcases List.mem_cons.1 hk with hk | hk
        · cases hk; omega
        · exact h2 k hk hk'
      · intro hz
        refine ⟨(h4 hz).1, ?_⟩
        intro k hk
        rcases List.mem_cons.1 hk with hk | hk
        · cases hk; exact hB
        · exact (h4 hz).2 k hk
    · -- a short stream: the scan goes on with `size = some n`, whether `size` was `none` or `some n`
      simp only [hB, if_false] at h
      have hrec : scan B ns (some n) full = some (sz', fl') ∧ (∀ z, size = some z → z = n) := by
        cases size with
        | none => exact ⟨h, fun z hz => by cases hz⟩
        | some sz =>
          by_cases hz : n = sz
          · subst hz; exact ⟨by simpa using h, fun z hz => by cases hz; rfl⟩
          · simp [hz] at h
      obtain ⟨h1, h2, h3, -⟩ := scan_inv B ns (some n) full sz' fl' hrec.1
      have hsz := h3 n rfl
      refine ⟨?_, ?_, fun z hz => by rw [hrec.2 z hz]; exact hsz, ?_⟩
      · rw [h1]
        constructor
        · rintro (h | ⟨k, hk, hk'⟩)
          · exact Or.inl h
          · exact Or.inr ⟨k, List.mem_cons_of_mem _ hk, hk'⟩
        · rintro (h | ⟨k, hk, hk'⟩)
          · exact Or.inl h
          · rcases List.mem_cons.1 hk with hk | hk
            · cases hk; omega
            · exact Or.inr ⟨k, hk, hk'⟩
      · intro k hk hk'
        rcases List.mem_cons.1 hk with hk | hk
        · cases hk; exact hsz
        · exact h2 k hk hk'
      · intro hz; rw [hz] at hsz; cases hsz

theorem readShards_clean (B : Nat) {lens os} (h : LensOK B lens os) :
    readShards lens (rdsOf os) =
      match scan B (lensOf os) none false with
      | none => .err .shardSize
      | some (sz, fl) => fin sz fl (takeB B os) (rdsOf (dropB B os)) := by
  have := readShardsAux_clean B h [] [] 0 none false [] []
  simp only [List.append_nil, List.nil_append, readShardsAux_nil] at this
  exact this

theorem scan_clean_uniform (B m : Nat) (os : List (Option (List Nat)))
    (hu : ∀ s, some s ∈ os → min B s.length = m) (size : Option Nat) (full : Bool)
    (hs : size = none ∨ (size = some m ∧ m < B)) :
    scan B (lensOf os) size full =
      some (if m < B ∧ (lensOf os).any Option.isSome = true then some m else size,
            full || (decide (B ≤ m) && (lensOf os).any Option.isSome)) :=
  scan_uniform B m _ size full (fun n hn => by obtain ⟨s, hs, rfl⟩ := mem_lensOf.1 hn; exact hu s hs) hs

theorem readShards_clean_ok (B m : Nat) (hm : 0 < m) {lens os} (h : LensOK B lens os)
    (hu : ∀ s, some s ∈ os → min B s.length = m) :
    readShards lens (rdsOf os) = .ok (takeB B os) (rdsOf (dropB B os)) := by
  rw [readShards_clean B h, scan_clean_uniform B m os hu none false (Or.inl rfl)]
  have hm0 : ¬ m = 0 := by omega
  by_cases hBm : m < B
  · have : ¬ B ≤ m := by omega
    by_cases ha : (lensOf os).any Option.isSome = true <;> simp [fin, ha, hBm, hm0, this]
  · simp [fin, hBm]

theorem readShards_clean_eof (B : Nat) (hB : 0 < B) {lens os} (h : LensOK B lens os)
    (hlen : ∀ s, some s ∈ os → s.length = 0) (hex : ∃ s, some s ∈ os) :
    readShards lens (rdsOf os) = .eof (rdsOf (dropB B os)) := by
  rw [readShards_clean B h, scan_clean_uniform B 0 os (fun s hs => by rw [hlen s hs]; omega) none false
    (Or.inl rfl)]
  have ha : (lensOf os).any Option.isSome = true := by
    obtain ⟨s, hs⟩ := hex
    exact List.any_eq_true.2 ⟨some s.length, mem_lensOf.2 ⟨s, hs, rfl⟩, rfl⟩
  have : ¬ B ≤ 0 := by omega
  simp [fin, ha, hB, this]

/-- the converse: whatever `readShards` returns on fault-free readers, it is `ErrShardSize` unless the
present streams deliver blocks of one common length -/
theorem readShards_clean_inv (B : Nat) {lens os} (h : LensOK B lens os) :
    readShards lens (rdsOf os) = .err .shardSize ∨
    (readShards lens (rdsOf os) = .eof (rdsOf (dropB B os)) ∧ ∀ s, some s ∈ os → s.length = 0) ∨
    (readShards lens (rdsOf os) = .ok (takeB B os) (rdsOf (dropB B os)) ∧
      ((∀ s, some s ∈ os → B ≤ s.length) ∨
       ∃ m, 0 < m ∧ ∀ s, some s ∈ os → s.length = m ∧ s.length < B)) := by
  rw [readShards_clean B h]
  cases hsc : scan B (lensOf os) none false with
  | none => exact Or.inl rfl
  | some q =>
    obtain ⟨sz, fl⟩ := q
    obtain ⟨h1, h2, -, h4⟩ := scan_inv B _ _ _ _ _ hsc
    have mem : ∀ s, some s ∈ os → some s.length ∈ lensOf os := fun s hs => mem_lensOf.2 ⟨s, hs, rfl⟩
    cases sz with
    | none =>
      refine Or.inr (Or.inr ⟨by simp [fin], Or.inl ?_⟩)
      exact fun s hs => (h4 rfl).2 _ (mem s hs)
    | some m =>
      cases fl with
      | true => exact Or.inl (by simp [fin])
      | false =>
        have hno : ∀ s, some s ∈ os → s.length < B := by
          intro s hs
          apply Nat.lt_of_not_le
          intro hle
          have := h1.2 (Or.inr ⟨_, mem s hs, hle⟩)
          cases this
        have hall : ∀ s, some s ∈ os → s.length = m := by
          intro s hs
          have := h2 _ (mem s hs) (hno s hs)
          simpa using this.symm
        by_cases hm : m = 0
        · subst hm
          exact Or.inr (Or.inl ⟨by simp [fin], hall⟩)
        · refine Or.inr (Or.inr ⟨by simp [fin, hm], Or.inr ⟨m, by omega, ?_⟩⟩)
          exact fun s hs => ⟨hall s hs, hno s hs⟩

theorem readShards_cl_ok (B m : Nat) (hm : 0 < m) (ss : List (List Nat)) (h : ∀ s ∈ ss, min B s.length = m) :
    readShards (List.replicate ss.length B) (cl ss) = .ok (ss.map (List.take B)) (cl (ss.map (List.drop B))) := by
  have := readShards_clean_ok B m hm (LensOK.replicate_some B ss) (fun s hs => h s (mem_map_some.1 hs))
  rwa [takeB_map_some, dropB_map_some, ← cl_eq, ← cl_eq] at this

theorem readShards_cl_eof (B : Nat) (hB : 0 < B) (ss : List (List Nat)) (hne : ss ≠ [])
    (h : ∀ s ∈ ss, s.length = 0) :
    readShards (List.replicate ss.length B) (cl ss) = .eof (cl (ss.map (List.drop B))) := by
  obtain ⟨s, hs⟩ := List.exists_mem_of_ne_nil _ hne
  have := readShards_clean_eof B hB (LensOK.replicate_some B ss) (fun s hs => h s (mem_map_some.1 hs))
    ⟨s, mem_map_some.2 hs⟩
  rwa [dropB_map_some, ← cl_eq, ← cl_eq] at this

theorem readShards_cl_inv (B : Nat) (ss : List (List Nat)) :
    readShards (List.replicate ss.length B) (cl ss) = .err .shardSize ∨
    (readShards (List.replicate ss.length B) (cl ss) = .eof (cl (ss.map (List.drop B))) ∧ ∀ s ∈ ss, s.length = 0) ∨
    (readShards (List.replicate ss.length B) (cl ss) = .ok (ss.map (List.take B)) (cl (ss.map (List.drop B))) ∧
      ((∀ s ∈ ss, B ≤ s.length) ∨ ∃ m, 0 < m ∧ ∀ s ∈ ss, s.length = m ∧ s.length < B)) := by
  have := readShards_clean_inv B (LensOK.replicate_some B ss)
  simpa only [← cl_eq, takeB_map_some, dropB_map_some, mem_map_some] using this

/-- what a reader that delivers a full block contributes -/
def blkOf (l : Nat) : Option Rd → List Nat
  | none => []
  | some r => (readFull r l).1
def nextOf (l : Nat) : Option Rd → Option Rd
  | none => none
  | some r => some (readFull r l).2.2

theorem readShardsAux_fullprefix (B : Nat) : ∀ (rp : List (Option Rd)),
    (∀ r, some r ∈ rp → (readFull r B).2.1 = .full) →
    ∀ (ls : List Nat) (rs : List (Option Rd)) (i : Nat) (size : Option Nat) (full : Bool) accB accR,
    readShardsAux (List.replicate rp.length B ++ ls) (rp ++ rs) i size full accB accR =
      readShardsAux ls rs (i + rp.length) size (full || rp.any Option.isSome)
        (accB ++ rp.map (blkOf B)) (accR ++ rp.map (nextOf B))
  | [], _, ls, rs, i, size, full, accB, accR => by simp
  | none :: rp, h, ls, rs, i, size, full, accB, accR => by
    have := readShardsAux_fullprefix B rp (fun r hr => h r (List.mem_cons_of_mem _ hr))
      ls rs (i + 1) size full (accB ++ [[]]) (accR ++ [none])
    simp only [List.length_cons, List.replicate_succ, List.cons_append, readShardsAux_cons_none, this]
    simp [blkOf, nextOf, Nat.add_assoc, Nat.add_comm 1]
  | some r :: rp, h, ls, rs, i, size, full, accB, accR => by
    have hr : (readFull r B).2.1 = .full := h r (List.mem_cons_self ..)
    have := readShardsAux_fullprefix B rp (fun r hr => h r (List.mem_cons_of_mem _ hr))
      ls rs (i + 1) size true (accB ++ [(readFull r B).1]) (accR ++ [some (readFull r B).2.2])
    simp only [List.length_cons, List.replicate_succ, List.cons_append]
    rw [readShardsAux]
    rcases hrf : readFull r B with ⟨got, oc, r'⟩
    rw [hrf] at hr this
    simp only at hr this
    subst hr
    simp only [this]
    simp [blkOf, nextOf, hrf, Nat.add_assoc, Nat.add_comm 1]

theorem readShardsAux_fault (l : Nat) (r : Rd) (h : (readFull r l).2.1 = .error)
    (ls : List Nat) (rs : List (Option Rd)) (i : Nat) (size : Option Nat) (full : Bool) accB accR :
    readShardsAux (l :: ls) (some r :: rs) i size full accB accR = .err (.read i) := by
  rw [readShardsAux]
  rcases hrf : readFull r l with ⟨got, oc, r'⟩
  rw [hrf] at h
  simp only at h
  subst h
  rfl

/-- fault-free lower-index readers of one common remaining length, then a reader whose fault lies
inside the bytes it has to deliver: `StreamReadError{Stream: i}` -/
theorem readShards_clean_then_fault (B n : Nat) {lens pre} (hl : LensOK B lens pre)
    (hpre : ∀ s, some s ∈ pre → s.length = n)
    (l : Nat) (r : Rd) (h : (readFull r l).2.1 = .error) (ls : List Nat) (rs : List (Option Rd)) :
    readShards (lens ++ l :: ls) (rdsOf pre ++ some r :: rs) = .err (.read pre.length) := by
  unfold readShards
  rw [readShardsAux_clean B hl,
    scan_clean_uniform B (min B n) pre (fun s hs => by rw [hpre s hs]) none false (Or.inl rfl)]
  simp only [Nat.zero_add]
  exact readShardsAux_fault l r h ..

theorem readShards_full_then_fault (B : Nat) (rp : List (Option Rd))
    (hfull : ∀ r, some r ∈ rp → (readFull r B).2.1 = .full)
    (l : Nat) (r : Rd) (h : (readFull r l).2.1 = .error) (ls : List Nat) (rs : List (Option Rd)) :
    readShards (List.replicate rp.length B ++ l :: ls) (rp ++ some r :: rs) = .err (.read rp.length) := by
  unfold readShards
  rw [readShardsAux_fullprefix B rp hfull]
  simp only [Nat.zero_add]
  exact readShardsAux_fault l r h ..

theorem map_blkOf_cl (B : Nat) (ss : List (List Nat)) : (cl ss).map (blkOf B) = ss.map (List.take B) := by
  simp [cl, blkOf, readFull_clean]

theorem map_nextOf_cl (B : Nat) (ss : List (List Nat)) : (cl ss).map (nextOf B) = cl (ss.map (List.drop B)) := by
  simp [cl, nextOf, readFull_clean]

theorem all_length_mix {pre post : List (List Nat)} {data : List Nat} {n : Nat}
    (hpre : ∀ s ∈ pre, s.length = n) (hpost : ∀ s ∈ post, s.length = n) (hdata : data.length = n) :
    ∀ s ∈ pre ++ data :: post, s.length = n := by
  intro s hs
  rcases List.mem_append.1 hs with hs | hs
  · exact hpre s hs
  · rcases List.mem_cons.1 hs with rfl | hs
    · exact hdata
    · exact hpost s hs

/-- the fault lies beyond the block (`B ≤ k`): `readShards` delivers full blocks, and the readers go on in
the same shape with the fault at `k - B` -/
theorem readShards_mix_full {B n k : Nat} (hBk : B ≤ k) (hkn : k < n) (pre post : List (List Nat)) (data : List Nat)
    (hpre : ∀ s ∈ pre, s.length = n) (hpost : ∀ s ∈ post, s.length = n) (hdata : data.length = n) :
    readShards (List.replicate (pre.length + 1 + post.length) B) (cl pre ++ some ⟨data, some k⟩ :: cl post) =
      .ok ((pre ++ data :: post).map (List.take B))
        (cl (pre.map (List.drop B)) ++ some ⟨data.drop B, some (k - B)⟩ :: cl (post.map (List.drop B))) ∧
    (∀ b ∈ (pre ++ data :: post).map (List.take B), b.length = B) := by
  have hBn : B ≤ n := Nat.le_of_lt (Nat.lt_of_le_of_lt hBk hkn)
  refine ⟨?_, fun b hb => by
      rw [length_take_of_all (all_length_mix hpre hpost hdata) b hb, Nat.min_eq_left hBn]⟩
  have hfd : readFull ⟨data, some k⟩ B = (data.take B, .full, ⟨data.drop B, some (k - B)⟩) :=
    readFull_full ⟨data, some k⟩ B (hdata ▸ hBn) (by intro k' hk'; cases hk'; exact hBk)
  have hcl : ∀ ss : List (List Nat), (∀ s ∈ ss, s.length = n) →
      ∀ r, some r ∈ cl ss → (readFull r B).2.1 = .full := by
    intro ss hss r hr
    obtain ⟨s, hs, hsr⟩ := List.mem_map.1 hr
    cases hsr
    simp [readFull_clean, hss s hs, hBn]
  have hall : ∀ r, some r ∈ cl pre ++ some ⟨data, some k⟩ :: cl post → (readFull r B).2.1 = .full := by
    intro r hr
    rcases List.mem_append.1 hr with hr | hr
    · exact hcl pre hpre r hr
    · rcases List.mem_cons.1 hr with hr | hr
      · cases hr; rw [hfd]
      · exact hcl post hpost r hr
  have := readShardsAux_fullprefix B _ hall [] [] 0 none false [] []
  have hl : (cl pre ++ some (⟨data, some k⟩ : Rd) :: cl post).length = pre.length + 1 + post.length := by
    simp; omega
  rw [hl] at this
  unfold readShards
  simp only [List.append_nil] at this
  rw [this, readShardsAux_nil]
  simp [fin, map_blkOf_cl, map_nextOf_cl, blkOf, nextOf, hfd]

theorem readShards_mix_fault (B n : Nat) (pre post : List (List Nat)) (data : List Nat) (k : Nat)
    (hpre : ∀ s ∈ pre, s.length = n) (hk : k < B) (hk' : k ≤ data.length) :
    readShards (List.replicate (pre.length + 1 + post.length) B) (cl pre ++ some ⟨data, some k⟩ :: cl post) =
      .err (.read pre.length) := by
  rw [replicate_split, cl_eq pre]
  have := readShards_clean_then_fault B n (LensOK.replicate_some B pre) (fun s hs => hpre s (mem_map_some.1 hs))
    B ⟨data, some k⟩ (by rw [readFull_fault data k B hk hk']) (List.replicate post.length B) (cl post)
  simpa using this

end RSV.Proofs.Streams
