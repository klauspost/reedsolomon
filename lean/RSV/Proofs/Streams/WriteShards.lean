import RSV.Proofs.Streams.Basic
/-!
# `writeShards` — core Lean only

Fault-free writers accept their blocks; the first writer whose limit is below its block is reported
(sequentially the later writers get nothing, concurrently they still get their blocks).
-/
namespace RSV.Proofs.Streams
open RSV.Model.St

theorem writeShardsSeq_cons_none (ws : List (Option Wr)) (b : List Nat) (bs : List (List Nat)) (i : Nat) (acc) :
    writeShardsSeq (none :: ws) (b :: bs) i acc = writeShardsSeq ws bs (i + 1) (acc ++ [none]) := by
  rw [writeShardsSeq]

theorem writeShardsSeq_cons_wrOf (g : List Nat) (ws : List (Option Wr)) (b : List Nat) (bs : List (List Nat))
    (i : Nat) (acc) :
    writeShardsSeq (some (wrOf g) :: ws) (b :: bs) i acc =
      writeShardsSeq ws bs (i + 1) (acc ++ [some (wrOf (g ++ b))]) := by
  rw [writeShardsSeq, writeTo_wrOf]

theorem writeShardsConc_cons_none (ws : List (Option Wr)) (b : List Nat) (bs : List (List Nat)) (i : Nat) (acc e) :
    writeShardsConc (none :: ws) (b :: bs) i acc e = writeShardsConc ws bs (i + 1) (acc ++ [none]) e := by
  rw [writeShardsConc]

theorem writeShardsConc_cons_wrOf (g : List Nat) (ws : List (Option Wr)) (b : List Nat) (bs : List (List Nat))
    (i : Nat) (acc e) :
    writeShardsConc (some (wrOf g) :: ws) (b :: bs) i acc e =
      writeShardsConc ws bs (i + 1) (acc ++ [some (wrOf (g ++ b))]) e := by
  rw [writeShardsConc, writeTo_wrOf]

theorem writeShards_prefix : ∀ (pre : List (Option (List Nat))) (bpre : List (List Nat)), pre.length = bpre.length →
    ∀ (ws : List (Option Wr)) (bs : List (List Nat)) (i : Nat) (acc : List (Option Wr)),
    writeShardsSeq (wsOf pre ++ ws) (bpre ++ bs) i acc =
      writeShardsSeq ws bs (i + pre.length) (acc ++ wsOf (appendO pre bpre)) ∧
    ∀ e, writeShardsConc (wsOf pre ++ ws) (bpre ++ bs) i acc e =
      writeShardsConc ws bs (i + pre.length) (acc ++ wsOf (appendO pre bpre)) e
  | [], [], _, ws, bs, i, acc => by simp
  | og :: pre, b :: bpre, h, ws, bs, i, acc => by
    have ih := writeShards_prefix pre bpre (by simpa using h) ws bs (i + 1)
    cases og <;>
      simp only [wsOf_cons_none, wsOf_cons_some, List.cons_append, writeShardsSeq_cons_none,
        writeShardsSeq_cons_wrOf, writeShardsConc_cons_none, writeShardsConc_cons_wrOf, ih, appendO_cons,
        Option.map_none, Option.map_some, List.length_cons, List.append_assoc, List.nil_append, Nat.add_assoc,
        Nat.add_comm 1, implies_true, and_self]

theorem writeShardsConc_clean (ogs : List (Option (List Nat))) (bs : List (List Nat)) (i : Nat)
    (acc : List (Option Wr)) (e : Option Err) (h : ogs.length = bs.length) :
    writeShardsConc (wsOf ogs) bs i acc e = (acc ++ wsOf (appendO ogs bs), e) := by
  have := (writeShards_prefix ogs bs h [] [] i acc).2 e
  simpa [writeShardsConc] using this

theorem writeShards_clean (conc : Bool) (ogs : List (Option (List Nat))) (bs : List (List Nat))
    (h : ogs.length = bs.length) :
    writeShards conc (wsOf ogs) bs 0 [] = (wsOf (appendO ogs bs), none) := by
  cases conc
  · have := (writeShards_prefix ogs bs h [] [] 0 []).1
    simpa [writeShards, writeShardsSeq] using this
  · simpa [writeShards] using writeShardsConc_clean ogs bs 0 [] none h

theorem writeShards_pw (conc : Bool) (gs bs : List (List Nat)) (h : gs.length = bs.length) :
    writeShards conc (pw gs) bs 0 [] = (pw (List.zipWith (· ++ ·) gs bs), none) := by
  rw [pw_eq, writeShards_clean conc _ bs (by simpa using h), appendO_map_some, ← pw_eq]

/-- sequential `writeShards`: fault-free writers, then writer `j` whose limit is below its block:
`StreamWriteError{Stream: j}`, the later writers receive nothing -/
theorem writeShards_seq_limit (pre : List (Option (List Nat))) (bpre : List (List Nat)) (hpre : pre.length = bpre.length)
    (g : List Nat) (k : Nat) (short : Bool) (b : List Nat) (hk : k < b.length)
    (rest : List (Option Wr)) (bpost : List (List Nat)) :
    writeShards false (wsOf pre ++ some ⟨g, some k, short⟩ :: rest) (bpre ++ b :: bpost) 0 [] =
      (wsOf (appendO pre bpre) ++ some ⟨g ++ b.take k, some 0, short⟩ :: rest,
       some (.write pre.length short)) := by
  simp [writeShards, (writeShards_prefix pre bpre hpre _ _ _ _).1, writeShardsSeq, writeTo_limit g k short b hk]

/-- concurrent `writeShards`: every other (fault-free) writer still receives its block -/
theorem writeShards_conc_limit (pre : List (Option (List Nat))) (bpre : List (List Nat)) (hpre : pre.length = bpre.length)
    (g : List Nat) (k : Nat) (short : Bool) (b : List Nat) (hk : k < b.length)
    (post : List (Option (List Nat))) (bpost : List (List Nat)) (hpost : post.length = bpost.length) :
    writeShards true (wsOf pre ++ some ⟨g, some k, short⟩ :: wsOf post) (bpre ++ b :: bpost) 0 [] =
      (wsOf (appendO pre bpre) ++ some ⟨g ++ b.take k, some 0, short⟩ :: wsOf (appendO post bpost),
       some (.write pre.length short)) := by
  simp [writeShards, (writeShards_prefix pre bpre hpre _ _ _ _).2, writeShardsConc, writeTo_limit g k short b hk,
    writeShardsConc_clean _ _ _ _ _ hpost]

end RSV.Proofs.Streams
