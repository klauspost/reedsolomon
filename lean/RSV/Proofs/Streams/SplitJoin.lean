import RSV.Proofs.Streams.Basic
import RSV.Proofs.SplitJoin
/-!
# Stream `Split` / `Join` — core Lean only

`split` on present writers is its copy loop `split.go` over the source bytes followed by zero padding;
over fault-free writers the loop hands out the consecutive `perShard`-blocks (`blocksOf`).  `join` on present
readers writes what `join.gather` collects; fault-free readers deliver the concatenation of their streams.
-/
namespace RSV.Proofs.Streams
open RSV.Model.St

/-- `blocksOf` is the `chunks` of `Split`; its lemmas are those of `RSV.Proofs.SplitJoin` -/
theorem blocksOf_eq_chunks (B : Nat) : ∀ (n : Nat) (s : List Nat),
    blocksOf B n s = RSV.Model.SJ.chunks B n s
  | 0, _ => rfl
  | n + 1, _ => congrArg _ (blocksOf_eq_chunks B n _)

theorem blocksOf_length (B n : Nat) (s : List Nat) : (blocksOf B n s).length = n := by
  rw [blocksOf_eq_chunks, SplitJoin.chunks_length]

theorem blocksOf_flatten (B n : Nat) (s : List Nat) : (blocksOf B n s).flatten = s.take (n * B) := by
  rw [blocksOf_eq_chunks, SplitJoin.chunks_flatten]

theorem blocksOf_getElem? (B : Nat) : ∀ (n : Nat) (s : List Nat) (i : Nat), i < n →
    (blocksOf B n s)[i]? = some ((s.drop (i * B)).take B)
  | 0, _, i, h => by omega
  | n + 1, s, 0, _ => by simp [blocksOf]
  | n + 1, s, i + 1, h => by
    simp only [blocksOf, List.getElem?_cons_succ]
    rw [blocksOf_getElem? B n _ i (by omega)]
    simp [Nat.add_mul, Nat.add_comm]

theorem blocksOf_append (B : Nat) : ∀ (m n : Nat) (s : List Nat),
    blocksOf B (m + n) s = blocksOf B m s ++ blocksOf B n (s.drop (m * B))
  | m, n, s => by simp only [blocksOf_eq_chunks]; exact SplitJoin.chunks_add B m n s

/-- the `d` data shards of `size` bytes padded to `(d + p) * ps`: the bytes, then zeros up to `d * ps` -/
theorem blocksOf_flatten_pad (d p ps : Nat) (data : List Nat) (hceil : data.length ≤ d * ps) :
    (blocksOf ps d (data ++ List.replicate ((d + p) * ps - data.length) 0)).flatten =
      data ++ List.replicate (d * ps - data.length) 0 := by
  have hmul : (d + p) * ps = d * ps + p * ps := Nat.add_mul ..
  rw [blocksOf_flatten, List.take_append, List.take_of_length_le hceil, List.take_replicate]
  congr 2
  omega

/-- with `a` writers before writer `j` and `b` after it, the source and its padding hold chunk `j` -/
theorem chunk_avail (a b p ps size : Nat) (hceil : size ≤ (a + 1 + b) * ps) :
    a * ps + ps ≤ size + ((a + 1 + b + p) * ps - size) := by
  have h1 : (a + 1 + b + p) * ps = a * ps + ps + b * ps + p * ps := by simp only [Nat.add_mul, Nat.one_mul]
  have h2 : (a + 1 + b) * ps = a * ps + ps + b * ps := by simp only [Nat.add_mul, Nat.one_mul]
  omega

theorem split_eq_go {d p : Nat} {src : Rd} {dst : List (Option Wr)} {size ps : Nat} {got : List Nat}
    {oc : ReadOutcome} {r' : Rd} (hs : size ≠ 0) (hd : dst.length = d) (hall : ∀ w ∈ dst, w.isSome = true)
    (hps : ps = (size + d - 1) / d) (hr : readFull src size = (got, oc, r')) :
    split d p src dst size =
      split.go size ps got oc dst
        (if oc = .error then got else got ++ List.replicate ((d + p) * ps - size) 0) 0 [] := by
  subst hps
  unfold split
  simp only [hs, hd, ne_eq, not_true_eq_false, if_false, findIdx?_isNone_eq_none dst hall, hr]

theorem split_go_cons_wrOf (size ps : Nat) (got : List Nat) (oc : ReadOutcome) (g : List Nat)
    (ws : List (Option Wr)) (av : List Nat) (i : Nat) (acc : List (Option Wr)) (h : ps ≤ av.length) :
    split.go size ps got oc (some (wrOf g) :: ws) av i acc =
      split.go size ps got oc ws (av.drop ps) (i + 1) (acc ++ [some (wrOf (g ++ av.take ps))]) := by
  have hlen : (av.take ps).length = ps := by rw [List.length_take]; omega
  rw [split.go, writeTo_wrOf]
  simp only [hlen, ne_eq, not_true_eq_false, if_false]

theorem split_go_cons_limit (size ps : Nat) (got : List Nat) (oc : ReadOutcome) (g : List Nat) (k : Nat)
    (short : Bool) (ws : List (Option Wr)) (av : List Nat) (i : Nat) (acc : List (Option Wr))
    (hk : k < (av.take ps).length) :
    split.go size ps got oc (some ⟨g, some k, short⟩ :: ws) av i acc =
      ⟨some (.rawWrite short), acc ++ [some ⟨g ++ (av.take ps).take k, some 0, short⟩] ++ ws⟩ := by
  rw [split.go, writeTo_limit g k short _ hk]

theorem split_go_prefix (size ps : Nat) (got : List Nat) (oc : ReadOutcome) :
    ∀ (pre : List (List Nat)) (ws : List (Option Wr)) (av : List Nat) (i : Nat) (acc : List (Option Wr)),
    pre.length * ps ≤ av.length →
    split.go size ps got oc (pw pre ++ ws) av i acc =
      split.go size ps got oc ws (av.drop (pre.length * ps)) (i + pre.length)
        (acc ++ pw (List.zipWith (· ++ ·) pre (blocksOf ps pre.length av)))
  | [], ws, av, i, acc, _ => by simp [pw, blocksOf]
  | g :: pre, ws, av, i, acc, h => by
    have h' : (pre.length + 1) * ps ≤ av.length := by simpa using h
    rw [Nat.add_mul, Nat.one_mul] at h'
    have ih := split_go_prefix size ps got oc pre ws (av.drop ps) (i + 1) (acc ++ [some (wrOf (g ++ av.take ps))])
      (by rw [List.length_drop]; omega)
    rw [show pw (g :: pre) ++ ws = some (wrOf g) :: (pw pre ++ ws) from rfl,
      split_go_cons_wrOf _ _ _ _ _ _ _ _ _ (by omega), ih]
    simp only [List.length_cons, blocksOf, List.zipWith_cons_cons, List.drop_drop, Nat.add_mul, Nat.one_mul,
      List.append_assoc, List.singleton_append, Nat.add_assoc, Nat.add_comm 1, Nat.add_comm ps]
    rfl

theorem split_go_clean (size ps : Nat) (got : List Nat) (oc : ReadOutcome) (gs : List (List Nat)) (av : List Nat)
    (h : gs.length * ps ≤ av.length) :
    split.go size ps got oc (pw gs) av 0 [] =
      ⟨if got.length ≠ size then some (if oc = .error then .rawRead else .shortData) else none,
       pw (List.zipWith (· ++ ·) gs (blocksOf ps gs.length av))⟩ := by
  have := split_go_prefix size ps got oc gs [] av 0 [] h
  simp only [List.append_nil, List.nil_append] at this
  rw [this]
  simp [split.go]

/-- whatever the combined source holds: with fault-free writers and a source that ended before `size`
bytes the copy loop reports the reader's error resp. `ErrShortData` -/
theorem split_go_short (size ps : Nat) (got : List Nat) (oc : ReadOutcome) (hgot : got.length ≠ size) :
    ∀ (gs : List (List Nat)) (av : List Nat) (i : Nat) (acc : List (Option Wr)),
    (split.go size ps got oc (pw gs) av i acc).err = some (if oc = .error then .rawRead else .shortData)
  | [], av, i, acc => by simp [pw, split.go, hgot]
  | g :: gs, av, i, acc => by
    simp only [pw, List.map_cons, split.go, writeTo_wrOf]
    split
    · rfl
    · exact split_go_short size ps got oc hgot gs _ _ _

/-- a fault-free source holding at least `size` bytes, fault-free writers: writer `i` receives block `i` of
the first `size` bytes followed by zeros -/
theorem split_clean (d p : Nat) (hd : 0 < d) (data : List Nat) (size : Nat) (hs : 0 < size)
    (hlen : size ≤ data.length) (gs : List (List Nat)) (hg : gs.length = d) (ps : Nat)
    (hps : ps = (size + d - 1) / d) :
    split d p (cleanRd data) (pw gs) size =
      ⟨none, pw (List.zipWith (· ++ ·) gs (blocksOf ps d
        (data.take size ++ List.replicate ((d + p) * ps - size) 0)))⟩ := by
  have hceil : size ≤ d * ps := hps ▸ SplitJoin.le_mul_ceil size d hd
  have hmul : (d + p) * ps = d * ps + p * ps := Nat.add_mul ..
  have hl : (data.take size).length = size := by rw [List.length_take]; omega
  rw [split_eq_go (by omega) (by simpa using hg) isSome_of_mem_pw hps (readFull_clean data size), if_pos hlen,
    if_neg (by simp), split_go_clean _ _ _ _ _ _ (by
      rw [hg, List.length_append, hl, List.length_replicate]; omega), hg]
  simp [hl]

theorem join_eq {d : Nat} {dst : Wr} {shards : List (Option Rd)} {outSize : Nat} {bytes : List Nat} {faulted : Bool}
    (hd : d ≤ shards.length) (hall : ∀ x ∈ shards.take d, x.isSome = true)
    (hg : join.gather (shards.take d) [] outSize = (bytes, faulted)) :
    join d dst shards outSize =
      match writeTo dst bytes with
      | (w', some short) => (some (.rawWrite short), w')
      | (w', none) =>
        if faulted then (some .rawRead, w')
        else if bytes.length < outSize then (some .shortData, w')
        else (none, w') := by
  unfold join
  simp only [Nat.not_lt.2 hd, if_false, findIdx?_isNone_eq_none _ hall, hg]
  rfl

theorem gather_cons_clean (s : List Nat) (rs : List (Option Rd)) (acc : List Nat) (need : Nat) (hn : need ≠ 0) :
    join.gather (some (cleanRd s) :: rs) acc need = join.gather rs (acc ++ s.take need) (need - (s.take need).length) := by
  have hoc := readFull_clean_ne_error s need
  rw [readFull_clean] at hoc
  rw [join.gather, readFull_clean]
  simp only [hn, if_false, hoc]

theorem gather_cons_fault (data : List Nat) (k : Nat) (rs : List (Option Rd)) (acc : List Nat) (need : Nat)
    (hk : k < need) (hk' : k ≤ data.length) :
    join.gather (some ⟨data, some k⟩ :: rs) acc need = (acc ++ data.take k, true) := by
  have hn : ¬ need = 0 := by omega
  rw [join.gather, readFull_fault data k need hk hk']
  simp only [hn, if_false, if_true]

theorem gather_clean : ∀ (ss : List (List Nat)) (acc : List Nat) (need : Nat),
    join.gather (cl ss) acc need = (acc ++ ss.flatten.take need, false)
  | [], acc, need => by simp [cl, join.gather]
  | s :: ss, acc, need => by
    by_cases hn : need = 0
    · simp [hn, cl, join.gather]
    · have : need - (s.take need).length = need - s.length := by rw [List.length_take]; omega
      rw [show cl (s :: ss) = some (cleanRd s) :: cl ss from rfl, gather_cons_clean s _ acc need hn,
        gather_clean ss, this, List.flatten_cons, List.take_append, List.append_assoc]

theorem gather_prefix : ∀ (pre : List (List Nat)) (rs : List (Option Rd)) (acc : List Nat) (need : Nat),
    pre.flatten.length < need →
    join.gather (cl pre ++ rs) acc need = join.gather rs (acc ++ pre.flatten) (need - pre.flatten.length)
  | [], rs, acc, need, _ => by simp [cl]
  | s :: pre, rs, acc, need, h => by
    rw [List.flatten_cons, List.length_append] at h
    rw [show cl (s :: pre) ++ rs = some (cleanRd s) :: (cl pre ++ rs) from rfl,
      gather_cons_clean s _ acc need (by omega), List.take_of_length_le (by omega),
      gather_prefix pre rs (acc ++ s) (need - s.length) (by omega), List.flatten_cons, List.length_append,
      List.append_assoc, Nat.sub_sub]

theorem take_cl_append (ss : List (List Nat)) (extra : List (Option Rd)) :
    (cl ss ++ extra).take ss.length = cl ss := by
  rw [← length_cl ss, List.take_left]

/-- `Join` of fault-free readers onto any writer: the first `outSize` bytes of their concatenation are
written; fewer than `outSize`: `ErrShortData` -/
theorem join_cl (d : Nat) (dst : Wr) (ss : List (List Nat)) (hd : ss.length = d) (extra : List (Option Rd))
    (outSize : Nat) :
    join d dst (cl ss ++ extra) outSize =
      match writeTo dst (ss.flatten.take outSize) with
      | (w', some short) => (some (.rawWrite short), w')
      | (w', none) =>
        if (ss.flatten.take outSize).length < outSize then (some .shortData, w') else (none, w') := by
  subst hd
  rw [join_eq (by simp) (by rw [take_cl_append]; exact isSome_of_mem_cl)
    (by rw [take_cl_append, gather_clean, List.nil_append])]
  simp

theorem join_clean (d : Nat) (g : List Nat) (ss : List (List Nat)) (hd : ss.length = d) (extra : List (Option Rd))
    (outSize : Nat) :
    join d (wrOf g) (cl ss ++ extra) outSize =
      (if (ss.flatten.take outSize).length < outSize then some .shortData else none,
       wrOf (g ++ ss.flatten.take outSize)) := by
  rw [join_cl d _ ss hd, writeTo_wrOf]
  dsimp only
  split <;> rfl

end RSV.Proofs.Streams
