import RSV.Proofs.Streams.Loops
/-!
# A toy codec (2 data + 1 xor parity): the locality hypotheses of the loop theorems are satisfiable
-/
namespace RSV.Proofs.Streams
open RSV.Model.St

def toy : BlockCodec where
  d := 2
  p := 1
  encode := fun b => match b with
    | [x, y] => [List.zipWith (· ^^^ ·) x y]
    | _ => [[]]
  verify := fun b => match b with
    | [x, y, z] => decide (List.zipWith (· ^^^ ·) x y = z)
    | _ => false
  reconstruct := fun b _ => match b with
    | [x, y, z] => .ok [if x.length = 0 then List.zipWith (· ^^^ ·) y z else x,
                        if y.length = 0 then List.zipWith (· ^^^ ·) x z else y,
                        if z.length = 0 then List.zipWith (· ^^^ ·) x y else z]
    | _ => .error 1

theorem toy_encLocal : EncLocal toy where
  len := by
    intro blocks n hl _ _
    match blocks, hl with
    | [x, y], _ => rfl
  app := by
    intro b₁ b₂ n₁ n₂ h1 h2 _ _ hl1 _
    match b₁, h1, b₂, h2 with
    | [x₁, y₁], _, [x₂, y₂], _ =>
      have hx : x₁.length = y₁.length := by rw [hl1 x₁ (by simp), hl1 y₁ (by simp)]
      simp [toy, List.zipWith_append hx]

theorem toy_verLocal : VerLocal toy where
  app := by
    intro b₁ b₂ n₁ n₂ h1 h2 _ _ hl1 _
    match b₁, h1, b₂, h2 with
    | [x₁, y₁, z₁], _, [x₂, y₂, z₂], _ =>
      have hx : x₁.length = y₁.length := by rw [hl1 x₁ (by simp), hl1 y₁ (by simp)]
      have hz : (List.zipWith (· ^^^ ·) x₁ y₁).length = z₁.length := by
        rw [List.length_zipWith, hl1 x₁ (by simp), hl1 y₁ (by simp), hl1 z₁ (by simp), Nat.min_self]
      simp only [toy, List.zipWith_cons_cons, List.zipWith_nil_right, List.zipWith_append hx]
      by_cases h : List.zipWith (· ^^^ ·) x₁ y₁ ++ List.zipWith (· ^^^ ·) x₂ y₂ = z₁ ++ z₂
      · have := List.append_inj h hz
        simp [this.1, this.2]
      · have : ¬ (List.zipWith (· ^^^ ·) x₁ y₁ = z₁ ∧ List.zipWith (· ^^^ ·) x₂ y₂ = z₂) := by
          rintro ⟨e1, e2⟩; exact h (by rw [e1, e2])
        simp only [h, decide_false]
        by_cases e1 : List.zipWith (· ^^^ ·) x₁ y₁ = z₁
        · have e2 : ¬ List.zipWith (· ^^^ ·) x₂ y₂ = z₂ := fun e2 => this ⟨e1, e2⟩
          simp [e2]
        · simp [e1]

/-- data shard 1 missing: the toy codec rebuilds every column window of it from data shard 0 and the
parity, since xor is column-wise -/
theorem toy_recOK_xor (x z : List Nat) (n : Nat) : RecOK toy true [false, true, false]
    [some x, none, some z] [x, List.zipWith (· ^^^ ·) x z, z] n := by
  intro a b _ _
  refine ⟨_, rfl, rfl, ?_⟩
  simp only [maskRows, List.zipWith_cons_cons, List.zipWith_nil_right, List.map_cons, List.map_nil, if_true,
    Bool.false_eq_true, if_false, Option.map_some, Option.map_none, Option.getD_some, Option.getD_none,
    List.length_nil, List.drop_zipWith, List.take_zipWith]

end RSV.Proofs.Streams
