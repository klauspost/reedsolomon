import RSV.Model.Streams
/-!
# Fault-free readers and writers of the streaming model (`RSV.Model.St`) — core Lean only

`rdsOf os` / `wsOf ogs`: fault-free readers / writers of optional streams (`none` = nil reader / writer);
`cl ss` / `pw gs`: the same with every stream present.  `readFull` and `writeTo` on them, `shardSize` on
blocks of one length, and a few facts about row-wise concatenation.
-/
namespace RSV.Proofs.Streams
open RSV.Model.St

/-- fault-free reader with remaining content `data` -/
def cleanRd (data : List Nat) : Rd := ⟨data, none⟩
/-- fresh fault-free writer -/
def cleanWr : Wr := ⟨[], none, false⟩
/-- fault-free writer that has accepted `g` -/
def wrOf (g : List Nat) : Wr := ⟨g, none, false⟩
/-- the first `n` consecutive `B`-blocks of `s`: the same function as `RSV.Model.SJ.chunks`
(`blocksOf_eq_chunks`) -/
def blocksOf (B : Nat) : Nat → List Nat → List (List Nat)
  | 0, _ => []
  | n + 1, s => s.take B :: blocksOf B n (s.drop B)

theorem cleanWr_eq : cleanWr = wrOf [] := rfl

theorem readFull_clean (data : List Nat) (want : Nat) :
    readFull (cleanRd data) want =
      (data.take want,
       (if want ≤ data.length then ReadOutcome.full
        else if data = [] then ReadOutcome.eof else ReadOutcome.unexpectedEOF),
       cleanRd (data.drop want)) := by
  unfold readFull cleanRd
  by_cases h : want ≤ data.length
  · simp [h]
  · have h' : data.length ≤ want := by omega
    simp [h, List.take_of_length_le h', List.drop_of_length_le h']

theorem readFull_clean_ne_error (data : List Nat) (want : Nat) :
    (readFull (cleanRd data) want).2.1 ≠ .error := by
  rw [readFull_clean]
  split
  · simp
  · split <;> simp

theorem readFull_fault (data : List Nat) (k want : Nat) (hk : k < want) (hd : k ≤ data.length) :
    readFull ⟨data, some k⟩ want = (data.take k, ReadOutcome.error, ⟨data.drop k, some 0⟩) := by
  unfold readFull
  have h1 : min k data.length = k := by omega
  have h2 : ¬ want ≤ k := by omega
  simp [h1, h2, hd]

theorem readFull_full (r : Rd) (want : Nat) (hlen : want ≤ r.data.length)
    (hf : ∀ k, r.failIn = some k → want ≤ k) :
    readFull r want = (r.data.take want, ReadOutcome.full, ⟨r.data.drop want, r.failIn.map (· - want)⟩) := by
  unfold readFull
  cases hfi : r.failIn with
  | none => simp [hlen]
  | some k =>
    have := hf k hfi
    have h1 : want ≤ min k r.data.length := by omega
    simp [h1]

theorem writeTo_wrOf (g b : List Nat) : writeTo (wrOf g) b = (wrOf (g ++ b), none) := rfl

theorem writeTo_limit (g : List Nat) (k : Nat) (short : Bool) (b : List Nat) (hk : k < b.length) :
    writeTo ⟨g, some k, short⟩ b = (⟨g ++ b.take k, some 0, short⟩, some short) := by
  have : ¬ b.length ≤ k := by omega
  simp [writeTo, this]

def rdsOf (os : List (Option (List Nat))) : List (Option Rd) := os.map (Option.map cleanRd)
/-- the blocks delivered by `rdsOf os` for buffer size `B` -/
def takeB (B : Nat) (os : List (Option (List Nat))) : List (List Nat) :=
  os.map fun o => (o.map (List.take B)).getD []
def dropB (B : Nat) (os : List (Option (List Nat))) : List (Option (List Nat)) :=
  os.map (Option.map (List.drop B))
def wsOf (ogs : List (Option (List Nat))) : List (Option Wr) := ogs.map (Option.map wrOf)
def appendO (ogs : List (Option (List Nat))) (bs : List (List Nat)) : List (Option (List Nat)) :=
  List.zipWith (fun og b => og.map (· ++ b)) ogs bs
def cl (ss : List (List Nat)) : List (Option Rd) := ss.map fun s => some (cleanRd s)
def pw (gs : List (List Nat)) : List (Option Wr) := gs.map fun g => some (wrOf g)

@[simp] theorem rdsOf_nil : rdsOf [] = [] := rfl
@[simp] theorem rdsOf_cons_none (os) : rdsOf (none :: os) = none :: rdsOf os := rfl
@[simp] theorem rdsOf_cons_some (s os) : rdsOf (some s :: os) = some (cleanRd s) :: rdsOf os := rfl
@[simp] theorem takeB_nil (B) : takeB B [] = [] := rfl
@[simp] theorem takeB_cons_none (B os) : takeB B (none :: os) = [] :: takeB B os := rfl
@[simp] theorem takeB_cons_some (B s os) : takeB B (some s :: os) = s.take B :: takeB B os := rfl
@[simp] theorem dropB_nil (B) : dropB B [] = [] := rfl
@[simp] theorem dropB_cons_none (B os) : dropB B (none :: os) = none :: dropB B os := rfl
@[simp] theorem dropB_cons_some (B s os) : dropB B (some s :: os) = some (s.drop B) :: dropB B os := rfl
@[simp] theorem wsOf_nil : wsOf [] = [] := rfl
@[simp] theorem wsOf_cons_none (os) : wsOf (none :: os) = none :: wsOf os := rfl
@[simp] theorem wsOf_cons_some (g os) : wsOf (some g :: os) = some (wrOf g) :: wsOf os := rfl
@[simp] theorem appendO_nil (bs) : appendO [] bs = [] := rfl
@[simp] theorem appendO_cons (og ogs b bs) :
    appendO (og :: ogs) (b :: bs) = og.map (· ++ b) :: appendO ogs bs := rfl
@[simp] theorem length_takeB (B os) : (takeB B os).length = os.length := List.length_map _
@[simp] theorem length_cl (ss) : (cl ss).length = ss.length := List.length_map _
@[simp] theorem length_pw (gs) : (pw gs).length = gs.length := List.length_map _

theorem mem_dropB {B : Nat} {os : List (Option (List Nat))} {t : List Nat} (h : some t ∈ dropB B os) :
    ∃ s, some s ∈ os ∧ t = s.drop B := by
  obtain ⟨o, ho, hot⟩ := List.mem_map.1 h
  cases o with
  | none => cases hot
  | some s => exact ⟨s, ho, (Option.some.inj hot).symm⟩

theorem mem_dropB_of_mem {B : Nat} {os : List (Option (List Nat))} {s : List Nat} (h : some s ∈ os) :
    some (s.drop B) ∈ dropB B os := List.mem_map.2 ⟨some s, h, rfl⟩

theorem dropB_dropB (a b : Nat) (os : List (Option (List Nat))) : dropB a (dropB b os) = dropB (b + a) os := by
  induction os with
  | nil => rfl
  | cons o os ih => cases o <;> simp [ih, List.drop_drop]

theorem dropB_zero (os : List (Option (List Nat))) : dropB 0 os = os := by
  induction os with
  | nil => rfl
  | cons o os ih => cases o <;> simp [ih]

theorem cl_eq (ss : List (List Nat)) : cl ss = rdsOf (ss.map some) := by simp [rdsOf, cl]
theorem pw_eq (gs : List (List Nat)) : pw gs = wsOf (gs.map some) := by simp [wsOf, pw]
theorem takeB_map_some (B : Nat) (ss : List (List Nat)) : takeB B (ss.map some) = ss.map (List.take B) := by
  simp [takeB]
theorem dropB_map_some (B : Nat) (ss : List (List Nat)) :
    dropB B (ss.map some) = (ss.map (List.drop B)).map some := by
  simp [dropB]
theorem mem_map_some {α} {ss : List α} {s : α} : some s ∈ ss.map some ↔ s ∈ ss := by simp

theorem pw_append (a b : List (List Nat)) : pw (a ++ b) = pw a ++ pw b := by simp [pw]

theorem appendO_map_some (gs bs : List (List Nat)) :
    appendO (gs.map some) bs = (List.zipWith (· ++ ·) gs bs).map some := by
  induction gs generalizing bs with
  | nil => rfl
  | cons g gs ih =>
    cases bs with
    | nil => rfl
    | cons b bs => simp [ih]

theorem findIdx?_isNone_eq_none {α} (l : List (Option α)) (h : ∀ x ∈ l, x.isSome = true) :
    l.findIdx? Option.isNone = none := by
  rw [List.findIdx?_eq_none_iff]
  intro x hx
  cases x with
  | none => have := h none hx; simp at this
  | some _ => simp

theorem isSome_of_mem_map_some {α β} {f : α → β} {l : List α} :
    ∀ w ∈ l.map fun a => some (f a), w.isSome = true := by
  intro w hw; obtain ⟨_, _, rfl⟩ := List.mem_map.1 hw; rfl
theorem isSome_of_mem_pw {gs : List (List Nat)} : ∀ w ∈ pw gs, w.isSome = true := isSome_of_mem_map_some
theorem isSome_of_mem_cl {ss : List (List Nat)} : ∀ r ∈ cl ss, r.isSome = true := isSome_of_mem_map_some
theorem isSome_of_mem_mix {α} {a b : List (Option α)} {x : α} (ha : ∀ w ∈ a, w.isSome = true)
    (hb : ∀ w ∈ b, w.isSome = true) : ∀ w ∈ a ++ some x :: b, w.isSome = true := by
  intro w hw
  rcases List.mem_append.1 hw with hw | hw
  · exact ha w hw
  · rcases List.mem_cons.1 hw with rfl | hw
    · rfl
    · exact hb w hw

theorem length_append_cons {α} (a b : List α) (x : α) : (a ++ x :: b).length = a.length + 1 + b.length := by
  simp; omega

theorem replicate_cleanWr (d : Nat) : List.replicate d (some cleanWr) = pw (List.replicate d []) := by
  simp [pw, wrOf, cleanWr]

theorem findIdx?_map_some {α} (l : List α) : (l.map some).findIdx? Option.isNone = none :=
  findIdx?_isNone_eq_none _ isSome_of_mem_map_some


/-- buffer lengths matching a list of optional streams: every present stream has a buffer of
length `B` -/
inductive LensOK (B : Nat) : List Nat → List (Option (List Nat)) → Prop
  | nil : LensOK B [] []
  | consSome (s : List Nat) {ls os} : LensOK B ls os → LensOK B (B :: ls) (some s :: os)
  | consNone (l : Nat) {ls os} : LensOK B ls os → LensOK B (l :: ls) (none :: os)

theorem LensOK.length_eq {B ls os} (h : LensOK B ls os) : ls.length = os.length := by
  induction h <;> simp [*]

theorem LensOK.replicate (B : Nat) : ∀ (os : List (Option (List Nat))), LensOK B (List.replicate os.length B) os
  | [] => .nil
  | none :: os => by simpa [List.replicate_succ] using LensOK.consNone B (LensOK.replicate B os)
  | some s :: os => by simpa [List.replicate_succ] using LensOK.consSome s (LensOK.replicate B os)

theorem LensOK.replicate_some (B : Nat) (ss : List (List Nat)) :
    LensOK B (List.replicate ss.length B) (ss.map some) := by
  simpa using LensOK.replicate B (ss.map some)

theorem replicate_split (a b B : Nat) :
    List.replicate (a + 1 + b) B = List.replicate a B ++ B :: List.replicate b B := by
  rw [← List.replicate_succ, List.replicate_append_replicate]; congr 1; omega

theorem shardSize_eq (m : Nat) : ∀ (blocks : List (List Nat)),
    (∀ b ∈ blocks, b.length = 0 ∨ b.length = m) → (∃ b ∈ blocks, b.length ≠ 0) → shardSize blocks = m
  | [], _, h => by obtain ⟨b, hb, _⟩ := h; cases hb
  | b :: bs, hall, hex => by
    by_cases hb : b.length = 0
    · have : shardSize (b :: bs) = shardSize bs := by simp [shardSize, List.find?, hb]
      rw [this]
      apply shardSize_eq m bs (fun b hb => hall b (List.mem_cons_of_mem _ hb))
      obtain ⟨b', hb', hne⟩ := hex
      rcases List.mem_cons.1 hb' with rfl | hb'
      · exact absurd hb hne
      · exact ⟨b', hb', hne⟩
    · have := hall b (List.mem_cons_self ..)
      simp [shardSize, List.find?, hb]
      omega

theorem map_length_of_any_false (size : Nat) : ∀ (blocks : List (List Nat)),
    (blocks.any fun b => decide (b.length ≠ size)) = false → blocks.map List.length = List.replicate blocks.length size
  | [], _ => rfl
  | b :: bs, h => by
    simp only [List.any_cons, Bool.or_eq_false_iff, decide_eq_false_iff_not, ne_eq, Decidable.not_not] at h
    simp [List.replicate_succ, h.1, map_length_of_any_false size bs h.2]

/-- what the block loops test after `readShards`, on non-empty blocks of one length `m > 0` -/
theorem blocks_uniform {blocks : List (List Nat)} {m : Nat} (hm : 0 < m) (hne : blocks ≠ [])
    (h : ∀ b ∈ blocks, b.length = m) :
    shardSize blocks = m ∧ (blocks.any fun b => decide (b.length ≠ m)) = false ∧
      blocks.map List.length = List.replicate blocks.length m := by
  have hany : (blocks.any fun b => decide (b.length ≠ m)) = false := by
    rw [List.any_eq_false]; intro b hb; simp [h b hb]
  refine ⟨shardSize_eq m blocks (fun b hb => Or.inr (h b hb)) ?_, hany, map_length_of_any_false _ _ hany⟩
  obtain ⟨b, hb⟩ := List.exists_mem_of_ne_nil _ hne
  exact ⟨b, hb, by rw [h b hb]; omega⟩

/-- the converse: blocks fail one of the two tests or have the one length `shardSize blocks > 0` -/
theorem blocks_tests (blocks : List (List Nat)) :
    shardSize blocks = 0 ∨
    (shardSize blocks ≠ 0 ∧ (blocks.any fun b => decide (b.length ≠ shardSize blocks)) = true) ∨
    (0 < shardSize blocks ∧ blocks ≠ [] ∧ ∀ b ∈ blocks, b.length = shardSize blocks) := by
  by_cases h0 : shardSize blocks = 0
  · exact .inl h0
  cases hany : blocks.any fun b => decide (b.length ≠ shardSize blocks)
  · refine .inr (.inr ⟨Nat.pos_of_ne_zero h0, fun h => h0 (h ▸ rfl), fun b hb => ?_⟩)
    simpa using List.any_eq_false.1 hany b hb
  · exact .inr (.inl ⟨h0, rfl⟩)

theorem length_take_of_all {B n : Nat} {ss : List (List Nat)} (h : ∀ s ∈ ss, s.length = n) :
    ∀ b ∈ ss.map (List.take B), b.length = min B n := by
  intro b hb
  obtain ⟨s, hs, rfl⟩ := List.mem_map.1 hb
  simp [h s hs]

theorem length_drop_of_all {B n : Nat} {ss : List (List Nat)} (h : ∀ s ∈ ss, s.length = n) :
    ∀ b ∈ ss.map (List.drop B), b.length = n - B := by
  intro b hb
  obtain ⟨s, hs, rfl⟩ := List.mem_map.1 hb
  simp [h s hs]

theorem zipWith_append_assoc : ∀ (a b c : List (List Nat)),
    List.zipWith (· ++ ·) (List.zipWith (· ++ ·) a b) c = List.zipWith (· ++ ·) a (List.zipWith (· ++ ·) b c)
  | [], _, _ => by simp
  | _ :: _, [], _ => by simp
  | _ :: _, _ :: _, [] => by simp
  | x :: a, y :: b, z :: c => by simp [zipWith_append_assoc a b c]

theorem zipWith_take_drop (B : Nat) : ∀ (ss : List (List Nat)),
    List.zipWith (· ++ ·) (ss.map (List.take B)) (ss.map (List.drop B)) = ss
  | [] => rfl
  | s :: ss => by simp [zipWith_take_drop B ss]

theorem map_take_of_le (B : Nat) (ss : List (List Nat)) (h : ∀ s ∈ ss, s.length ≤ B) :
    ss.map (List.take B) = ss := by
  induction ss with
  | nil => rfl
  | cons s ss ih =>
    simp only [List.map_cons]
    rw [List.take_of_length_le (h s (List.mem_cons_self ..)), ih (fun s hs => h s (List.mem_cons_of_mem _ hs))]

theorem zipWith_nil_left (n : Nat) : ∀ (par : List (List Nat)), par.length = n →
    List.zipWith (· ++ ·) (List.replicate n ([] : List Nat)) par = par
  | [], h => by simp
  | x :: par, h => by
    subst h
    simp [List.replicate_succ, zipWith_nil_left par.length par rfl]

/-- the longest stream, as computed by `encode` / `verify` / `reconstruct` for their fuel -/
abbrev total (rds : List (Option Rd)) : Nat :=
  (rds.filterMap id).foldl (fun m r => max m r.data.length) 0

theorem foldl_max_ge (rs : List Rd) : ∀ (m : Nat),
    m ≤ rs.foldl (fun m r => max m r.data.length) m ∧
    ∀ r ∈ rs, r.data.length ≤ rs.foldl (fun m r => max m r.data.length) m := by
  induction rs with
  | nil => intro m; simp
  | cons r rs ih =>
    intro m
    obtain ⟨h1, h2⟩ := ih (max m r.data.length)
    simp only [List.foldl_cons]
    refine ⟨by omega, ?_⟩
    intro r' hr'
    rcases List.mem_cons.1 hr' with rfl | hr'
    · omega
    · exact h2 r' hr'

/-- a stream of `n` bytes among the readers: the fuel covers `n / B + 2` blocks -/
theorem fuel_ok {rds : List (Option Rd)} {r : Rd} (h : some r ∈ rds) (B : Nat) :
    r.data.length / B + 2 ≤ total rds / B + 3 := by
  have : r.data.length ≤ total rds :=
    (foldl_max_ge _ 0).2 r (List.mem_filterMap.2 ⟨some r, h, rfl⟩)
  have := Nat.div_le_div_right (c := B) this
  omega

theorem fuel_cl {ss : List (List Nat)} {s : List Nat} (hs : s ∈ ss) (B : Nat) :
    s.length / B + 2 ≤ total (cl ss) / B + 3 :=
  fuel_ok (r := cleanRd s) (List.mem_map.2 ⟨s, hs, rfl⟩) B

/-- the loops run on `cl ss` / `pw gs` block by block: `n ≤ B` is the last block -/
theorem block_induction {B : Nat} (hB : 0 < B) {P : Nat → Nat → Prop}
    (last : ∀ fuel n, 0 < n → n ≤ B → P (fuel + 2) n)
    (more : ∀ fuel n, B < n → P fuel (n - B) → P (fuel + 1) n) :
    ∀ fuel n, 0 < n → n / B + 2 ≤ fuel → P fuel n := by
  intro fuel
  induction fuel with
  | zero => intro n _ hf; exact absurd hf (Nat.not_succ_le_zero _)
  | succ fuel ih =>
    intro n hn hf
    by_cases hBn : n ≤ B
    · have := Nat.zero_le (n / B)
      obtain ⟨f, rfl⟩ : ∃ f, fuel = f + 1 := ⟨fuel - 1, by omega⟩
      exact last f n hn hBn
    · have hdiv : n / B = (n - B) / B + 1 := Nat.div_eq_sub_div hB (by omega)
      exact more fuel n (by omega) (ih (n - B) (by omega) (by omega))

end RSV.Proofs.Streams
