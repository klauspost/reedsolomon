import RSV.Proofs.Streams.ReadShards
import RSV.Proofs.Streams.WriteShards
/-!
# The block loops of `rsStream.Encode` / `Verify` / `Reconstruct` — core Lean only

One round of each loop on blocks of one length (`*_succ`, any readers and writers); on fault-free streams of
one length the loops run through and, for a column-local codec, compute what the in-memory call computes
on the whole streams (`*_clean`); a loop that succeeds had streams of one length (`*_equal`); a reader
fault in any block ends the loop (`*_fault`).

The hypotheses `EncLocal`, `VerLocal`, `RecOK` are discharged for the toy codec only (`Streams/Toy.lean`);
nothing here connects them to `Model.encodeSpec` / `verifySpec` (`C03_local` / `C03_linear` are the raw material).
-/
namespace RSV.Proofs.Streams
open RSV.Model.St

theorem encode_eq_loop (C : BlockCodec) (conc : Bool) (B : Nat) {data : List (Option Rd)} {parity : List (Option Wr)}
    (hd : data.length = C.d) (hp : parity.length = C.p) :
    encode C conc B data parity =
      encodeLoop C conc (total data / B + 3) (List.replicate data.length B) data parity 0 := by
  unfold encode
  simp only [hd, hp, ne_eq, not_true_eq_false, if_false]

theorem encode_cases (C : BlockCodec) (conc : Bool) (B : Nat) (data : List (Option Rd)) (parity : List (Option Wr)) :
    (data.length = C.d ∧ parity.length = C.p) ∨ encode C conc B data parity = ⟨some .tooFewShards, parity⟩ := by
  unfold encode
  by_cases hd : data.length = C.d
  · by_cases hp : parity.length = C.p
    · exact Or.inl ⟨hd, hp⟩
    · right; simp only [hd, hp, ne_eq, not_true_eq_false, not_false_eq_true, if_false, if_true]
  · right; simp only [hd, ne_eq, not_false_eq_true, if_true]

theorem verify_eq_loop (C : BlockCodec) (B : Nat) {shards : List (Option Rd)} (hd : shards.length = C.d + C.p) :
    verify C B shards = verifyLoop C (total shards / B + 3) (List.replicate shards.length B) shards 0 := by
  unfold verify
  simp only [hd, ne_eq, not_true_eq_false, if_false]

theorem verify_cases (C : BlockCodec) (B : Nat) (shards : List (Option Rd)) :
    shards.length = C.d + C.p ∨ verify C B shards = (false, some .tooFewShards) := by
  unfold verify
  by_cases hd : shards.length = C.d + C.p
  · exact Or.inl hd
  · right; simp only [hd, ne_eq, not_false_eq_true, if_true]

theorem reconstruct_eq_loop (C : BlockCodec) (conc : Bool) (B : Nat) {valid : List (Option Rd)}
    {fill : List (Option Wr)} (hv : valid.length = C.d + C.p) (hf : fill.length = C.d + C.p)
    (hdisj : (valid.zip fill).any (fun (v, f) => v.isSome && f.isSome) = false) :
    reconstruct C conc B valid fill =
      reconLoop C conc (!((fill.drop C.d).any Option.isSome)) B (total valid / B + 3)
        (List.replicate valid.length B) valid fill 0 := by
  simp [reconstruct, hv, hf, hdisj]

theorem encodeLoop_succ (C : BlockCodec) (conc : Bool) (fuel : Nat) {lens : List Nat} {rds rds' : List (Option Rd)}
    {blocks : List (List Nat)} {m : Nat} (ws : List (Option Wr)) (read : Nat)
    (hr : readShards lens rds = .ok blocks rds') (hm : 0 < m) (hne : blocks ≠ [])
    (hu : ∀ b ∈ blocks, b.length = m) :
    encodeLoop C conc (fuel + 1) lens rds ws read =
      match writeShards conc ws (C.encode blocks) 0 [] with
      | (ws', some e) => ⟨some e, ws'⟩
      | (ws', none) => encodeLoop C conc fuel (List.replicate blocks.length m) rds' ws' (read + m) := by
  obtain ⟨hsz, hany, hml⟩ := blocks_uniform hm hne hu
  have hm0 : ¬ m = 0 := by omega
  rw [encodeLoop]
  simp only [hr, hsz, hm0, if_false, hany, hml, Bool.false_eq_true]
  rfl

theorem verifyLoop_succ (C : BlockCodec) (fuel : Nat) {lens : List Nat} {rds rds' : List (Option Rd)}
    {blocks : List (List Nat)} {m : Nat} (read : Nat)
    (hr : readShards lens rds = .ok blocks rds') (hm : 0 < m) (hne : blocks ≠ [])
    (hu : ∀ b ∈ blocks, b.length = m) :
    verifyLoop C (fuel + 1) lens rds read =
      if C.verify blocks then verifyLoop C fuel (List.replicate blocks.length m) rds' (read + m)
      else (false, none) := by
  obtain ⟨hsz, hany, hml⟩ := blocks_uniform hm hne hu
  have hm0 : ¬ m = 0 := by omega
  rw [verifyLoop]
  simp only [hr, hsz, hm0, if_false, hany, hml, Bool.false_eq_true]

/-- the buffer lengths `Reconstruct` goes on with -/
abbrev nextLens (B : Nat) (blocks : List (List Nat)) : List Nat :=
  (blocks.zip (List.replicate blocks.length B)).map fun (b, bb) => if b.length = 0 then bb else b.length

theorem reconLoop_succ (C : BlockCodec) (conc dataOnly : Bool) (B fuel : Nat) {lens : List Nat}
    {rds rds' : List (Option Rd)} {blocks : List (List Nat)} {m : Nat} (ws : List (Option Wr)) (read : Nat)
    (hr : readShards lens rds = .ok blocks rds') (hm : 0 < m) (hex : ∃ b ∈ blocks, b.length ≠ 0)
    (hu : ∀ b ∈ blocks, b.length = 0 ∨ b.length = m) :
    reconLoop C conc dataOnly B (fuel + 1) lens rds ws read =
      match C.reconstruct blocks dataOnly with
      | .error tag => ⟨some (.codec tag), ws⟩
      | .ok full =>
        match writeShards conc ws full 0 [] with
        | (ws', some e) => ⟨some e, ws'⟩
        | (ws', none) => reconLoop C conc dataOnly B fuel (nextLens B blocks) rds' ws' (read + m) := by
  have hsz := shardSize_eq m blocks hu hex
  have hany : (blocks.any fun b => decide (b.length ≠ 0) && decide (b.length ≠ m)) = false := by
    rw [List.any_eq_false]
    intro b hb
    rcases hu b hb with h | h <;> simp [h]
  have hm0 : ¬ m = 0 := by omega
  rw [reconLoop]
  simp only [hr, hsz, hm0, if_false, hany, Bool.false_eq_true]
  rfl

/-- `encode` of the in-memory codec is defined on `d` rows of one length and column-local:
the parity of a row-wise concatenation is the row-wise concatenation of the parities -/
structure EncLocal (C : BlockCodec) : Prop where
  len : ∀ (blocks : List (List Nat)) (n : Nat), blocks.length = C.d → 0 < n → (∀ b ∈ blocks, b.length = n) →
    (C.encode blocks).length = C.p
  app : ∀ (b₁ b₂ : List (List Nat)) (n₁ n₂ : Nat), b₁.length = C.d → b₂.length = C.d → 0 < n₁ → 0 < n₂ →
    (∀ b ∈ b₁, b.length = n₁) → (∀ b ∈ b₂, b.length = n₂) →
    C.encode (List.zipWith (· ++ ·) b₁ b₂) = List.zipWith (· ++ ·) (C.encode b₁) (C.encode b₂)

theorem encodeLoop_eof (C : BlockCodec) (conc : Bool) (fuel B : Nat) (hB : 0 < B) (ss : List (List Nat))
    (hne : ss ≠ []) (h0 : ∀ s ∈ ss, s.length = 0) (ws : List (Option Wr)) (read : Nat) :
    encodeLoop C conc (fuel + 1) (List.replicate ss.length B) (cl ss) ws read =
      ⟨if read = 0 then some .shardNoData else none, ws⟩ := by
  simp only [encodeLoop, readShards_cl_eof B hB ss hne h0]

theorem map_take_ne_nil {B : Nat} {ss : List (List Nat)} (h : ss ≠ []) : ss.map (List.take B) ≠ [] := by
  rwa [ne_eq, List.map_eq_nil_iff]

theorem encodeLoop_step (C : BlockCodec) (hC : EncLocal C) (conc : Bool) (fuel B n : Nat) (hB : 0 < B) (hn : 0 < n)
    (ss : List (List Nat)) (hd : ss.length = C.d) (hne : ss ≠ []) (hlen : ∀ s ∈ ss, s.length = n)
    (gs : List (List Nat)) (hp : gs.length = C.p) (read : Nat) :
    encodeLoop C conc (fuel + 1) (List.replicate ss.length B) (cl ss) (pw gs) read =
      encodeLoop C conc fuel (List.replicate ss.length (min B n)) (cl (ss.map (List.drop B)))
        (pw (List.zipWith (· ++ ·) gs (C.encode (ss.map (List.take B))))) (read + min B n) := by
  have hm : 0 < min B n := by omega
  have hbl := length_take_of_all (B := B) hlen
  rw [encodeLoop_succ C conc fuel (pw gs) read
      (readShards_cl_ok B (min B n) hm ss fun s hs => by rw [hlen s hs]) hm (map_take_ne_nil hne) hbl,
    writeShards_pw conc gs _ (by rw [hp, hC.len _ (min B n) (by simpa using hd) hm hbl])]
  simp only [List.length_map]

theorem ne_nil_of_length {α} {ss : List α} {d : Nat} (hd : ss.length = d) (hd0 : 0 < d) : ss ≠ [] := by
  intro h; subst h; simp at hd; omega

theorem encodeLoop_clean (C : BlockCodec) (hC : EncLocal C) (conc : Bool) (hd0 : 0 < C.d) {B : Nat} (hB : 0 < B) :
    ∀ (fuel n : Nat), 0 < n → n / B + 2 ≤ fuel →
    ∀ (ss : List (List Nat)), ss.length = C.d → (∀ s ∈ ss, s.length = n) →
    ∀ (gs : List (List Nat)), gs.length = C.p → ∀ (read : Nat),
    encodeLoop C conc fuel (List.replicate ss.length B) (cl ss) (pw gs) read =
      ⟨none, pw (List.zipWith (· ++ ·) gs (C.encode ss))⟩ := by
  refine block_induction hB ?_ ?_
  · -- the last block, then end of stream
    intro fuel n hn hBn ss hd hlen gs hp read
    have hne := ne_nil_of_length hd hd0
    rw [encodeLoop_step C hC conc _ B n hB hn ss hd hne hlen gs hp read, Nat.min_eq_right hBn,
      map_take_of_le B ss (fun s hs => by rw [hlen s hs]; exact hBn)]
    have := encodeLoop_eof C conc fuel n hn (ss.map (List.drop B)) (by simpa using hne)
      (fun s hs => by rw [length_drop_of_all hlen s hs]; exact Nat.sub_eq_zero_of_le hBn)
      (pw (List.zipWith (· ++ ·) gs (C.encode ss))) (read + n)
    simp only [List.length_map] at this
    rw [this, if_neg (Nat.ne_of_gt (Nat.add_pos_right read hn))]
  · -- a full block, more to come
    intro fuel n hBn ih ss hd hlen gs hp read
    have htakel : ∀ s ∈ ss.map (List.take B), s.length = B := fun s hs => by
      rw [length_take_of_all hlen s hs, Nat.min_eq_left (Nat.le_of_lt hBn)]
    have hdropl := length_drop_of_all (B := B) hlen
    have hplen : (List.zipWith (· ++ ·) gs (C.encode (ss.map (List.take B)))).length = C.p := by
      rw [List.length_zipWith, hC.len _ B (by simpa using hd) hB htakel, hp, Nat.min_self]
    have := ih (ss.map (List.drop B)) (by simpa using hd) hdropl _ hplen (read + B)
    simp only [List.length_map] at this
    rw [encodeLoop_step C hC conc _ B n hB (Nat.lt_trans hB hBn) ss hd (ne_nil_of_length hd hd0) hlen gs hp read,
      Nat.min_eq_left (Nat.le_of_lt hBn), this, zipWith_append_assoc,
      ← hC.app _ _ B (n - B) (by simpa using hd) (by simpa using hd) hB (Nat.sub_pos_of_lt hBn) htakel hdropl,
      zipWith_take_drop]

theorem lengths_eq_of_drop (B : Nat) (ss : List (List Nat))
    (hcase : (∀ s ∈ ss, B ≤ s.length) ∨ ∃ m, 0 < m ∧ ∀ s ∈ ss, s.length = m ∧ s.length < B)
    (hdrop : ∀ s ∈ ss.map (List.drop B), ∀ s' ∈ ss.map (List.drop B), s.length = s'.length) :
    ∀ s ∈ ss, ∀ s' ∈ ss, s.length = s'.length := by
  intro s hs s' hs'
  rcases hcase with hfull | ⟨m, _, hm⟩
  · have := hdrop _ (List.mem_map.2 ⟨s, hs, rfl⟩) _ (List.mem_map.2 ⟨s', hs', rfl⟩)
    have h1 := hfull s hs
    have h2 := hfull s' hs'
    simp at this
    omega
  · rw [(hm s hs).1, (hm s' hs').1]

theorem encodeLoop_none_equal (C : BlockCodec) (conc : Bool) :
    ∀ (fuel B : Nat) (ss : List (List Nat)) (ws : List (Option Wr)) (read : Nat),
    (encodeLoop C conc fuel (List.replicate ss.length B) (cl ss) ws read).err = none →
    ∀ s ∈ ss, ∀ s' ∈ ss, s.length = s'.length := by
  intro fuel
  induction fuel with
  | zero => intro B ss ws read h; simp [encodeLoop] at h
  | succ fuel ih =>
    intro B ss ws read hres
    rcases readShards_cl_inv B ss with h | ⟨_, h0⟩ | ⟨h, hcase⟩
    · simp [encodeLoop, h] at hres
    · intro s hs s' hs'; rw [h0 s hs, h0 s' hs']
    · -- the blocks passed the size tests, so the next round runs on buffers of one length, and it succeeds
      rcases blocks_tests (ss.map (List.take B)) with h0 | ⟨h0, hany⟩ | ⟨hm, hne, hu⟩
      · simp [encodeLoop, h, h0] at hres
      · simp only [encodeLoop, h, h0, hany, ↓reduceIte, reduceCtorEq] at hres
      · rw [encodeLoop_succ C conc fuel ws read h hm hne hu, List.length_map] at hres
        split at hres
        · cases hres
        · exact lengths_eq_of_drop B ss hcase
            (ih _ (ss.map (List.drop B)) _ _ (by rw [List.length_map]; exact hres))

theorem verifyLoop_true_equal (C : BlockCodec) :
    ∀ (fuel B : Nat) (ss : List (List Nat)) (read : Nat),
    verifyLoop C fuel (List.replicate ss.length B) (cl ss) read = (true, none) →
    ∀ s ∈ ss, ∀ s' ∈ ss, s.length = s'.length := by
  intro fuel
  induction fuel with
  | zero => intro B ss read h; simp [verifyLoop] at h
  | succ fuel ih =>
    intro B ss read hres
    rcases readShards_cl_inv B ss with h | ⟨_, h0⟩ | ⟨h, hcase⟩
    · simp [verifyLoop, h] at hres
    · intro s hs s' hs'; rw [h0 s hs, h0 s' hs']
    · rcases blocks_tests (ss.map (List.take B)) with h0 | ⟨h0, hany⟩ | ⟨hm, hne, hu⟩
      · simp [verifyLoop, h, h0] at hres
      · simp only [verifyLoop, h, h0, hany, ↓reduceIte, Prod.mk.injEq, reduceCtorEq, and_false] at hres
      · rw [verifyLoop_succ C fuel read h hm hne hu, List.length_map] at hres
        split at hres
        · exact lengths_eq_of_drop B ss hcase
            (ih _ (ss.map (List.drop B)) _ (by rw [List.length_map]; exact hres))
        · cases hres

/-- the in-memory `Verify` verdict is column-local: `d+p` rows that are row-wise concatenations are
consistent iff both parts are -/
structure VerLocal (C : BlockCodec) : Prop where
  app : ∀ (b₁ b₂ : List (List Nat)) (n₁ n₂ : Nat), b₁.length = C.d + C.p → b₂.length = C.d + C.p → 0 < n₁ → 0 < n₂ →
    (∀ b ∈ b₁, b.length = n₁) → (∀ b ∈ b₂, b.length = n₂) →
    C.verify (List.zipWith (· ++ ·) b₁ b₂) = (C.verify b₁ && C.verify b₂)

theorem verifyLoop_eof (C : BlockCodec) (fuel B : Nat) (hB : 0 < B) (ss : List (List Nat))
    (hne : ss ≠ []) (h0 : ∀ s ∈ ss, s.length = 0) (read : Nat) :
    verifyLoop C (fuel + 1) (List.replicate ss.length B) (cl ss) read =
      if read = 0 then (false, some .shardNoData) else (true, none) := by
  simp only [verifyLoop, readShards_cl_eof B hB ss hne h0]

theorem verifyLoop_step (C : BlockCodec) (fuel B n : Nat) (hB : 0 < B) (hn : 0 < n)
    (ss : List (List Nat)) (hne : ss ≠ []) (hlen : ∀ s ∈ ss, s.length = n) (read : Nat) :
    verifyLoop C (fuel + 1) (List.replicate ss.length B) (cl ss) read =
      if C.verify (ss.map (List.take B)) then
        verifyLoop C fuel (List.replicate ss.length (min B n)) (cl (ss.map (List.drop B))) (read + min B n)
      else (false, none) := by
  have hm : 0 < min B n := by omega
  rw [verifyLoop_succ C fuel read (readShards_cl_ok B (min B n) hm ss fun s hs => by rw [hlen s hs]) hm
    (map_take_ne_nil hne) (length_take_of_all hlen)]
  simp only [List.length_map]

theorem verifyLoop_clean (C : BlockCodec) (hC : VerLocal C) {B : Nat} (hB : 0 < B) :
    ∀ (fuel n : Nat), 0 < n → n / B + 2 ≤ fuel →
    ∀ (ss : List (List Nat)), ss ≠ [] → ss.length = C.d + C.p → (∀ s ∈ ss, s.length = n) →
    ∀ (read : Nat),
    verifyLoop C fuel (List.replicate ss.length B) (cl ss) read = (C.verify ss, none) := by
  refine block_induction hB ?_ ?_
  · intro fuel n hn hBn ss hne hd hlen read
    rw [verifyLoop_step C _ B n hB hn ss hne hlen read, Nat.min_eq_right hBn,
      map_take_of_le B ss (fun s hs => by rw [hlen s hs]; exact hBn)]
    have := verifyLoop_eof C fuel n hn (ss.map (List.drop B)) (by simpa using hne)
      (fun s hs => by rw [length_drop_of_all hlen s hs]; exact Nat.sub_eq_zero_of_le hBn) (read + n)
    simp only [List.length_map] at this
    rw [this, if_neg (Nat.ne_of_gt (Nat.add_pos_right read hn))]
    cases C.verify ss <;> simp
  · intro fuel n hBn ih ss hne hd hlen read
    have htakel : ∀ s ∈ ss.map (List.take B), s.length = B := fun s hs => by
      rw [length_take_of_all hlen s hs, Nat.min_eq_left (Nat.le_of_lt hBn)]
    have hdropl := length_drop_of_all (B := B) hlen
    have := ih (ss.map (List.drop B)) (by simpa using hne) (by simpa using hd) hdropl (read + B)
    simp only [List.length_map] at this
    have happ := hC.app _ _ B (n - B) (by simpa using hd) (by simpa using hd) hB (Nat.sub_pos_of_lt hBn) htakel hdropl
    rw [zipWith_take_drop] at happ
    rw [verifyLoop_step C _ B n hB (Nat.lt_trans hB hBn) ss hne hlen read, Nat.min_eq_left (Nat.le_of_lt hBn), this, happ]
    cases C.verify (ss.map (List.take B)) <;> simp

/-- `Encode`: equal-length streams, one reader with a fault at position `k < n`, fault-free parity
writers: the loop ends with `StreamReadError{Stream: i}` -/
theorem encodeLoop_fault (C : BlockCodec) (hC : EncLocal C) (conc : Bool) :
    ∀ (fuel B n k : Nat), 0 < B → k < n → k / B + 1 ≤ fuel →
    ∀ (pre post : List (List Nat)) (data : List Nat), pre.length + 1 + post.length = C.d →
    (∀ s ∈ pre, s.length = n) → (∀ s ∈ post, s.length = n) → data.length = n →
    ∀ (gs : List (List Nat)), gs.length = C.p → ∀ (read : Nat),
    (encodeLoop C conc fuel (List.replicate (pre.length + 1 + post.length) B)
      (cl pre ++ some ⟨data, some k⟩ :: cl post) (pw gs) read).err = some (.read pre.length) := by
  intro fuel
  induction fuel with
  | zero => intro B n k _ _ hf; exact absurd hf (Nat.not_succ_le_zero _)
  | succ fuel ih =>
    intro B n k hB hkn hf pre post data hd hpre hpost hdata gs hp read
    by_cases hkB : k < B
    · simp only [encodeLoop, readShards_mix_fault B n pre post data k hpre hkB (hdata ▸ Nat.le_of_lt hkn)]
    · have hBk : B ≤ k := Nat.le_of_not_lt hkB
      obtain ⟨hread, hbl⟩ := readShards_mix_full hBk hkn pre post data hpre hpost hdata
      have hd' : (pre.map (List.drop B)).length + 1 + (post.map (List.drop B)).length = C.d := by
        rw [List.length_map, List.length_map]; exact hd
      have hplen : gs.length = (C.encode ((pre ++ data :: post).map (List.take B))).length := by
        rw [hp, hC.len _ B (by rw [List.length_map, length_append_cons]; exact hd) hB hbl]
      have hdiv : k / B = (k - B) / B + 1 := Nat.div_eq_sub_div hB hBk
      rw [encodeLoop_succ C conc fuel (pw gs) read hread hB (map_take_ne_nil (by simp)) hbl,
        writeShards_pw conc gs _ hplen, List.length_map, length_append_cons]
      simpa only [List.length_map] using ih B (n - B) (k - B) hB (Nat.sub_lt_sub_right hBk hkn) (by omega) (pre.map (List.drop B))
        (post.map (List.drop B)) (data.drop B) hd' (length_drop_of_all hpre)
        (length_drop_of_all hpost) (by rw [List.length_drop, hdata])
        (List.zipWith (· ++ ·) gs (C.encode ((pre ++ data :: post).map (List.take B))))
        (by rw [List.length_zipWith, ← hplen, Nat.min_self, hp]) (read + B)

theorem verifyLoop_fault (C : BlockCodec) :
    ∀ (fuel B n k : Nat), 0 < B → k < n →
    ∀ (pre post : List (List Nat)) (data : List Nat),
    (∀ s ∈ pre, s.length = n) → (∀ s ∈ post, s.length = n) → data.length = n → ∀ (read : Nat),
    (verifyLoop C fuel (List.replicate (pre.length + 1 + post.length) B)
        (cl pre ++ some ⟨data, some k⟩ :: cl post) read).1 = false := by
  intro fuel
  induction fuel with
  | zero => intro B n k _ _ pre post data _ _ _ read; rfl
  | succ fuel ih =>
    intro B n k hB hkn pre post data hpre hpost hdata read
    by_cases hkB : k < B
    · simp only [verifyLoop, readShards_mix_fault B n pre post data k hpre hkB (hdata ▸ Nat.le_of_lt hkn)]
    · have hBk : B ≤ k := Nat.le_of_not_lt hkB
      obtain ⟨hread, hbl⟩ := readShards_mix_full hBk hkn pre post data hpre hpost hdata
      rw [verifyLoop_succ C fuel read hread hB (map_take_ne_nil (by simp)) hbl, List.length_map,
        length_append_cons]
      split
      · simpa only [List.length_map] using ih B (n - B) (k - B) hB (Nat.sub_lt_sub_right hBk hkn) (pre.map (List.drop B)) (post.map (List.drop B))
          (data.drop B) (length_drop_of_all hpre) (length_drop_of_all hpost)
          (by rw [List.length_drop, hdata]) (read + B)
      · rfl

def maskRows (want : List Bool) (rows : List (List Nat)) : List (Option (List Nat)) :=
  List.zipWith (fun w r => if w then some r else none) want rows

theorem maskRows_length (want : List Bool) (rows : List (List Nat)) (h : rows.length = want.length) :
    (maskRows want rows).length = want.length := by simp [maskRows, h]

theorem appendO_mask_congr : ∀ (want : List Bool) (gs full w : List (List Nat)),
    gs.length = want.length → full.length = want.length → w.length = want.length →
    maskRows want full = maskRows want w →
    appendO (maskRows want gs) full = maskRows want (List.zipWith (· ++ ·) gs w)
  | [], _, _, _, _, _, _, _ => by simp [maskRows, appendO]
  | b :: want, g :: gs, f :: full, x :: w, hg, hf, hw, h => by
    simp only [maskRows, List.zipWith_cons_cons, List.cons.injEq] at h
    have ih := appendO_mask_congr want gs full w (by simpa using hg) (by simpa using hf) (by simpa using hw) h.2
    simp only [maskRows, appendO] at ih
    simp only [maskRows, appendO, List.zipWith_cons_cons, ih, List.cons.injEq, and_true]
    cases b
    · simp
    · have := h.1; simp at this; simp [this]
  | _ :: _, [], _, _, hg, _, _, _ => by simp at hg
  | _ :: _, _ :: _, [], _, _, hf, _, _ => by simp at hf
  | _ :: _, _ :: _, _ :: _, [], _, _, hw, _ => by simp at hw

/-- in-memory `Reconstruct` works on every column window `[a, a+b)` of the shards: given the present
windows (`[]` for the absent ones) it returns `want.length` rows which, at the wanted indices, are the
windows of the original shards -/
def RecOK (C : BlockCodec) (dataOnly : Bool) (want : List Bool) (os : List (Option (List Nat)))
    (orig : List (List Nat)) (n : Nat) : Prop :=
  ∀ a b, 0 < b → a + b ≤ n → ∃ full, C.reconstruct (takeB b (dropB a os)) dataOnly = .ok full ∧
    full.length = want.length ∧
    maskRows want full = maskRows want (orig.map fun s => (s.drop a).take b)

theorem RecOK.shift {C dataOnly want os orig n} (h : RecOK C dataOnly want os orig n) (B : Nat) (hB : B ≤ n) :
    RecOK C dataOnly want (dropB B os) (orig.map (List.drop B)) (n - B) := by
  intro a b hb hab
  obtain ⟨full, h1, h2, h3⟩ := h (B + a) b hb (by omega)
  refine ⟨full, by rw [dropB_dropB]; exact h1, h2, ?_⟩
  rw [h3, List.map_map]
  congr 2
  funext s
  simp [List.drop_drop]

theorem takeB_min (B n : Nat) (os : List (Option (List Nat))) (h : ∀ s, some s ∈ os → s.length = n) :
    takeB B os = takeB (min B n) os := by
  induction os with
  | nil => rfl
  | cons o os ih =>
    have ih' := ih (fun s hs => h s (List.mem_cons_of_mem _ hs))
    cases o with
    | none => simp [ih']
    | some s =>
      have hs := h s (List.mem_cons_self ..)
      simp only [takeB_cons_some, ih', List.cons.injEq, and_true]
      by_cases hBn : B ≤ n
      · rw [Nat.min_eq_left hBn]
      · rw [Nat.min_eq_right (by omega), List.take_of_length_le (by omega), List.take_of_length_le (by omega)]

theorem nextLens_ok (B' B m : Nat) (hm : m ≠ 0) : ∀ (os : List (Option (List Nat))),
    (∀ s, some s ∈ os → (s.take B').length = m) → LensOK m (nextLens B (takeB B' os)) (dropB B' os)
  | [], _ => .nil
  | none :: os, h => by
    have ih := nextLens_ok B' B m hm os (fun s hs => h s (List.mem_cons_of_mem _ hs))
    simp only [nextLens, length_takeB] at ih
    simp only [nextLens, takeB_cons_none, dropB_cons_none, List.length_cons, List.replicate_succ,
      List.zip_cons_cons, List.map_cons, List.length_nil, if_true, length_takeB]
    exact LensOK.consNone B ih
  | some s :: os, h => by
    have ih := nextLens_ok B' B m hm os (fun s hs => h s (List.mem_cons_of_mem _ hs))
    have hs := h s (List.mem_cons_self ..)
    simp only [nextLens, length_takeB] at ih
    simp only [nextLens, takeB_cons_some, dropB_cons_some, List.length_cons, List.replicate_succ,
      List.zip_cons_cons, List.map_cons, hs, hm, if_false, length_takeB]
    exact LensOK.consSome _ ih

theorem takeB_blocks (B m : Nat) (os : List (Option (List Nat))) (h : ∀ s, some s ∈ os → (s.take B).length = m) :
    ∀ b ∈ takeB B os, b.length = 0 ∨ b.length = m := by
  intro b hb
  obtain ⟨o, ho, rfl⟩ := List.mem_map.1 hb
  cases o with
  | none => left; rfl
  | some s => right; exact h s ho

theorem reconLoop_eof (C : BlockCodec) (conc dataOnly : Bool) (B fuel B' : Nat) (hB' : 0 < B')
    {lens os} (hl : LensOK B' lens os) (h0 : ∀ s, some s ∈ os → s.length = 0) (hex : ∃ s, some s ∈ os)
    (ws : List (Option Wr)) (read : Nat) :
    reconLoop C conc dataOnly B (fuel + 1) lens (rdsOf os) ws read =
      ⟨if read = 0 then some .shardNoData else none, ws⟩ := by
  simp only [reconLoop, readShards_clean_eof B' hB' hl h0 hex]

/-- `B` only resets the buffers of absent streams (in `nextLens`); `B'` is the current buffer length,
`min B' n` after the first round -/
theorem reconLoop_step (C : BlockCodec) (conc dataOnly : Bool) (B fuel B' n : Nat) (hB' : 0 < B') (hn : 0 < n)
    (want : List Bool) {lens os} (hl : LensOK B' lens os) (hlen : ∀ s, some s ∈ os → s.length = n)
    (hex : ∃ s, some s ∈ os) (orig gs : List (List Nat)) (ho : orig.length = want.length)
    (hg : gs.length = want.length) (hrec : RecOK C dataOnly want os orig n) (read : Nat) :
    ∃ lens', LensOK (min B' n) lens' (dropB B' os) ∧
    reconLoop C conc dataOnly B (fuel + 1) lens (rdsOf os) (wsOf (maskRows want gs)) read =
      reconLoop C conc dataOnly B fuel lens' (rdsOf (dropB B' os))
        (wsOf (maskRows want (List.zipWith (· ++ ·) gs (orig.map (List.take (min B' n)))))) (read + min B' n) := by
  have hm : 0 < min B' n := by omega
  have htl : ∀ s, some s ∈ os → (s.take B').length = min B' n := by
    intro s hs; simp [hlen s hs]
  have hread := readShards_clean_ok B' (min B' n) hm hl fun s hs => by rw [hlen s hs]
  have hex' : ∃ b ∈ takeB B' os, b.length ≠ 0 := by
    obtain ⟨s, hs⟩ := hex
    exact ⟨s.take B', List.mem_map.2 ⟨some s, hs, rfl⟩, by rw [htl s hs]; omega⟩
  obtain ⟨full, hfull, hfl, hmask⟩ := hrec 0 (min B' n) hm (by omega)
  rw [dropB_zero, ← takeB_min B' n os hlen] at hfull
  have hmask' : maskRows want full = maskRows want (orig.map (List.take (min B' n))) := by
    rw [hmask]; simp
  have hw := writeShards_clean conc (maskRows want gs) full (by rw [maskRows_length _ _ hg, hfl])
  rw [appendO_mask_congr want gs full _ hg hfl (by simpa using ho) hmask'] at hw
  refine ⟨_, nextLens_ok B' B (min B' n) (by omega) os htl, ?_⟩
  rw [reconLoop_succ C conc dataOnly B fuel _ read hread hm hex' (takeB_blocks B' (min B' n) os htl)]
  simp only [hfull, hw]

/-- `B`, `B'`: as in `reconLoop_step` -/
theorem reconLoop_clean (C : BlockCodec) (conc dataOnly : Bool) (B : Nat) (want : List Bool) {B' : Nat} (hB' : 0 < B') :
    ∀ (fuel n : Nat), 0 < n → n / B' + 2 ≤ fuel →
    ∀ (lens : List Nat) (os : List (Option (List Nat))), LensOK B' lens os →
    (∀ s, some s ∈ os → s.length = n) → (∃ s, some s ∈ os) →
    ∀ (orig gs : List (List Nat)), orig.length = want.length → (∀ r ∈ orig, r.length = n) →
    gs.length = want.length → RecOK C dataOnly want os orig n → ∀ (read : Nat),
    reconLoop C conc dataOnly B fuel lens (rdsOf os) (wsOf (maskRows want gs)) read =
      ⟨none, wsOf (maskRows want (List.zipWith (· ++ ·) gs orig))⟩ := by
  refine block_induction hB' ?_ ?_
  · intro fuel n hn hBn lens os hl hlen hex orig gs ho horig hg hrec read
    obtain ⟨lens', hl', hstep⟩ := reconLoop_step C conc dataOnly B (fuel + 1) B' n hB' hn want hl hlen hex
      orig gs ho hg hrec read
    obtain ⟨s, hs⟩ := hex
    rw [Nat.min_eq_right hBn] at hl' hstep
    rw [hstep, reconLoop_eof C conc dataOnly B fuel n hn hl'
        (fun t ht => by obtain ⟨s, hs, rfl⟩ := mem_dropB ht; rw [List.length_drop, hlen s hs]; omega)
        ⟨_, mem_dropB_of_mem hs⟩,
      map_take_of_le n orig (fun s hs => by rw [horig s hs]; exact Nat.le_refl _), if_neg (by omega)]
  · intro fuel n hBn ih lens os hl hlen hex orig gs ho horig hg hrec read
    obtain ⟨lens', hl', hstep⟩ := reconLoop_step C conc dataOnly B fuel B' n hB' (by omega) want hl hlen hex
      orig gs ho hg hrec read
    obtain ⟨s, hs⟩ := hex
    rw [Nat.min_eq_left (by omega)] at hl' hstep
    rw [hstep, ih lens' (dropB B' os) hl'
        (fun t ht => by obtain ⟨s, hs, rfl⟩ := mem_dropB ht; rw [List.length_drop, hlen s hs])
        ⟨_, mem_dropB_of_mem hs⟩ (orig.map (List.drop B')) _ (by simpa using ho) (length_drop_of_all horig)
        (by rw [List.length_zipWith]; simp [hg, ho]) (hrec.shift B' (by omega)) (read + B'),
      zipWith_append_assoc, zipWith_take_drop]

end RSV.Proofs.Streams
