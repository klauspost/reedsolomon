import RSV.Model.GF256
import Mathlib.Logic.Function.Iterate
/-!
# Ring laws of `BF.pmul k poly` from `k` evaluated basis identities

`pmul` is xor-linear in both arguments (`RSV/Spec/BinField.lean`), so an identity between xor-linear maps
holds below `2^k` as soon as it holds on the basis `2^i` (`ext_of_basis`).  On the basis, `a · 2^j = x^j a`
structurally, which gives commutativity; `a · (x b) = x (a · b)` needs one evaluated fact per basis element,
for `b = 2^(k-1)` where `x b` wraps around (`Basis k poly`).  Associativity, `x^(i+j) = x^i · x^j` and
`a · 2 = x a` follow.
-/
namespace RSV.BF

def xpow (k poly n : Nat) : Nat := (xtime k poly)^[n] 1

/-- `x^n` for `n < 2^fuel` by square-and-multiply, so that the kernel evaluates a single power with `fuel`
products -/
def xpf (k poly : Nat) : Nat → Nat → Nat
  | 0, _ => 1
  | f+1, n =>
    let h := xpf k poly f (n / 2)
    let s := pmul k poly h h
    if n % 2 = 1 then xtime k poly s else s

/-- the facts about a concrete `(k, poly)` that are checked by evaluation: `a · (x b) = x (a · b)` where `x b` wraps
around, on the basis `a = 2^i`, `b = 2^(k-1)` -/
structure Basis (k poly : Nat) : Prop where
  hk : 1 < k
  hp : 2 ^ k ≤ poly
  hp2 : poly < 2 ^ (k + 1)
  top : ∀ i, i < k →
    pmul k poly (2^i) (xtime k poly (2^(k-1))) = xtime k poly (pmul k poly (2^i) (2^(k-1)))

variable {k poly : Nat}

theorem xtime_zero (k poly : Nat) : xtime k poly 0 = 0 := by simp [xtime]

theorem pmul_zero_left (k poly b : Nat) : pmul k poly 0 b = 0 := by
  simpa using pmul_xor_left k poly 0 0 b

theorem pmul_zero_right (k poly a : Nat) : pmul k poly a 0 = 0 := by
  simpa using pmul_xor_right k poly a 0 0

theorem pmulAux_zero_right (k poly n a : Nat) : pmulAux k poly n a 0 = 0 := by
  simpa using pmulAux_xor_right k poly n a 0 0

theorem pmul_one_right (hk : 0 < k) (a : Nat) : pmul k poly a 1 = a := by
  obtain ⟨n, rfl⟩ := Nat.exists_eq_succ_of_ne_zero (Nat.ne_of_gt hk)
  simp [pmul, pmulAux, pmulAux_zero_right]

theorem xpow_succ (k poly n : Nat) : xpow k poly (n + 1) = xtime k poly (xpow k poly n) :=
  Function.iterate_succ_apply' _ n 1

theorem pmulAux_two_pow (k poly : Nat) : ∀ n a j, j < n →
    pmulAux k poly n a (2 ^ j) = (xtime k poly)^[j] a := by
  intro n
  induction n with
  | zero => intro a j hj; exact absurd hj (Nat.not_lt_zero j)
  | succ n ih =>
    intro a j hj
    cases j with
    | zero => simp [pmulAux, pmulAux_zero_right]
    | succ j =>
      have h2 : 2 ^ (j + 1) >>> 1 = 2 ^ j := by
        rw [Nat.shiftRight_eq_div_pow, Nat.pow_succ, Nat.pow_one, Nat.mul_div_cancel _ (by decide)]
      simp only [pmulAux, Nat.testBit_two_pow, h2]
      rw [ih _ j (by omega), if_neg (by simp), Nat.zero_xor, Function.iterate_succ_apply]

theorem pmul_two_pow {j : Nat} (hj : j < k) (a : Nat) :
    pmul k poly a (2 ^ j) = (xtime k poly)^[j] a := pmulAux_two_pow k poly k a j hj

/-- below the top bit, multiplication by `x` is a shift: `2^j = x^j` for `j < k` -/
theorem two_pow_eq_xpow {j : Nat} (hj : j < k) : 2 ^ j = xpow k poly j := by
  induction j with
  | zero => rfl
  | succ j ih =>
    rw [xpow_succ, ← ih (by omega), xtime, Nat.testBit_two_pow, if_neg (by simp; omega),
      Nat.shiftLeft_eq, Nat.pow_succ]

/-- on the basis both products are `x^(i+j)` -/
theorem pmul_comm_basis {i j : Nat} (hi : i < k) (hj : j < k) :
    pmul k poly (2 ^ i) (2 ^ j) = pmul k poly (2 ^ j) (2 ^ i) := by
  rw [pmul_two_pow hj, pmul_two_pow hi, two_pow_eq_xpow hi, two_pow_eq_xpow hj, xpow, xpow,
    ← Function.iterate_add_apply, ← Function.iterate_add_apply, Nat.add_comm]

theorem pmul_comm {a b : Nat} (ha : a < 2^k) (hb : b < 2^k) : pmul k poly a b = pmul k poly b a := by
  refine ext_of_basis (fun a => pmul k poly a b) (fun a => pmul k poly b a)
    (fun x y => pmul_xor_left k poly x y b) (fun x y => pmul_xor_right k poly b x y) k ?_ a ha
  intro i hi
  exact ext_of_basis (fun b => pmul k poly (2^i) b) (fun b => pmul k poly b (2^i))
    (fun x y => pmul_xor_right k poly (2^i) x y) (fun x y => pmul_xor_left k poly x y (2^i)) k
    (fun j hj => pmul_comm_basis hi hj) b hb

namespace Basis
variable (h : Basis k poly)
include h

theorem pos : 0 < k := Nat.lt_trans Nat.zero_lt_one h.hk

/-- below the top bit `x (2^j) = 2^(j+1)` and both sides are `x^(j+1) · 2^i`; the top bit is `top` -/
theorem pmul_xtime_basis {i j : Nat} (hi : i < k) (hj : j < k) :
    pmul k poly (2 ^ i) (xtime k poly (2 ^ j)) = xtime k poly (pmul k poly (2 ^ i) (2 ^ j)) := by
  by_cases hjk : j + 1 < k
  · have hx : xtime k poly (2 ^ j) = 2 ^ (j + 1) := by
      rw [two_pow_eq_xpow hjk, xpow_succ, ← two_pow_eq_xpow hj]
    rw [hx, pmul_two_pow hjk, pmul_two_pow hj, Function.iterate_succ_apply']
  · obtain rfl : j = k - 1 := by omega
    exact h.top i hi

theorem xtime_lt {a : Nat} (ha : a < 2^k) : xtime k poly a < 2^k := BF.xtime_lt h.pos h.hp h.hp2 ha

theorem pmul_lt {a : Nat} (ha : a < 2^k) (b : Nat) : pmul k poly a b < 2^k :=
  BF.pmul_lt b h.pos h.hp h.hp2 ha

theorem xtime_iter_lt {a : Nat} (ha : a < 2^k) (n : Nat) : (xtime k poly)^[n] a < 2^k := by
  induction n with
  | zero => exact ha
  | succ n ih => rw [Function.iterate_succ_apply']; exact h.xtime_lt ih

theorem xpow_lt (n : Nat) : xpow k poly n < 2^k :=
  h.xtime_iter_lt (Nat.one_lt_two_pow (Nat.ne_of_gt h.pos)) n

theorem pmul_xtime {a b : Nat} (ha : a < 2^k) (hb : b < 2^k) :
    pmul k poly a (xtime k poly b) = xtime k poly (pmul k poly a b) := by
  refine ext_of_basis (fun a => pmul k poly a (xtime k poly b)) (fun a => xtime k poly (pmul k poly a b))
    (fun x y => pmul_xor_left k poly x y _) (fun x y => by simp only [pmul_xor_left, xtime_xor]) k ?_ a ha
  intro i hi
  exact ext_of_basis (fun b => pmul k poly (2^i) (xtime k poly b)) (fun b => xtime k poly (pmul k poly (2^i) b))
    (fun x y => by simp only [xtime_xor, pmul_xor_right])
    (fun x y => by simp only [pmul_xor_right, xtime_xor]) k
    (fun j hj => h.pmul_xtime_basis hi hj) b hb

theorem pmul_xtime_iter {a b : Nat} (ha : a < 2^k) (hb : b < 2^k) (n : Nat) :
    pmul k poly a ((xtime k poly)^[n] b) = (xtime k poly)^[n] (pmul k poly a b) := by
  induction n with
  | zero => rfl
  | succ n ih =>
    rw [Function.iterate_succ_apply', Function.iterate_succ_apply',
      h.pmul_xtime ha (h.xtime_iter_lt hb n), ih]

theorem pmul_xpow {a : Nat} (ha : a < 2^k) (n : Nat) :
    pmul k poly a (xpow k poly n) = (xtime k poly)^[n] a := by
  rw [xpow, h.pmul_xtime_iter ha (Nat.one_lt_two_pow (Nat.ne_of_gt h.pos)), pmul_one_right h.pos]

theorem xpow_add (i j : Nat) : xpow k poly (i + j) = pmul k poly (xpow k poly i) (xpow k poly j) := by
  rw [h.pmul_xpow (h.xpow_lt i), xpow, Nat.add_comm, Function.iterate_add_apply]; rfl

theorem pmul_two {a : Nat} (ha : a < 2^k) : pmul k poly a 2 = xtime k poly a := by
  have := h.pmul_xpow ha 1
  rwa [← two_pow_eq_xpow h.hk] at this

/-- checked on the basis `2^j = x^j` of the third factor -/
theorem pmul_assoc {a b c : Nat} (ha : a < 2^k) (hb : b < 2^k) (hc : c < 2^k) :
    pmul k poly (pmul k poly a b) c = pmul k poly a (pmul k poly b c) := by
  refine ext_of_basis (fun c => pmul k poly (pmul k poly a b) c) (fun c => pmul k poly a (pmul k poly b c))
    (fun x y => by simp only [pmul_xor_right]) (fun x y => by simp only [pmul_xor_right]) k ?_ c hc
  intro j hj
  show pmul k poly (pmul k poly a b) (2 ^ j) = pmul k poly a (pmul k poly b (2 ^ j))
  rw [two_pow_eq_xpow hj, h.pmul_xpow (h.pmul_lt ha b) j, h.pmul_xpow hb j, h.pmul_xtime_iter ha hb j]

theorem pmul_one_left {b : Nat} (hb : b < 2^k) : pmul k poly 1 b = b := by
  rw [pmul_comm (Nat.one_lt_two_pow (Nat.ne_of_gt h.pos)) hb, pmul_one_right h.pos]

theorem ppow_lt (a n : Nat) : ppow k poly a n < 2^k := by
  induction n with
  | zero => exact Nat.one_lt_two_pow (Nat.ne_of_gt h.pos)
  | succ n ih => exact h.pmul_lt ih a

theorem ppow_add {a : Nat} (ha : a < 2^k) (m n : Nat) :
    ppow k poly a (m + n) = pmul k poly (ppow k poly a m) (ppow k poly a n) := by
  induction n with
  | zero => exact (pmul_one_right h.pos _).symm
  | succ n ih =>
    show pmul k poly (ppow k poly a (m + n)) a = pmul k poly _ (pmul k poly (ppow k poly a n) a)
    rw [ih, h.pmul_assoc (h.ppow_lt a m) (h.ppow_lt a n) ha]

theorem ppow_xpow (n m : Nat) : ppow k poly (xpow k poly n) m = xpow k poly (n * m) := by
  induction m with
  | zero => rfl
  | succ m ih => rw [Nat.mul_succ, h.xpow_add, ← ih]; rfl

theorem xpow_eq_ppow (n : Nat) : xpow k poly n = ppow k poly 2 n := by
  induction n with
  | zero => rfl
  | succ n ih =>
    rw [xpow_succ, ih]
    exact (h.pmul_two (h.ppow_lt 2 n)).symm

theorem xpf_eq (f : Nat) : ∀ n, n < 2 ^ f → xpf k poly f n = xpow k poly n := by
  induction f with
  | zero => intro n hn; have : n = 0 := by simpa using hn
            subst this; rfl
  | succ f ih =>
    intro n hn
    have h2 := ih (n / 2) (by rw [Nat.pow_succ] at hn; omega)
    simp only [xpf, h2, ← h.xpow_add]
    split
    · rw [← xpow_succ]; congr 1; omega
    · congr 1; omega

end Basis
end RSV.BF
