import RSV.Proofs.AsmStep
/-!
Matrix-kernel checker: the vector instructions and loads.
-/
namespace RSV.Asm

variable {c : Ctx} {it : Nat} {σ σ' : SymState} {s : State} {loop : Bool}

theorem VRefines.single {a : Atom} {w : Nat} {reg : Nat → Nat} :
    VRefines c it (.xs w [a]) reg ↔ Desc w (fun k => evalAtom c it k a) reg := by
  simp only [VRefines, List.map, xorl, Nat.xor_zero]

theorem step_vload (hc : Contract c) (h : Sim c it σ s) (hl : loop = true → it < c.cnt)
    {m : Mem} {d : VReg} (hs : symStep c.cfg loop (.vload m d) σ = some σ') : StepOK c it (.vload m d) σ' s := by
  simp only [symStep] at hs
  split at hs
  · rename_i k heq
    obtain ⟨ha, _⟩ := symData_matrix hc h heq
    split at hs
    · rename_i hw
      cases hs
      refine ⟨_, by simp only [stepInstr, ha]; rfl, h.setVec d _ ?_⟩
      have hb : d.w.bytes = 32 := by rw [hw]; rfl
      exact Desc.vex (Nat.le_of_eq hb.symm) fun _ _ => h.mem_other .matrix (fun _ _ e => nomatch e) _
    · cases hs
  · rename_i j k heq
    have ha := symData_inp hc h hl heq
    cases hs
    refine ⟨_, by simp only [stepInstr, ha]; rfl, h.setVec d _ (VRefines.single.mpr ?_)⟩
    exact Desc.vex (Nat.le_refl _) fun _ _ => h.mem_other (.inp j) (fun _ _ e => nomatch e) _
  · rename_i i k heq
    obtain ⟨ha, _, hi⟩ := symData_out hc h hl heq
    split at hs
    · rename_i hst
      cases hs
      refine ⟨_, by simp only [stepInstr, ha]; rfl, h.setVec d _ (VRefines.single.mpr ?_)⟩
      -- nothing was stored yet in this iteration, so the block still holds the old bytes
      exact Desc.vex (Nat.le_refl _) fun q _ =>
        h.mem_old (k := i) trivial (Nat.le_trans (Nat.le_add_right _ _) (Nat.le_add_right _ _))
          fun o ho => by rw [hst] at ho; cases ho
    · cases hs
  · cases hs

theorem step_vbcast8 (hc : Contract c) (h : Sim c it σ s)
    {m : Mem} {d : VReg} (hs : symStep c.cfg loop (.vbcast8 m d) σ = some σ') : StepOK c it (.vbcast8 m d) σ' s := by
  simp only [symStep] at hs
  split at hs
  · rename_i k heq
    obtain ⟨ha, _⟩ := symData_matrix hc h heq
    cases hs
    refine ⟨_, by simp only [stepInstr, ha]; rfl, h.setVec d _ ?_⟩
    exact Desc.vex (Nat.le_refl _) fun _ _ => h.mem_other .matrix (fun _ _ e => nomatch e) _
  · cases hs

theorem step_vxor (h : Sim c it σ s) {a b d : VReg}
    (hs : symStep c.cfg loop (.vxor a b d) σ = some σ') : StepOK c it (.vxor a b d) σ' s := by
  simp only [symStep] at hs
  split at hs
  · rename_i w l w' l' heq heq2
    split at hs
    · rename_i hcond
      obtain ⟨rfl, rfl⟩ := hcond
      cases hs
      refine ⟨_, rfl, h.setVec d _ ?_⟩
      have := (Desc.xor (h.vecAt heq) (h.vecAt heq2)).vex (Nat.le_refl _)
      simpa only [VRefines, List.map_append, xorl_append] using this
    · cases hs
  · cases hs

theorem step_vpand (h : Sim c it σ s) {a b d : VReg}
    (hs : symStep c.cfg loop (.vpand a b d) σ = some σ') : StepOK c it (.vpand a b d) σ' s := by
  simp only [symStep] at hs
  split at hs
  · rename_i w w' j o heq heq2
    split at hs
    · rename_i hcond
      obtain ⟨rfl, rfl⟩ := hcond
      cases hs
      exact ⟨_, rfl, h.setVec d _
        ((Desc.and15 (h.vecAt heq) (VRefines.single.mp (h.vecAt heq2))).vex (Nat.le_refl _))⟩
    · cases hs
  · rename_i w w' j o heq heq2
    split at hs
    · rename_i hcond
      obtain ⟨rfl, rfl⟩ := hcond
      cases hs
      exact ⟨_, rfl, h.setVec d _ ((DescHi.and15 (h.vecAt heq) (h.vecAt heq2)).vex (Nat.le_refl _))⟩
    · cases hs
  · cases hs

theorem step_vpsrlq (hc : Contract c) (h : Sim c it σ s) {imm : Nat} {src d : VReg}
    (hs : symStep c.cfg loop (.vpsrlq imm src d) σ = some σ') : StepOK c it (.vpsrlq imm src d) σ' s := by
  simp only [symStep] at hs
  split at hs
  · rename_i w j o heq
    split at hs
    · rename_i hcond
      obtain ⟨rfl, rfl⟩ := hcond
      cases hs
      exact ⟨_, rfl, h.setVec d _ ((Desc.srlq4 (bytes_mod8 _) (fun _ => hc.bytes _ _)
        (VRefines.single.mp (h.vecAt heq))).vex (Nat.le_refl _))⟩
    · cases hs
  · cases hs

theorem step_vpbroadcastb (h : Sim c it σ s) {src d : VReg}
    (hs : symStep c.cfg loop (.vpbroadcastb src d) σ = some σ') : StepOK c it (.vpbroadcastb src d) σ' s := by
  simp only [symStep] at hs
  split at hs
  · rename_i b heq
    split at hs
    · rename_i hb
      subst hb
      cases hs
      have ha : s.vec src.idx 0 = 15 := h.vecAt heq
      exact ⟨_, rfl, h.setVec d _ (Desc.vex (Nat.le_refl _) fun _ _ => ha)⟩
    · cases hs
  · cases hs

theorem nib_lt (hc : Contract c) (j o k : Nat) (hi : Bool) :
    (if hi then c.inp it j o k >>> 4 else c.inp it j o k &&& 15) < 16 := by
  cases hi
  · exact and15_lt _
  · exact shr4_lt (hc.bytes _ _)

/-- `VPSHUFB` indexed by a nibble of the input (`hi`: the high one) looks it up in the table at `off` -/
theorem shuf_desc (hc : Contract c) {off j o : Nat} {hi : Bool} {rt ri : Nat → Nat}
    (ht : Desc 32 (fun m => c.m0 .matrix (off + m)) rt)
    (hn : Desc 32 (fun k => if hi then c.inp it j o k >>> 4 else c.inp it j o k &&& 15) ri) :
    Desc 32 (fun k => evalAtom c it k (.shuf off hi j o)) (shufByte rt ri) :=
  Desc.shuf (fun k _ => nib_lt hc j o k hi) (by decide) ht hn

theorem step_vpshufb (hc : Contract c) (h : Sim c it σ s) {idx tab d : VReg}
    (hs : symStep c.cfg loop (.vpshufb idx tab d) σ = some σ') : StepOK c it (.vpshufb idx tab d) σ' s := by
  simp only [symStep] at hs
  split at hs
  -- index register: the low nibbles, then the high nibbles
  iterate 2
    · rename_i off w j o heq heq2
      split at hs
      · rename_i hcond
        obtain ⟨hw, rfl⟩ := hcond
        cases hs
        have hb : d.w.bytes = 32 := by rw [hw]; rfl
        refine ⟨_, rfl, h.setVec d _ (VRefines.single.mpr ?_)⟩
        exact Desc.vex (Nat.le_of_eq hb.symm) (shuf_desc hc (h.vecAt heq) (h.vecAt heq2))
      · cases hs
  · cases hs

theorem step_affine (h : Sim c it σ s) {imm : Nat} {mt src d : VReg}
    (hs : symStep c.cfg loop (.affine imm mt src d) σ = some σ') : StepOK c it (.affine imm mt src d) σ' s := by
  simp only [symStep] at hs
  split at hs
  · rename_i w off w' j o heq heq2
    split at hs
    · rename_i hcond
      obtain ⟨rfl, rfl, rfl⟩ := hcond
      cases hs
      refine ⟨_, rfl, h.setVec d _ (VRefines.single.mpr ?_)⟩
      exact (Desc.affine (M := fun t => c.m0 .matrix (off + t)) (f := c.inp it j o) (bytes_mod8 _)
        (h.vecAt heq) (VRefines.single.mp (h.vecAt heq2))).vex (Nat.le_refl _)
    · cases hs
  · cases hs

theorem step_affineBcst (hc : Contract c) (h : Sim c it σ s) {imm : Nat} {m : Mem} {src d : VReg}
    (hs : symStep c.cfg loop (.affineBcst imm m src d) σ = some σ') :
    StepOK c it (.affineBcst imm m src d) σ' s := by
  simp only [symStep] at hs
  split at hs
  · rename_i k w j o heq heq2
    obtain ⟨ha, _⟩ := symData_matrix hc h heq
    split at hs
    · rename_i hcond
      obtain ⟨rfl, rfl⟩ := hcond
      cases hs
      have hx : Desc d.w.bytes (c.inp it j o) (s.vec src.idx) := VRefines.single.mp (h.vecAt heq2)
      refine ⟨_, by simp only [stepInstr, ha]; rfl, h.setVec d _ (VRefines.single.mpr ?_)⟩
      refine Desc.vex (Nat.le_refl _) fun q hq => ?_
      show affineB (fun t => s.mem .matrix (k + t)) (s.vec src.idx q) ^^^ 0 =
        affineB (fun t => c.m0 .matrix (k + t)) (c.inp it j o q)
      rw [Nat.xor_zero, hx q hq]
      exact affineB_congr _ _ _ fun t _ => h.mem_other .matrix (fun _ _ e => nomatch e) _
    · cases hs
  · cases hs

end RSV.Asm
