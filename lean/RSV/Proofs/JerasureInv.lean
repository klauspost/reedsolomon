import RSV.Proofs.Generators
/-!
The invariant behind `buildMatrixJerasure`.  For a `n × d` model matrix `A`, `RowsMDS A` says
that a vector `t` that is killed by `d` distinct rows of `A` is zero (equivalently: every `d × d`
sub-matrix formed by `d` distinct rows is invertible).  It has the same shape as
`CodeTheory.MDS` and needs no determinants.

The invariant is carried along any change of matrix of the form
`A' r · t = 0 → A (σ r) · φ t = 0` with `σ` injective and `φ` having trivial kernel
(`RowsMDS.transfer`); this covers row permutations, scaling of rows by non-zero scalars and
right-multiplication by an invertible matrix (column scaling, column elimination), i.e. the
operations of the main loop.  It also implies that no column vanishes, so the pivot search
cannot fail.
-/

namespace RSV.Jerasure
open RSV.Model RSV.CodeTheory RSV.Generators Finset

section
variable {F : Type} [Field F] {n d : ℕ}

def RowsMDS (A : Mat F n d) : Prop :=
  ∀ S : Finset (Fin n), S.card = d → ∀ t : Fin d → F,
    (∀ i ∈ S, ∑ c, A.get i c * t c = 0) → t = 0

def TopUnit (k : ℕ) (A : Mat F n d) : Prop :=
  ∀ (r : Fin n) (c : Fin d), r.val < k → A.get r c = if r.val = c.val then 1 else 0

theorem RowsMDS.transfer {A A' : Mat F n d} (h : RowsMDS A)
    (σ : Fin n → Fin n) (hσ : Function.Injective σ)
    (φ : (Fin d → F) → (Fin d → F)) (hφ : ∀ t, φ t = 0 → t = 0)
    (hrel : ∀ r t, ∑ c, A'.get r c * t c = 0 → ∑ c, A.get (σ r) c * φ t c = 0) :
    RowsMDS A' := by
  intro S hS t h0
  apply hφ
  apply h (S.image σ) (by rw [Finset.card_image_of_injective _ hσ, hS]) (φ t)
  intro i hi
  obtain ⟨r, hr, rfl⟩ := Finset.mem_image.mp hi
  exact hrel r t (h0 r hr)

theorem TopUnit.dot {A : Mat F n d} {k : ℕ} (hT : TopUnit k A) (r : Fin n) (hr : r.val < k)
    (hrd : r.val < d) (t : Fin d → F) : ∑ c, A.get r c * t c = t ⟨r.val, hrd⟩ := by
  rw [← sum_delta r.val hrd t]
  exact Finset.sum_congr rfl fun c _ => by rw [hT r c hr]

section
-- `TopUnit.mono` carries a `DecidableEq F` instance that it does not use
variable {F : Type} [Field F] [DecidableEq F] {n d : ℕ}
set_option linter.unusedSectionVars false in
theorem TopUnit.mono {A : Mat F n d} {k k' : ℕ} (hT : TopUnit k A) (h : k' ≤ k) : TopUnit k' A :=
  fun r c hr => hT r c (lt_of_lt_of_le hr h)
end

theorem rowsMDS_rowSwap {A : Mat F n d} (h : RowsMDS A) (a b : Fin n) :
    RowsMDS (rowSwap A a b) := by
  refine h.transfer (swapIdx a b) (Function.LeftInverse.injective (swapIdx_swapIdx a b)) id
    (fun t ht => ht) fun r t h0 => ?_
  simpa only [rowSwap, Mat.get_ofFn, id] using h0

theorem rowsMDS_colScale {A : Mat F n d} (h : RowsMDS A) (c : Fin d) (s : F) (hs : s ≠ 0) :
    RowsMDS (colScale A c s) := by
  refine h.transfer id Function.injective_id (fun t j => if j = c then s * t j else t j) ?_ ?_
  · intro t ht
    funext j
    have := congrFun ht j
    simp only [Pi.zero_apply] at this
    split_ifs at this with hj
    · exact (mul_eq_zero.mp this).resolve_left hs
    · exact this
  · intro r t h0
    refine Eq.trans (Finset.sum_congr rfl fun j _ => ?_) h0
    simp only [colScale, Mat.get_ofFn, id]
    split_ifs <;> ring

/-- `colElim A i coef = A * E` with `E = I + e_i·cᵀ`, `c` being `coef` with entry `i` set to `0`;
`φ t = E t`, and `L`, `R` bring `(A * E) r ⬝ t` and `A r ⬝ φ t` to the same form. -/
theorem rowsMDS_colElim {A : Mat F n d} (h : RowsMDS A) (i : Fin d) (coef : Fin d → F) :
    RowsMDS (colElim A i coef) := by
  refine h.transfer id Function.injective_id
    (fun t j => if j = i then t i + ∑ k, (if k = i then 0 else coef k * t k) else t j) ?_ ?_
  · intro t ht
    have h1 : ∀ j, j ≠ i → t j = 0 := by
      intro j hj
      have := congrFun ht j
      simpa [hj] using this
    have h2 : ∑ k, (if k = i then 0 else coef k * t k) = 0 := by
      apply Finset.sum_eq_zero
      intro k _
      split_ifs with hk
      · rfl
      · rw [h1 k hk, mul_zero]
    funext j
    by_cases hj : j = i
    · have := congrFun ht i
      simp only [if_true, h2, add_zero, Pi.zero_apply] at this
      rw [hj]; exact this
    · exact h1 j hj
  · intro r t h0
    refine Eq.trans ?_ h0
    simp only [id]
    generalize hE : ∑ k, (if k = i then 0 else coef k * t k) = E
    have L : ∑ j, (colElim A i coef).get r j * t j
        = ∑ j, A.get r j * t j + A.get r i * E := by
      rw [← hE, Finset.mul_sum, ← Finset.sum_add_distrib]
      refine Finset.sum_congr rfl fun j _ => ?_
      simp only [colElim, Mat.get_ofFn]
      split_ifs with hj <;> ring
    have R : ∑ j, A.get r j * (if j = i then t i + E else t j)
        = ∑ j, A.get r j * t j + A.get r i * E := by
      have : ∀ j, A.get r j * (if j = i then t i + E else t j)
          = A.get r j * t j + (if j = i then A.get r i * E else 0) := by
        intro j
        split_ifs with hj
        · subst hj; ring
        · ring
      simp only [this, Finset.sum_add_distrib, Finset.sum_ite_eq', Finset.mem_univ, if_true]
    rw [L, R]

theorem topUnit_rowSwap {A : Mat F n d} {k : ℕ} (hT : TopUnit k A) (a b : Fin n)
    (ha : k ≤ a.val) (hb : k ≤ b.val) : TopUnit k (rowSwap A a b) := by
  intro r c hr
  have h1 : r ≠ a := fun e => by subst e; omega
  have h2 : r ≠ b := fun e => by subst e; omega
  simp only [rowSwap, Mat.get_ofFn, swapIdx_of_ne h1 h2]
  exact hT r c hr

theorem topUnit_colScale {A : Mat F n d} {k : ℕ} (hT : TopUnit k A) (c : Fin d) (s : F)
    (hc : k ≤ c.val) : TopUnit k (colScale A c s) := by
  intro r j hr
  simp only [colScale, Mat.get_ofFn]
  by_cases hj : j = c
  · subst hj
    rw [if_pos rfl, hT r j hr]
    have : r.val ≠ j.val := by omega
    simp [this]
  · rw [if_neg hj]
    exact hT r j hr

theorem rowsMDS_no_zero_column {A : Mat F n d} (hM : RowsMDS A) (hdn : d ≤ n) (c : Fin d) :
    ∃ r, A.get r c ≠ 0 := by
  by_contra hcon
  push Not at hcon
  obtain ⟨S, _, hS⟩ := Finset.exists_subset_card_eq (s := (univ : Finset (Fin n))) (n := d)
    (by simpa using hdn)
  have := hM S hS (fun j => if j = c then 1 else 0) (by
    intro i _
    rw [Finset.sum_eq_single c]
    · simp [hcon i]
    · intro b _ hb; simp [hb]
    · simp)
  have := congrFun this c
  simp at this

theorem rowsMDS_mds {p : ℕ} {G : Mat F (d + p) d} (hM : RowsMDS G) (hT : TopUnit d G) :
    MDS (fun r c => (parityPart p rfl G).get r c) := by
  intro S hS t h0
  let e : Fin d ⊕ Fin p → Fin (d + p) := Sum.elim (Fin.castAdd p) (Fin.natAdd d)
  have he : Function.Injective e := by
    rintro (a | a) (b | b) hab <;> simp only [e, Sum.elim_inl, Sum.elim_inr, Fin.ext_iff,
      Fin.val_castAdd, Fin.val_natAdd] at hab
    · exact congrArg _ (Fin.ext hab)
    · omega
    · omega
    · exact congrArg _ (Fin.ext (by omega))
  apply hM (S.image e) (by rw [card_image_of_injective _ he, hS]) t
  intro i hi
  obtain ⟨s, hs, rfl⟩ := mem_image.mp hi
  have := h0 s hs
  rcases s with c | r
  · simp only [cw_inl] at this
    simp only [e, Sum.elim_inl]
    rw [hT.dot _ (by simp) (by simp)]
    exact this
  · simp only [cw_inr, parityPart_get] at this
    exact this

/-- below the unit rows no entry vanishes: the parity part is MDS -/
theorem rowsMDS_entry_ne_zero {A : Mat F n d} (hM : RowsMDS A) (hT : TopUnit d A) (hdn : d ≤ n)
    (r : Fin n) (hr : d ≤ r.val) (c : Fin d) : A.get r c ≠ 0 := by
  obtain ⟨p, rfl⟩ := Nat.exists_eq_add_of_le hdn
  have h := MDS_entry_ne_zero (rowsMDS_mds hM hT) ⟨r.val - d, by omega⟩ c
  rwa [parityPart_get, (Fin.ext (Nat.add_sub_cancel' hr) :
    (⟨d + (r.val - d), by omega⟩ : Fin (d + p)) = r)] at h

end
end RSV.Jerasure

#print axioms RSV.Jerasure.RowsMDS.transfer
#print axioms RSV.Jerasure.rowsMDS_rowSwap
#print axioms RSV.Jerasure.rowsMDS_colScale
#print axioms RSV.Jerasure.rowsMDS_colElim
#print axioms RSV.Jerasure.rowsMDS_no_zero_column
#print axioms RSV.Jerasure.rowsMDS_entry_ne_zero
#print axioms RSV.Jerasure.rowsMDS_mds
