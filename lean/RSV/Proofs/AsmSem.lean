import RSV.Model.AsmCheck
import RSV.Gen.Tables
import RSV.Proofs.AsmSim
import RSV.Proofs.Kernels
/-!
The checker for the generated matrix kernels (600, and the 400 of the nopshufb set): environment contract and the meaning of its
symbolic values (instances of `SimG`).
-/
namespace RSV.Asm
open RSV.Model.Kernels RSV.Gen

/-- everything a call is about: the checked configuration, the arguments, the memory before the
call and the coefficient rows -/
structure Ctx where
  cfg : Cfg
  env : Env
  m0 : Region → Nat → Nat
  A : Nat → Nat → Nat

namespace Ctx
variable (c : Ctx)

def cnt : Nat := c.env.n / c.cfg.B

/-- the byte the kernel has to leave at position `p` of output `i` -/
def spec (i p : Nat) : Nat :=
  xorl ((if c.cfg.xor then [c.m0 (.out i) p] else []) ++
    (List.range c.cfg.I).map fun j => gmul (c.A i j) (c.m0 (.inp j) p))

def rows : Rows where
  reg := .out
  dom := fun _ => True
  wr := fun i => i < c.cfg.O
  lo := c.env.start
  B := c.cfg.B
  w := c.cfg.w
  okOff := fun _ => True
  spec := c.spec
  m0 := c.m0

theorem rows_cur (it : Nat) : c.rows.cur it = c.env.start + c.cfg.B * it := rfl

def lin (it s t k : Nat) : Nat := linVal c.env.start c.cfg.B it s t k

def inp (it j o k : Nat) : Nat := c.m0 (.inp j) (c.rows.cur it + o + k)

end Ctx

/-- the environment contract (calling convention of the generated kernels) -/
structure Contract (c : Ctx) : Prop where
  inputs_eq : c.env.inputs = c.cfg.I
  outputs_eq : c.env.outputs = c.cfg.O
  /-- `start + n` is a valid slice index, in particular below 2^64 -/
  no_wrap : c.env.start + c.env.n < M64
  in_size : ∀ j, j < c.cfg.I → c.env.start + c.env.n ≤ c.env.size (.inp j)
  out_size : ∀ i, i < c.cfg.O → c.env.start + c.env.n ≤ c.env.size (.out i)
  mat_size : c.cfg.matSize ≤ c.env.size .matrix
  bytes : ∀ r p, c.m0 r p < 256
  coeff : ∀ i j, c.A i j < 256
  /-- `genCodeGenMatrix` with vector length 32: per slot the low-nibble table twice, then the
  high-nibble table twice -/
  mat_avx2 : c.cfg.fam = .avx2 → ∀ i j, i < c.cfg.O → j < c.cfg.I → ∀ x, x < 16 →
    c.m0 .matrix (avx2Slot c.cfg.O i j + x) = gmul (c.A i j) x ∧
    c.m0 .matrix (avx2Slot c.cfg.O i j + 16 + x) = gmul (c.A i j) x ∧
    c.m0 .matrix (avx2Slot c.cfg.O i j + 32 + x) = gmul (c.A i j) (x * 16) ∧
    c.m0 .matrix (avx2Slot c.cfg.O i j + 48 + x) = gmul (c.A i j) (x * 16)
  /-- `genGFNIMatrix`: per slot the 8 bytes (little endian) of `gf2p811dMulMatrices[coefficient]` -/
  mat_gfni : c.cfg.fam ≠ .avx2 → ∀ i j, i < c.cfg.O → j < c.cfg.I → ∀ t, t < 8 →
    c.m0 .matrix (gfniSlot c.cfg.O i j * 8 + t) = byteAt (wordAt gf2p811dMulMatrices (c.A i j)) t

def evalAtom (c : Ctx) (it k : Nat) : Atom → Nat
  | .inp j o => c.inp it j o k
  | .old i o => c.m0 (.out i) (c.rows.cur it + o + k)
  | .shuf off hi j o =>
    c.m0 .matrix (off + (16 * (k / 16) + (if hi then c.inp it j o k >>> 4 else c.inp it j o k &&& 15)))
  | .aff off j o => affineB (fun t => c.m0 .matrix (off + t)) (c.inp it j o k)

def GRefines (c : Ctx) (it : Nat) : GSym → Val → Prop
  | .unk, _ => True
  | .nRaw, v => v = .num c.env.n
  | .cnt, v => v = .num c.cnt
  | .ctr d, v => v = .num (c.cnt - it - d)
  | .lin b s t k, v => v = linV b (c.lin it s t k)

def VRefines (c : Ctx) (it : Nat) : VSym → (Nat → Nat) → Prop
  | .unk, _ => True
  | .byte0 b, reg => reg 0 = b
  | .mask w, reg => Desc w (fun _ => 15) reg
  | .tab off, reg => Desc 32 (fun m => c.m0 .matrix (off + m)) reg
  | .mat w off, reg => Desc w (fun k => c.m0 .matrix (off + k % 8)) reg
  | .xs w l, reg => Desc w (fun k => xorl (l.map (evalAtom c it k))) reg
  | .srl w j o, reg => DescHi w (c.inp it j o) reg
  | .lo w j o, reg => Desc w (fun k => c.inp it j o k &&& 15) reg
  | .hi w j o, reg => Desc w (fun k => c.inp it j o k >>> 4) reg

abbrev Sim (c : Ctx) (it : Nat) (σ : SymState) (s : State) : Prop :=
  SimG (GRefines c it) (VRefines c it) c.rows it σ.gp σ.vec σ.stores s

end RSV.Asm
