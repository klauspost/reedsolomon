import RSV.Model.Matrix
/-!
# L1: the generator-matrix builders of `reedsolomon.go` (core Lean only)

Generic over the carrier `F`; `x : Nat → F` is the embedding of shard indices into the
field (`byte(r)` in the Go code).  A generator is a `total × d` matrix whose top `d × d`
block is the identity.
-/
namespace RSV.Model
section
variable {F : Type} [Zero F] [One F] [Add F] [Sub F] [Mul F] [Inv F] [DecidableEq F]

/-- `a^n` by repeated multiplication (`galExp`) -/
def npow (a : F) : Nat → F
  | 0 => 1
  | n+1 => npow a n * a

/-- `vandermonde(rows, cols)`: entry `(r,c) = byte(r)^c` -/
def vandermonde (x : Nat → F) (rows cols : Nat) : Mat F rows cols :=
  Mat.ofFn fun r c => npow (x r.val) c.val

/-- top `d` rows of a `total × d` matrix (`SubMatrix(0,0,d,d)`) -/
def topSquare {total d : Nat} (h : d ≤ total) (A : Mat F total d) : Mat F d d :=
  Mat.ofFn fun i j => A.get ⟨i.val, Nat.lt_of_lt_of_le i.isLt h⟩ j

/-- `buildMatrix`: Vandermonde times the inverse of its top square; `none` = singular -/
def buildMatrix (x : Nat → F) (d total : Nat) (h : d ≤ total) : Option (Mat F total d) :=
  let vm := vandermonde x total d
  (invert (topSquare h vm)).map fun inv => mulMat vm inv

/-- `buildMatrixCauchy`: identity on top, `1/(x_r - x_c)` below (`invTable[r ^ c]`) -/
def buildMatrixCauchy (x : Nat → F) (d total : Nat) : Mat F total d :=
  Mat.ofFn fun r c =>
    if r.val < d then (if r.val = c.val then 1 else 0) else (x r.val - x c.val)⁻¹

/-- `buildMatrixPAR1`: identity on top, `(c+1)^(r-d)` below -/
def buildMatrixPAR1 (x : Nat → F) (d total : Nat) : Mat F total d :=
  Mat.ofFn fun r c =>
    if r.val < d then (if r.val = c.val then 1 else 0) else npow (x (c.val + 1)) (r.val - d)

/-- `buildXorMatrix`: identity on top, all ones below -/
def buildXorMatrix (d total : Nat) : Mat F total d :=
  Mat.ofFn fun r c => if r.val < d then (if r.val = c.val then 1 else 0) else 1

/-! ### `buildMatrixJerasure` — column operations on the Vandermonde matrix -/

/-- multiply column `c` by `s` -/
def colScale {n m : Nat} (A : Mat F n m) (c : Fin m) (s : F) : Mat F n m :=
  Mat.ofFn fun i j => if j = c then A.get i j * s else A.get i j

/-- multiply column `c` by `s` in rows `≥ lo` only -/
def colScaleFrom {n m : Nat} (A : Mat F n m) (lo : Nat) (c : Fin m) (s : F) : Mat F n m :=
  Mat.ofFn fun i j => if j = c ∧ lo ≤ i.val then A.get i j * s else A.get i j

/-- add `coef j` times column `i` to every column `j ≠ i` (`coef` is read from row `i`
before the update, as the Go loop does: `tmp := vm[i][j]`) -/
def colElim {n m : Nat} (A : Mat F n m) (i : Fin m) (coef : Fin m → F) : Mat F n m :=
  Mat.ofFn fun r j => if j = i then A.get r j else A.get r j + coef j * A.get r i

def rowScaleRow {n m : Nat} (A : Mat F n m) (i : Fin n) (s : F) : Mat F n m :=
  Mat.ofFn fun r j => if r = i then A.get r j * s else A.get r j

/-- one iteration `i` of the main loop of `buildMatrixJerasure` -/
def jerasureStep {total d : Nat} (h : d ≤ total) (i : Fin d) (vm : Mat F total d) : Mat F total d :=
  let iRow : Fin total := ⟨i.val, Nat.lt_of_lt_of_le i.isLt h⟩
  -- find the first row r ≥ i with vm[r][i] ≠ 0 and swap it with row i
  let vm1 := match findFirst (fun r : Fin total => decide (i.val ≤ r.val) && decide (vm.get r i ≠ 0)) with
    | some r => rowSwap vm iRow r
    | none => vm       -- the Go loop would index out of range; excluded by `buildMatrixJerasure_pivot`
  let piv := vm1.get iRow i
  let vm2 := if piv ≠ 1 then colScale vm1 i piv⁻¹ else vm1
  let coef : Fin d → F := fun j => vm2.get iRow j
  colElim vm2 i coef

def jerasureLoop {total d : Nat} (h : d ≤ total) (vm : Mat F total d) : (k : Nat) → k ≤ d → Mat F total d
  | 0, _ => vm
  | k+1, hk => jerasureStep h ⟨k, hk⟩ (jerasureLoop h vm k (Nat.le_of_succ_le hk))

/-- `buildMatrixJerasure` for `1 ≤ d < total` -/
def buildMatrixJerasure (x : Nat → F) (d total : Nat) (h : d < total) (hd : 0 < d) : Mat F total d :=
  let vm0 := vandermonde x total d
  -- first row 1 0 … 0, last row 0 … 0 1
  let vm1 : Mat F total d := Mat.ofFn fun r c =>
    if r.val = 0 then (if c.val = 0 then 1 else 0)
    else if r.val = total - 1 then (if c.val = d - 1 then 1 else 0)
    else vm0.get r c
  let vm2 := jerasureLoop (Nat.le_of_lt h) vm1 d (Nat.le_refl d)
  -- make row d all ones: divide column j (rows ≥ d) by vm[d][j]
  let rowD : Fin total := ⟨d, h⟩
  let vm3 : Mat F total d := Mat.ofFn fun i j =>
    if d ≤ i.val then vm2.get i j * (vm2.get rowD j)⁻¹ else vm2.get i j
  -- make column 0 of rows > d all ones: divide each such row by its first entry
  let c0 : Fin d := ⟨0, hd⟩
  Mat.ofFn fun i j => if d < i.val then vm3.get i j * (vm3.get i c0)⁻¹ else vm3.get i j

end
end RSV.Model
